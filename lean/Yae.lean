import Yae.SExp
import Yae.Model.Ty
import Yae.Model.Unify
import Yae.Model.Token
import Yae.Model.Ast
import Yae.Model.Num
import Yae.Model.Val
import Yae.Model.Builtins
import Yae.Model.Check
import Yae.Model.Eval
import Yae.Model.Vm
import Yae.Model.Lexer
import Yae.Proofs.ExceptLemmas
import Yae.Proofs.EvalMLemmas
import Yae.Proofs.NumLemmas
import Yae.Proofs.TyEq
import Yae.Proofs.ParseGrammar
