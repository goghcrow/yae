/-
  More fuel changes no outcome other than `.fuel`.  `MonoAt env f` says it of one more unit of fuel,
  for the seven functions at `f` and every outcome, errors included (that a syntax error persists
  is what "enough fuel decides the outcome" rests on); `mono_all` is the induction on the fuel.
-/
import Yae.Proofs.Parse
namespace Yae

structure MonoAt (env : PEnv) (f : Nat) : Prop where
  exprM : ∀ rbp i, pExpr env f rbp i ≠ .error .fuel → pExpr env (f + 1) rbp i = pExpr env f rbp i
  infixM : ∀ l rbp i, pInfix env f l rbp i ≠ .error .fuel →
    pInfix env (f + 1) l rbp i = pInfix env f l rbp i
  callM : ∀ c t i, pCall env f c t i ≠ .error .fuel → pCall env (f + 1) c t i = pCall env f c t i
  argsM : ∀ acc i, pArgs env f acc i ≠ .error .fuel → pArgs env (f + 1) acc i = pArgs env f acc i
  listM : ∀ acc i, pList env f acc i ≠ .error .fuel → pList env (f + 1) acc i = pList env f acc i
  mapM : ∀ acc i, pMap env f acc i ≠ .error .fuel → pMap env (f + 1) acc i = pMap env f acc i
  objM : ∀ acc i, pObj env f acc i ≠ .error .fuel → pObj env (f + 1) acc i = pObj env f acc i

theorem ok_of_mono {α : Type} {p p' : PRes α} {r : α × Nat} (h : p ≠ .error .fuel → p' = p)
    (hp : p = .ok r) : p' = .ok r := by
  subst hp; exact h nofun
theorem error_of_mono {α : Type} {p p' : PRes α} {e : ParseErr} (h : p ≠ .error .fuel → p' = p)
    (hp : p = .error e) (he : e ≠ .fuel) : p' = .error e := by
  subst hp; exact h fun hh => he (Except.error.inj hh)

theorem MonoAt.infixErr {env : PEnv} {f : Nat} (ih : MonoAt env f) {l rbp i e}
    (h : pInfix env f l rbp i = .error e) (he : e ≠ .fuel) :
    pInfix env (f + 1) l rbp i = .error e :=
  error_of_mono (ih.infixM _ _ _) h he
theorem MonoAt.callErr {env : PEnv} {f : Nat} (ih : MonoAt env f) {c t i e}
    (h : pCall env f c t i = .error e) (he : e ≠ .fuel) : pCall env (f + 1) c t i = .error e :=
  error_of_mono (ih.callM _ _ _) h he

/- The definition is split along the result at fuel `f`; at `f + 1` the calls on the path return
the same by the induction hypothesis (not `.fuel`: the path would have ended there). -/

theorem mono_nud {env : PEnv} {f : Nat} (ih : MonoAt env f) (t : Token) (i : Nat) (bp : BP)
    (nud : Nud) (hr : nudRes env f t i bp nud ≠ .error .fuel) :
    nudRes env (f + 1) t i bp nud = nudRes env f t i bp nud := by
  generalize h : nudRes env f t i bp nud = r at hr ⊢
  unfold nudRes at h
  cases nud <;> simp only [] at h
  all_goals (repeat' split at h)
  all_goals
    subst h
    simp only [ne_eq, Except.error.injEq] at hr
    simp only [↓reduceIte, Bool.false_eq_true, nudRes, ih.exprM, ih.objM, ne_eq,
      reduceCtorEq, Except.error.injEq, not_false_eq_true, *]
  -- the goals that remain are the paths through `rest` (the first round of `pList` / `pMap` in the `nud` of `[`)
  all_goals
    have ihL := fun acc i r => ok_of_mono (r := r) (ih.listM acc i)
    have ihL' := fun acc i e => error_of_mono (e := e) (ih.listM acc i)
    have ihM := fun acc i r => ok_of_mono (r := r) (ih.mapM acc i)
    have ihM' := fun acc i e => error_of_mono (e := e) (ih.mapM acc i)
    grind

theorem mono_led {env : PEnv} {f : Nat} (ih : MonoAt env f) (l : Expr) (t : Token) (i : Nat)
    (bp : BP) (led : Led) (hr : ledRes env f l t i bp led ≠ .error .fuel) :
    ledRes env (f + 1) l t i bp led = ledRes env f l t i bp led := by
  generalize h : ledRes env f l t i bp led = r at hr ⊢
  unfold ledRes at h
  cases led <;> simp only [] at h
  all_goals (repeat' split at h)
  all_goals
    subst h
    simp only [ne_eq, Except.error.injEq] at hr
    simp only [↓reduceIte, Bool.false_eq_true, ledRes, ih.exprM, ih.callM, ne_eq, reduceCtorEq,
      Except.error.injEq, not_false_eq_true, *]

theorem mono_succ {env : PEnv} {f : Nat} (ih : MonoAt env f) : MonoAt env (f + 1) := by
  refine ⟨fun rbp i hr => ?exprM, fun l rbp i hr => ?infixM, fun c t i hr => ?callM,
    fun acc i hr => ?argsM, fun acc i hr => ?listM, fun acc i hr => ?mapM, fun acc i hr => ?objM⟩
  case callM =>
    rw [pCall_succ] at hr ⊢
    rw [pCall_succ env f]
    by_cases hk : ((env.peek i).kind == ")") = true
    · simp only [hk, ↓reduceIte]
    · simp only [hk, Bool.false_eq_true, ↓reduceIte] at hr ⊢
      rw [ih.argsM _ _ (fun h => hr (by rw [h]))]
  case' exprM =>
    generalize h : pExpr env (f + 1) rbp i = r at hr ⊢
    rw [pExpr_succ] at h
  case' infixM =>
    generalize h : pInfix env (f + 1) l rbp i = r at hr ⊢
    rw [pInfix_succ] at h
  case' argsM =>
    generalize h : pArgs env (f + 1) acc i = r at hr ⊢
    rw [pArgs_succ] at h
  case' listM =>
    generalize h : pList env (f + 1) acc i = r at hr ⊢
    rw [pList_succ] at h
  case' mapM =>
    generalize h : pMap env (f + 1) acc i = r at hr ⊢
    rw [pMap_succ] at h
  case' objM =>
    generalize h : pObj env (f + 1) acc i = r at hr ⊢
    rw [pObj_succ] at h
  all_goals
    repeat' split at h
    all_goals
      subst h
      simp only [ne_eq, Except.error.injEq] at hr
      simp only [↓reduceIte, Bool.false_eq_true, pExpr_succ env (f + 1), pInfix_succ env (f + 1),
        pArgs_succ env (f + 1), pList_succ env (f + 1), pMap_succ env (f + 1),
        pObj_succ env (f + 1), mono_nud ih, mono_led ih, ih.exprM, ih.infixM, ih.argsM, ih.listM,
        ih.mapM, ih.objM, ne_eq, reduceCtorEq, Except.error.injEq, not_false_eq_true, *]

theorem mono_all (env : PEnv) (f : Nat) : MonoAt env f := by
  induction f with
  | zero =>
    refine ⟨?_, ?_, ?_, ?_, ?_, ?_, ?_⟩ <;> intros <;>
      simp_all [pExpr, pInfix, pCall, pArgs, pList, pMap, pObj]
  | succ f ih => exact mono_succ ih

theorem mono_le {α : Type} {p : Nat → PRes α} (h : ∀ f, p f ≠ .error .fuel → p (f + 1) = p f)
    {f f' : Nat} (hf : f ≤ f') (hp : p f ≠ .error .fuel) : p f' = p f := by
  induction hf with
  | refl => rfl
  | step _ ih => rw [h _ (ih ▸ hp), ih]

theorem ok_mono_le {α : Type} {p : Nat → PRes α} (h : ∀ f, p f ≠ .error .fuel → p (f + 1) = p f)
    {f f' : Nat} {r : α × Nat} (hp : p f = .ok r) (hf : f ≤ f') : p f' = .ok r := by
  rw [mono_le h hf (hp ▸ nofun), hp]

theorem pExpr_mono_res {env : PEnv} {f f' : Nat} {rbp : BP} {i : Nat}
    (h : pExpr env f rbp i ≠ .error .fuel) (hf : f ≤ f') :
    pExpr env f' rbp i = pExpr env f rbp i :=
  mono_le (fun f => (mono_all env f).exprM rbp i) hf h

theorem pExpr_mono {env : PEnv} {f f' : Nat} {rbp : BP} {i : Nat} {r : Expr × Nat}
    (h : pExpr env f rbp i = .ok r) (hf : f ≤ f') : pExpr env f' rbp i = .ok r :=
  ok_mono_le (fun f => (mono_all env f).exprM rbp i) h hf

theorem pCall_mono {env : PEnv} {f f' : Nat} {c : Expr} {t : Token} {i : Nat} {r : Expr × Nat}
    (h : pCall env f c t i = .ok r) (hf : f ≤ f') : pCall env f' c t i = .ok r :=
  ok_mono_le (fun f => (mono_all env f).callM c t i) h hf

end Yae
