/-
  `Typed` (the overload rule the checker implements) against `Typed'` (the natural rule):
  * `Typed ⊆ Typed'` always, with the same type (`typed_imp_typed'`, from `TypedKind.Holds.natural`);
  * the two overload rules coincide (`firstInst_accepted`, `firstAccepted_inst`) when no argument type contains
    `⊥`/`⊤` (and no candidate parameter contains `⊤`): then every successful instantiation is exact
    (`pmatch_exact`).
-/
import Yae.Proofs.TypingOpt
import Yae.Proofs.TypedInd
import Yae.Proofs.TyEq
namespace Yae

mutual
def noBT : Ty → Bool
  | .top => false
  | .bot => false
  | .tuple ts => noBTList ts
  | .list el => noBT el
  | .map k v => noBT k && noBT v
  | .obj fs => noBTFields fs
  | .fn _ ps r => noBTList ps && noBT r
  | .maybe el => noBT el
  | _ => true
def noBTList : TyList → Bool
  | .nil => true
  | .cons t ts => noBT t && noBTList ts
def noBTFields : FieldList → Bool
  | .nil => true
  | .cons _ t fs => noBT t && noBTFields fs
end

theorem noBTFields_find : ∀ (fs : FieldList) (n : String) (t : Ty),
    noBTFields fs = true → fs.find? n = some t → noBT t = true
  | .nil, _, _, _, h => by simp [FieldList.find?] at h
  | .cons m u fs, n, t, hs, h => by
    simp only [noBTFields, Bool.and_eq_true] at hs
    simp only [FieldList.find?] at h
    split at h
    · cases h; exact hs.1
    · exact noBTFields_find fs n t hs.2 h

mutual
theorem pmatch_exact : ∀ (p g : Ty) (m : Subst) (t : Ty) (m' : Subst), noTop p = true →
    noBT g = true → g.wf = true → pmatch p g m = some (t, m') → tyEq t g = true
  | .var n, g, m, t, m', _, _, hw, h => by
    simp only [pmatch] at h
    split at h
    · split at h
      · cases h; exact tyEq_refl' hw
      · cases h
    · cases h; exact tyEq_refl' hw
  | .top, _, _, _, _, hp, _, _, _ => by simp [noTop] at hp
  | .bot, g, _, _, _, _, hg, _, h | .num, g, _, _, _, _, hg, _, h | .str, g, _, _, _, _, hg, _, h
  | .bool, g, _, _, _, _, hg, _, h | .time, g, _, _, _, _, hg, _, h
  | .fn _ _ _, g, _, _, _, _, hg, _, h => by
    cases g <;> first | contradiction | (cases h; rfl)
  | .list a, g, m, t, m', hp, hg, hw, h | .maybe a, g, m, t, m', hp, hg, hw, h => by
    cases g <;> first | contradiction | skip
    next b =>
    simp only [pmatch] at h
    split at h
    · next t1 m1 hr => cases h; exact pmatch_exact a b m t1 m' hp hg hw hr
    · cases h
  | .map k v, g, m, t, m', hp, hg, hw, h => by
    cases g <;> first | contradiction | skip
    next k' v' =>
    simp only [noTop, noBT, Ty.wf, Bool.and_eq_true] at hp hg hw
    simp only [pmatch] at h
    split at h
    · next k1 m1 hr =>
      split at h
      · next v1 m2 hr2 =>
        cases h
        simp only [tyEq, Bool.and_eq_true]
        exact ⟨pmatch_exact k k' m k1 m1 hp.1 hg.1 hw.1.2 hr,
          pmatch_exact v v' m1 v1 m' hp.2 hg.2 hw.2 hr2⟩
      · cases h
    · cases h
  | .tuple xs, g, m, t, m', hp, hg, hw, h => by
    cases g <;> first | contradiction | skip
    next ys =>
    simp only [pmatch] at h
    split at h
    · cases h
    · next hl =>
      split at h
      · next ts m1 hr =>
        cases h
        exact pmatchList_exact xs ys m ts m' (by simpa using hl) hp hg hw hr
      · cases h
  | .obj fs, g, m, t, m', hp, hg, hw, h => by
    cases g <;> first | contradiction | skip
    next gs =>
    simp only [pmatch] at h
    split at h
    · cases h
    · next hl =>
      split at h
      · next hs m1 hr =>
        cases h
        have := pmatchFields_exact fs gs m hs m' hp hg hw hr
        simp only [tyEq, Bool.and_eq_true, beq_iff_eq]
        exact ⟨by rw [this.2]; simpa using hl, this.1⟩
      · cases h
termination_by structural p => p
theorem pmatchList_exact : ∀ (xs ys : TyList) (m : Subst) (ts : TyList) (m' : Subst),
    xs.length = ys.length → noTopList xs = true → noBTList ys = true → wfList ys = true →
    pmatchList xs ys m = some (ts, m') → tyEqList ts ys = true
  | .nil, .nil, _, _, _, _, _, _, _, h => by
    simp only [pmatchList, Option.some.injEq, Prod.mk.injEq] at h
    rw [← h.1]; rfl
  | .nil, .cons _ _, _, _, _, hl, _, _, _, _ => by simp [TyList.length] at hl
  | .cons _ _, .nil, _, _, _, hl, _, _, _, _ => by simp [TyList.length] at hl
  | .cons x xs, .cons y ys, m, ts, m', hl, hp, hg, hw, h => by
    simp only [TyList.length, Nat.add_right_cancel_iff] at hl
    simp only [noTopList, noBTList, wfList, Bool.and_eq_true] at hp hg hw
    simp only [pmatchList] at h
    split at h
    · next t1 m1 hr =>
      split at h
      · next ts1 m2 hr2 =>
        cases h
        simp only [tyEqList, Bool.and_eq_true]
        exact ⟨pmatch_exact x y m t1 m1 hp.1 hg.1 hw.1 hr,
          pmatchList_exact xs ys m1 ts1 m' hl hp.2 hg.2 hw.2 hr2⟩
      · cases h
    · cases h
termination_by structural xs => xs
theorem pmatchFields_exact : ∀ (fs gs : FieldList) (m : Subst) (hs : FieldList) (m' : Subst),
    noTopFields fs = true → noBTFields gs = true → wfFields gs = true →
    pmatchFields fs gs m = some (hs, m') → tyEqFields hs gs = true ∧ hs.length = fs.length
  | .nil, _, _, _, _, _, _, _, h => by
    simp only [pmatchFields, Option.some.injEq, Prod.mk.injEq] at h
    rw [← h.1]; exact ⟨rfl, rfl⟩
  | .cons n t rest, gs, m, hs, m', hp, hg, hw, h => by
    simp only [noTopFields, Bool.and_eq_true] at hp
    simp only [pmatchFields] at h
    split at h
    · cases h
    · next u hf =>
      split at h
      · next t1 m1 hr =>
        split at h
        · next hs1 m2 hr2 =>
          cases h
          have ih := pmatchFields_exact rest gs m1 hs1 m' hp.2 hg hw hr2
          have := pmatch_exact t u m t1 m1 hp.1 (noBTFields_find _ _ _ hg hf)
            (wfFields_find _ _ _ hw hf) hr
          simp only [tyEqFields, hf, this, ih.1, Bool.and_self, FieldList.length, ih.2, and_self]
        · cases h
      · cases h
termination_by structural fs => fs
end

theorem instantiate_exact {ps : TyList} {ret : Ty} {As qs : TyList} {U : Ty}
    (hp : noTopList ps = true) (hA : noBTList As = true) (hw : wfList As = true)
    (h : instantiate ps ret As = some (qs, U)) : tyEqList qs As = true := by
  obtain ⟨hl, σ, hm, _⟩ := instantiate_some h
  exact pmatchList_exact ps As [] _ σ hl hp hA hw hm

theorem firstInst_accepted : ∀ {cands : List FunDecl} {As ps' T}, FirstInst cands As ps' T →
    tyEqList ps' As = true → FirstAccepted cands As ps' T
  | _ :: _, _, _, _, .here hd hi, he => .here hd hi he
  | _ :: _, _, _, _, .later hd hi h, he =>
    .later hd (fun qs U hq => by rw [hi] at hq; cases hq) (firstInst_accepted h he)

def CandsNoTop (cands : List FunDecl) : Prop :=
  ∀ d ∈ cands, ∀ name ps ret, d.ty = .fn name ps ret → noTopList ps = true

/-- An instantiation of an earlier candidate is exact (`instantiate_exact`), so a candidate the natural rule passes
over cannot be instantiated at all. -/
theorem firstAccepted_inst {As : TyList} (hA : noBTList As = true) (hw : wfList As = true) :
    ∀ {cands : List FunDecl} {ps' T}, CandsNoTop cands → FirstAccepted cands As ps' T →
      FirstInst cands As ps' T ∧ tyEqList ps' As = true
  | _ :: _, _, _, _, .here hd hi he => ⟨.here hd hi, he⟩
  | d :: rest, _, _, hc, .later hd hno h => by
    have ih := firstAccepted_inst hA hw (fun d' hd' => hc d' (List.mem_cons_of_mem _ hd')) h
    refine ⟨.later hd (Option.eq_none_iff_forall_ne_some.2 fun ⟨qs, U⟩ hi => ?_) ih.1, ih.2⟩
    have h2 := instantiate_exact (hc d (List.mem_cons_self ..) _ _ _ hd) hA hw hi
    rw [hno qs U hi] at h2; cases h2

def TypedKind.Holds' (Γ : TEnv) : TypedKind → Prop
  | .expr e T => Typed' Γ e T
  | .elems es T => TypedElems' Γ es T
  | .pairs ps K V => TypedPairs' Γ ps K V
  | .fields fs Fs => TypedFields' Γ fs Fs
  | .args es Ts => TypedArgs' Γ es Ts

theorem TypedKind.Holds.natural {Γ : TEnv} {K : TypedKind} (h : K.Holds Γ) : K.Holds' Γ := by
  induction h using TypedKind.Holds.induct with simp only [TypedKind.Holds'] at *
  | str | num | time | bool | listNil | mapNil | enil | pnil | fnil | anil => constructor
  | listCons _ _ a b => exact .listCons a b
  | mapCons _ hp _ _ a b c => exact .mapCons a hp b c
  | obj _ hn a => exact .obj a hn
  | ident a b => exact .ident a b
  | subList _ _ c a b => exact .subList a b c
  | subMap _ _ c a b => exact .subMap a b c
  | member _ b a => exact .member a b
  | callMono _ hm hty hl he a => exact .callMono a hm hty hl he
  | callPoly _ hm hfi he a => exact .callPoly a hm (firstInst_accepted hfi he)
  | callFn hni _ _ hi he a hc => exact .callFn hni a hc hi he
  | econs _ b _ a c => exact .cons a b c
  | pcons _ b _ d _ a c e => exact .cons a b c d e
  | fcons _ _ a b | acons _ _ a b => exact .cons a b

theorem typed_imp_typed' {Γ : TEnv} : ∀ (e : Expr) (T : Ty), Typed Γ e T → Typed' Γ e T :=
  fun _ _ h => TypedKind.Holds.natural (K := .expr _ _) h
theorem typedElems_imp {Γ : TEnv} : ∀ (es : ExprList) (T : Ty), TypedElems Γ es T →
    TypedElems' Γ es T :=
  fun _ _ h => TypedKind.Holds.natural (K := .elems _ _) h
theorem typedPairs_imp {Γ : TEnv} : ∀ (ps : PairList) (K V : Ty), TypedPairs Γ ps K V →
    TypedPairs' Γ ps K V :=
  fun _ _ _ h => TypedKind.Holds.natural (K := .pairs _ _ _) h
theorem typedFields_imp {Γ : TEnv} : ∀ (fs : FieldEList) (Fs : FieldList), TypedFields Γ fs Fs →
    TypedFields' Γ fs Fs :=
  fun _ _ h => TypedKind.Holds.natural (K := .fields _ _) h
theorem typedArgs_imp {Γ : TEnv} : ∀ (es : ExprList) (Ts : TyList), TypedArgs Γ es Ts →
    TypedArgs' Γ es Ts :=
  fun _ _ h => TypedKind.Holds.natural (K := .args _ _) h

end Yae
