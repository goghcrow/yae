/-
  C19, the evaluation and the record.

  The evaluation: the vocabulary in which `Props/C19.lean` speaks of `eval` with recording on (`stripDbg`, `recCol`,
  `body`).

  The record: `Yae.Debug.rec` appends a value under the first free column at or after its own (`recText_spec`, by
  the pigeonhole `not_all_taken`).  Hence the columns of the record of a run are pairwise distinct, and when the
  events' own columns are pairwise distinct the record is exactly the events' entries.
-/
import Yae.Proofs.TypingEval
import Yae.Model.Debug
namespace Yae.DebugEval
open Yae EvalM

def isDbg : Event → Bool
  | .dbg _ _ => true
  | _ => false

def stripDbg (l : List Event) : List Event := l.filter fun e => !isDbg e

@[simp] theorem stripDbg_nil : stripDbg [] = [] := rfl
@[simp] theorem stripDbg_dbg (v : Val) (c : Int) (l : List Event) :
    stripDbg (.dbg v c :: l) = stripDbg l := rfl
@[simp] theorem stripDbg_call (n : String) (a : List String) (l : List Event) :
    stripDbg (.call n a :: l) = .call n a :: stripDbg l := rfl
@[simp] theorem stripDbg_print (t : String) (l : List Event) :
    stripDbg (.print t :: l) = .print t :: stripDbg l := rfl
theorem stripDbg_append (a b : List Event) : stripDbg (a ++ b) = stripDbg a ++ stripDbg b := by
  simp [stripDbg]

theorem stripDbg_idem (l : List Event) : stripDbg (stripDbg l) = stripDbg l := by
  simp [stripDbg]

/-- the column field of a node of one of the four recorded kinds.  The node is recorded one to the right of it:
`recDbg` emits `.dbg v (col + 1)`. -/
def recCol : Expr → Option Int
  | .ident p _ => some p.col
  | .call _ col _ _ _ _ _ => some col
  | .subscript _ col _ _ _ => some col
  | .member _ col _ _ _ _ _ => some col
  | _ => none

/-- What a recorded node computes before it is recorded: the four arms of `eval` (Model/Eval.lean) without their
final `recDbg`, the subscript arm written with `subscriptStep` of `Proofs/TypingEval.lean`;
that `eval` is `body` followed by the recording is `Yae.C19.recorded_node`. -/
def body (f : Nat) (dbg : Bool) (ρ : REnv) : Expr → EvalM Val
  | .ident _ name =>
    match ρ.lookupVar name with
    | some v => pure v
    | none => fail (.stuck "missing-var")
  | .call _ _ callee args _ resolved index =>
    if resolved == "" then do
      let fv ← eval f dbg ρ callee
      match fv with
      | .fn (.fn _ _ _) ref isLazy => callFun f dbg ρ ref isLazy args
      | _ => fail (.stuck "cast:fun")
    else
      match resolveStatic ρ.funs resolved index with
      | some d => callFun f dbg ρ d.ref d.isLazy args
      | none => fail (.stuck "fun-not-defined")
  | .subscript _ _ var idx _ => fun log =>
    seq (eval f dbg ρ var log) fun x l1 => subscriptStep f dbg ρ idx x l1
  | .member _ _ obj field _ _ _ => do
    let o ← eval f dbg ρ obj
    match o with
    | .obj ty vs =>
      match objGet? ty vs field with
      | some v => pure v
      | none => fail (.stuck "member-missing")
    | _ => fail (.stuck "cast:obj")
  | _ => fail (.stuck "not-recorded")

theorem seq_dbg_ok {r : Except Fail Val × List Event} {c : Int} {v : Val} {l : List Event}
    (h : (seq r fun v l => (.ok v, Event.dbg v c :: l)) = (.ok v, l)) :
    ∃ l', r = (.ok v, l') ∧ l = .dbg v c :: l' := by
  rcases r with ⟨r, l'⟩
  cases r with
  | error x => simp [seq] at h
  | ok w =>
    simp only [seq_ok, Prod.mk.injEq, Except.ok.injEq] at h
    obtain ⟨rfl, rfl⟩ := h
    exact ⟨l', rfl, rfl⟩

theorem seq_dbg_error {r : Except Fail Val × List Event} {c : Int} {x : Fail} {l : List Event}
    (h : (seq r fun v l => (.ok v, Event.dbg v c :: l)) = (.error x, l)) : r = (.error x, l) := by
  rcases r with ⟨r, l'⟩
  cases r with
  | error y => simpa [seq] using h
  | ok w => simp at h

open Yae.Debug

def cols (r : Record) : List Int := r.map (·.col)

theorem hasCol_iff (r : Record) (c : Int) : r.hasCol c = true ↔ c ∈ cols r := by
  unfold Record.hasCol cols
  simp only [List.any_eq_true, beq_iff_eq, List.mem_map]

theorem recAux_spec : ∀ (fuel : Nat) (r : Record) (text : String) (col : Int),
    ∃ k : Nat, k ≤ fuel ∧ recAux fuel r text col = r ++ [⟨text, col + k⟩] ∧
      (∀ i : Nat, i < k → r.hasCol (col + i) = true) ∧
      (k < fuel → r.hasCol (col + k) = false)
  | 0, r, text, col => ⟨0, Nat.le_refl _, by simp [recAux], by intro i hi; omega, by intro h; omega⟩
  | fuel+1, r, text, col => by
    unfold recAux
    split
    · next hh =>
      obtain ⟨k, hk, he, hocc, hfree⟩ := recAux_spec fuel r text (col + 1)
      refine ⟨k+1, by omega, ?_, ?_, ?_⟩
      · rw [he]; congr 3; push_cast; omega
      · intro i hi
        cases i with
        | zero => simpa using hh
        | succ i =>
          have := hocc i (by omega)
          rw [← this]; congr 1; push_cast; omega
      · intro hlt
        have := hfree (by omega)
        rw [← this]; congr 1; push_cast; omega
    · next hh =>
      refine ⟨0, by omega, by simp, by intro i hi; omega, ?_⟩
      intro _; simpa using hh

/-- pigeonhole: `n + 1` consecutive columns cannot all be taken by `n` entries -/
theorem not_all_taken (r : Record) (col : Int)
    (h : ∀ i : Nat, i < r.length + 1 → r.hasCol (col + i) = true) : False := by
  let xs : List Int := (List.range (r.length + 1)).map fun i : Nat => col + (i : Int)
  have hnd : xs.Nodup := by
    refine List.Pairwise.map _ ?_ (List.nodup_range (n := r.length + 1))
    intro a b hab h
    exact hab (by omega)
  have hsub : xs ⊆ cols r := by
    intro c hc
    simp only [xs, List.mem_map, List.mem_range] at hc
    obtain ⟨i, hi, rfl⟩ := hc
    exact (hasCol_iff r _).1 (h i hi)
  have := hnd.length_le_of_subset hsub
  simp [xs, cols] at this
  omega

theorem recText_spec (r : Record) (text : String) (col : Int) :
    ∃ k : Nat, recText r text col = r ++ [⟨text, col + k⟩] ∧
      (∀ i : Nat, i < k → r.hasCol (col + i) = true) ∧ r.hasCol (col + k) = false := by
  obtain ⟨k, hk, he, hocc, hfree⟩ := recAux_spec (r.length + 1) r text col
  refine ⟨k, he, hocc, hfree (Nat.lt_of_le_of_ne hk fun hk' => ?_)⟩
  subst hk'
  exact not_all_taken r col hocc

theorem recText_free (r : Record) (text : String) (col : Int) (h : r.hasCol col = false) :
    recText r text col = r ++ [⟨text, col⟩] := by
  unfold recText recAux
  simp [h]

/-- the own column is taken: the entry is shifted to the right (finding D27) -/
theorem recText_taken (r : Record) (text : String) (col : Int) (h : r.hasCol col = true) :
    ∃ k : Nat, 0 < k ∧ recText r text col = r ++ [⟨text, col + k⟩] := by
  obtain ⟨k, he, _, hfree⟩ := recText_spec r text col
  refine ⟨k, ?_, he⟩
  cases k with
  | zero => simp [h] at hfree
  | succ k => omega

theorem recText_nodup (r : Record) (text : String) (col : Int) (h : (cols r).Nodup) :
    (cols (recText r text col)).Nodup := by
  obtain ⟨k, he, _, hfree⟩ := recText_spec r text col
  rw [he]
  unfold cols
  rw [List.map_append, List.nodup_append]
  refine ⟨h, by simp, ?_⟩
  intro a ha b hb
  simp only [List.map_cons, List.map_nil, List.mem_singleton] at hb
  subst hb
  intro hab
  subst hab
  have := (hasCol_iff r _).2 ha
  rw [this] at hfree; cases hfree

/-- the record entries the debug events stand for, each under its own column -/
def entriesOf (evs : List Event) : Record :=
  evs.filterMap fun
    | .dbg v col => some ⟨v.render, col⟩
    | _ => none

/-- `recText` (what `Debug.rec` does once the value is rendered) on an entry -/
def recEntry (r : Record) (e : Entry) : Record := recText r e.text e.col

/-- the record of a run depends on the events only through `entriesOf` -/
theorem recordOf_eq_foldl (evs : List Event) : recordOf evs = (entriesOf evs).foldl recEntry [] := by
  unfold recordOf
  generalize ([] : Record) = r
  induction evs generalizing r with
  | nil => rfl
  | cons ev evs ih => cases ev <;> exact ih _

theorem foldl_recEntry_nodup : ∀ (es : List Entry) (r : Record), (cols r).Nodup →
    (cols (es.foldl recEntry r)).Nodup
  | [], _, h => h
  | e :: es, r, h => foldl_recEntry_nodup es _ (recText_nodup r e.text e.col h)

theorem foldl_recEntry_length : ∀ (es : List Entry) (r : Record),
    (es.foldl recEntry r).length = r.length + es.length
  | [], _ => rfl
  | e :: es, r => by
    obtain ⟨k, he, _⟩ := recText_spec r e.text e.col
    rw [List.foldl_cons, foldl_recEntry_length es, recEntry, he, List.length_append,
      List.length_singleton, List.length_cons]
    omega

theorem foldl_recEntry_faithful : ∀ (es : List Entry) (r : Record),
    (cols r ++ cols es).Nodup → es.foldl recEntry r = r ++ es
  | [], r, _ => (List.append_nil r).symm
  | e :: es, r, h => by
    have hfree : r.hasCol e.col = false := by
      cases hh : r.hasCol e.col with
      | false => rfl
      | true =>
        exact absurd rfl ((List.nodup_append.1 h).2.2 _ ((hasCol_iff r _).1 hh) _ List.mem_cons_self)
    rw [List.foldl_cons, recEntry, recText_free r _ _ hfree, foldl_recEntry_faithful es,
      List.append_assoc]
    · rfl
    · simpa [cols] using h

/-- the report starts with the source text; anything after it starts on a new line -/
theorem render_firstline (src : String) (r : Record) :
    ∃ rest, render src r = src ++ rest ∧ (rest = "" ∨ ∃ rest', rest = "\n" ++ rest') := by
  unfold render
  dsimp only
  generalize (renderValues (sortDesc r) [{ chars := [], start := 0 }]).map
    (fun l => String.ofList l.chars) = ls
  cases ls with
  | nil => exact ⟨"", by simp, Or.inl rfl⟩
  | cons u l =>
    refine ⟨"\n" ++ "\n".intercalate (u :: l), ?_, Or.inr ⟨_, rfl⟩⟩
    rw [String.intercalate_cons_cons, String.append_assoc]

end Yae.DebugEval
