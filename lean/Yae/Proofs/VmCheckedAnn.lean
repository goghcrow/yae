/-
  C03, checked programs: what the checker leaves on the tree, as far as the simulation
  theorem needs it.

  `CK Γ e` (recursive over the tree, in the positions the compiler visits): empty list / map
  literals carry `list[⊥]` / `map[⊥,⊥]`, non-empty ones some type, an object literal an object
  type of the literal's arity; a statically dispatched call resolves in `Γ.funs` to a declaration
  that passes `callOk`; the callee of a dynamically dispatched call is an annotated tree of
  function type; the operand of a subscript is an annotated tree of the list / map type the node
  is annotated with.

  `check_ck`: the tree `check` returns satisfies `CK`.   `ck_wa`: `CK` gives `wa`
  (`C03.WellAnnotated`).
-/
import Yae.Proofs.VmSimExec
import Yae.Proofs.SoundnessMain
namespace Yae.VmChk
open Yae Yae.VmSim

def SubAnn (Γ : TEnv) (var : Expr) (vty : Option Ty) : Prop :=
  (∃ el, vty = some (.list el) ∧ Sound.Ann Γ var (.list el)) ∨
  (∃ k v, vty = some (.map k v) ∧ Sound.Ann Γ var (.map k v))

mutual
def CK (Γ : TEnv) : Expr → Prop
  | .list _ es ty => listTyOk es ty = true ∧ CKL Γ es
  | .map _ ps ty => mapTyOk ps ty = true ∧ CKP Γ ps
  | .obj _ fs ty => objTyOk fs ty = true ∧ CKF Γ fs
  | .call _ _ callee args _ resolved index =>
    (if resolved == "" then CK Γ callee ∧ ∃ n ps r, Sound.Ann Γ callee (.fn n ps r)
     else ∃ d, resolveStatic Γ.funs resolved index = some d ∧ callOk d args.length = true) ∧
    CKL Γ args
  | .subscript _ _ var idx vty => CK Γ var ∧ CK Γ idx ∧ SubAnn Γ var vty
  | .member _ _ obj _ _ _ _ => CK Γ obj
  | .unary .. => False
  | .binary .. => False
  | .ternary .. => False
  | .group .. => False
  | _ => True
def CKL (Γ : TEnv) : ExprList → Prop
  | .nil => True
  | .cons e es => CK Γ e ∧ CKL Γ es
def CKP (Γ : TEnv) : PairList → Prop
  | .nil => True
  | .cons k v ps => CK Γ k ∧ CK Γ v ∧ CKP Γ ps
def CKF (Γ : TEnv) : FieldEList → Prop
  | .nil => True
  | .cons _ e fs => CK Γ e ∧ CKF Γ fs
end

mutual
theorem ck_wa {Γ : TEnv} : ∀ e : Expr, CK Γ e → wa Γ.funs e = true
  | .str .., _ | .num .., _ | .time .., _ | .bool .., _ | .ident .., _ => rfl
  | .list _ es ty, h => by
    simp only [CK] at h
    simp only [wa, h.1, ckl_wa es h.2, Bool.and_self]
  | .map _ ps ty, h => by
    simp only [CK] at h
    simp only [wa, h.1, ckp_wa ps h.2, Bool.and_self]
  | .obj _ fs ty, h => by
    simp only [CK] at h
    simp only [wa, h.1, ckf_wa fs h.2, Bool.and_self]
  | .call _ _ callee args _ resolved index, h => by
    simp only [CK] at h
    obtain ⟨h1, h2⟩ := h
    simp only [wa]
    split at h1
    · next hr => simp only [hr, if_true, ck_wa callee h1.1, ckl_wa args h2, Bool.and_self]
    · next hr =>
      obtain ⟨d, hd, hok⟩ := h1
      simp only [hr, Bool.false_eq_true, if_false, hd, hok, ckl_wa args h2, Bool.and_self]
  | .subscript _ _ var idx vty, h => by
    simp only [CK] at h
    obtain ⟨h1, h2, h3⟩ := h
    have : subTyOk vty = true := by
      rcases h3 with ⟨el, rfl, _⟩ | ⟨k, v, rfl, _⟩ <;> rfl
    simp only [wa, this, ck_wa var h1, ck_wa idx h2, Bool.and_self]
  | .member _ _ obj _ _ _ _, h => by
    simp only [CK] at h
    simp only [wa, ck_wa obj h]
  | .unary .., h | .binary .., h | .ternary .., h | .group .., h => by
    simp only [CK] at h
theorem ckl_wa {Γ : TEnv} : ∀ es : ExprList, CKL Γ es → waL Γ.funs es = true
  | .nil, _ => rfl
  | .cons e es, h => by
    simp only [CKL] at h
    simp only [waL, ck_wa e h.1, ckl_wa es h.2, Bool.and_self]
theorem ckp_wa {Γ : TEnv} : ∀ ps : PairList, CKP Γ ps → waP Γ.funs ps = true
  | .nil, _ => rfl
  | .cons k v ps, h => by
    simp only [CKP] at h
    simp only [waP, ck_wa k h.1, ck_wa v h.2.1, ckp_wa ps h.2.2, Bool.and_self]
theorem ckf_wa {Γ : TEnv} : ∀ fs : FieldEList, CKF Γ fs → waF Γ.funs fs = true
  | .nil, _ => rfl
  | .cons _ e fs, h => by
    simp only [CKF] at h
    simp only [waF, ck_wa e h.1, ckf_wa fs h.2, Bool.and_self]
end

theorem annFields_length {Γ : TEnv} : ∀ (fs : FieldEList) (tys : FieldList),
    Sound.AnnFields Γ fs tys → tys.length = fs.length
  | .nil, _, h => by cases h; rfl
  | .cons n e fs, _, h => by
    cases h with
    | cons h1 h2 => simp [FieldList.length, FieldEList.length, annFields_length fs _ h2]

/-- a registered declaration that refers to a built-in has the built-in's signature and
laziness; so a call that instantiates the signature has the built-in's arity -/
theorem callOk_of_inst {funs : List FunDecl} (hf : Sound.FunsOK funs) {d : FunDecl}
    (hmem : d ∈ funs) {n : String} {ps : TyList} {ret : Ty} (hty : d.ty = .fn n ps ret)
    {k : Nat} (hk : k = ps.length) : callOk d k = true := by
  unfold callOk builtinOf
  cases hr : d.ref with
  | host name beh => rfl
  | builtin i =>
    obtain ⟨b, hb, hbt, hlz⟩ := Sound.declOK_builtin (hf d hmem) hr
    simp only [hb, Bool.and_eq_true, beq_iff_eq]
    refine ⟨?_, hlz.symm⟩
    unfold arityOf
    rw [hbt, hty]
    exact hk

section
set_option linter.unusedSectionVars false
variable {Γ : TEnv} (hf : Sound.FunsOK Γ.funs) (hv : Sound.VarsOK Γ)
include hf hv

theorem elab_ck {j : CheckJudgement} (h : Elab Γ j) :
    match j with
    | .expr _ _ e' => CK Γ e'
    | .elems _ _ es' | .args _ _ es' => CKL Γ es'
    | .pairs _ _ _ ps' => CKP Γ ps'
    | .fields _ _ fs' => CKF Γ fs' := by
  induction h with
  | str | num | time | bool | ident | elemsNil | pairsNil | fieldsNil | argsNil => trivial
  | listNil | mapNil => exact ⟨rfl, trivial⟩
  | listCons _ _ ih ihs => exact ⟨rfl, ih, ihs⟩
  | mapCons _ _ _ _ ihk ihv ihps => exact ⟨rfl, ihk, ihv, ihps⟩
  | obj hfs _ ih =>
    have hlen := annFields_length _ _ (Sound.elab_ann hf hv hfs)
    exact ⟨by simp only [objTyOk, hlen, beq_self_eq_true], ih⟩
  | callStatic ha h2 hte iha =>
    have a1 := Sound.elab_ann hf hv ha
    obtain ⟨w1, s1⟩ := Sound.annArgs_wf hv _ _ a1
    obtain ⟨hne, d, n, ps, ret, hres, hty, σ, _, hse, _⟩ := Sound.resolve_ok hf s1 w1 h2 hte
    simp only [CK, hne, Bool.false_eq_true, if_false]
    refine ⟨⟨d, hres, callOk_of_inst hf (Sound.resolveStatic_mem hres) hty ?_⟩, iha⟩
    rw [Sound.annArgs_length _ _ a1, ← StructEqList.length_eq _ _ hse, length_substGList]
  | callDyn _ hc _ _ iha ihc => exact ⟨⟨ihc, _, _, _, Sound.elab_ann hf hv hc⟩, iha⟩
  | subList hv' _ _ ihv ihi => exact ⟨ihv, ihi, .inl ⟨_, rfl, Sound.elab_ann hf hv hv'⟩⟩
  | subMap hv' _ _ ihv ihi => exact ⟨ihv, ihi, .inr ⟨_, _, rfl, Sound.elab_ann hf hv hv'⟩⟩
  | member _ _ _ ih => exact ih
  | elemsCons _ _ _ ih ihs | argsCons _ _ ih ihs | fieldsCons _ _ ih ihs => exact ⟨ih, ihs⟩
  | pairsCons _ _ _ _ _ ihk ihv ihps => exact ⟨ihk, ihv, ihps⟩

theorem check_ck : ∀ (e : Expr) (c : Nat) (T : Ty) (e' : Expr) (c' : Nat),
    check Γ c e = .ok (T, e', c') → CK Γ e' :=
  fun e _ _ _ _ h => elab_ck hf hv (check_elab e h)
theorem checkElems_ck : ∀ (es : ExprList) (c : Nat) (T : Ty) (es' : ExprList)
    (c' : Nat), checkElems Γ c T es = .ok (es', c') → CKL Γ es' :=
  fun es _ _ _ _ h => elab_ck hf hv (checkElems_elab es h)
theorem checkPairs_ck : ∀ (ps : PairList) (c : Nat) (K V : Ty) (ps' : PairList)
    (c' : Nat), checkPairs Γ c K V ps = .ok (ps', c') → CKP Γ ps' :=
  fun ps _ _ _ _ _ h => elab_ck hf hv (checkPairs_elab ps h)
theorem checkFields_ck : ∀ (fs : FieldEList) (c : Nat) (tys : FieldList)
    (fs' : FieldEList) (c' : Nat), checkFields Γ c fs = .ok (tys, fs', c') → CKF Γ fs' :=
  fun fs _ _ _ _ h => elab_ck hf hv (checkFields_elab fs h)
theorem checkArgs_ck : ∀ (es : ExprList) (c : Nat) (tys : TyList)
    (es' : ExprList) (c' : Nat), checkArgs Γ c es = .ok (tys, es', c') → CKL Γ es' :=
  fun es _ _ _ _ h => elab_ck hf hv (checkArgs_elab es h)

end

end Yae.VmChk
