/-
  C03: calls.  Strict calls (`CALL_BY_VALUE`, intrinsic opcodes, `DYNAMIC_CALL`),
  `if` / `&&` / `||` compiled to jumps, `!`, lazy host calls with thunks (`CALL_BY_NEED`): `simE_call`, the case
  `VmSimExec` leaves open.  Then the induction on the evaluator's fuel (`simE_all`) and the simulation theorem
  (`exec_correct`).
-/
import Yae.Proofs.VmSimExec
namespace Yae.VmSim
open Yae Yae.Vm EvalM

section
variable {ρ : REnv} {P : Pool} {C : Code}

theorem Sim.pre {α} {r : Except Fail α × List Event} {n w o o1 o' s s1 l l1} {push : α → List Slot}
    (h0 : ∀ F, run (F+n) ρ P C o s l = run F ρ P C o1 s1 l1) (h : Sim ρ P C r w o1 o' s1 l1 push) :
    Sim ρ P C r (w + n) o o' s l push := by
  intro F hF
  obtain ⟨F0, rfl⟩ : ∃ F0, F = F0 + n := ⟨F - n, by omega⟩
  have h' := h F0 (by omega)
  rw [h0]
  rcases r with ⟨x | a, l'⟩
  · exact h'
  · obtain ⟨F1, hF1, hrun⟩ := h'
    exact ⟨F1, by omega, hrun⟩

theorem Sim.post {α} {r : Except Fail α × List Event} {w o o1 o' s l} {push : α → List Slot}
    (h : Sim ρ P C r w o o1 s l push) (h1 : ∀ F s' l', run (F+1) ρ P C o1 s' l' = run F ρ P C o' s' l') :
    Sim ρ P C r (w + 1) o o' s l push := by
  intro F hF
  have h' := h F (by omega)
  rcases r with ⟨x | a, l'⟩
  · exact h'
  · obtain ⟨F1, hF1, hrun⟩ := h'
    obtain ⟨F2, rfl⟩ : ∃ F2, F1 = F2 + 1 := ⟨F1 - 1, by omega⟩
    exact ⟨F2, by omega, by rw [hrun, h1]⟩

/-- `&&` / `||`: the evaluator checks that the second operand is a bool, the machine does not -/
theorem Sim.boolCast {x : EvalM Val} {w o o' s l} {push : Val → List Slot}
    (h : Sim ρ P C (x l) w o o' s l push) :
    Sim ρ P C ((x >>= fun r => match r with
      | .bool b => pure (.bool b)
      | _ => fail (.stuck "cast:bool")) l) w o o' s l push := by
  refine Sim.seq (w2 := 0) h fun v l1 _ => ?_
  cases v with
  | bool b => exact Sim.skip rfl
  | _ => exact Sim.stuck

/-- `x; IF_TRUE else; kt; JUMP end; else: kf; end:` -/
theorem simC {x kt kf : EvalM Val} {w1 wt wf o o1 o2 o3 o4 o' s l}
    (hx : Sim ρ P C (x l) w1 o o1 s l (fun v => .val v :: s))
    (h1 : decodeAt C o1 = some (.jump .IF_TRUE o4, o2)) (h2 : decodeAt C o3 = some (.jump .JUMP o', o4))
    (ht : ∀ l1, Sim ρ P C (kt l1) wt o2 o3 s l1 (fun v => .val v :: s))
    (hf : ∀ l1, Sim ρ P C (kf l1) wf o4 o' s l1 (fun v => .val v :: s)) :
    Sim ρ P C ((x >>= fun v => match v with
      | .bool true => kt
      | .bool false => kf
      | _ => fail (.stuck "cast:bool")) l) (w1 + (max wt wf + 2)) o o' s l (fun v => .val v :: s) :=
  Sim.seq hx fun cv l1 _ => by
    cases cv with
    | bool bv =>
      cases bv with
      | true =>
        exact Sim.mono (Sim.pre (n := 1) (fun _ => run_iftrue h1) (Sim.post (ht l1) fun _ _ _ => run_jump h2))
          (by omega)
      | false => exact Sim.mono (Sim.pre (n := 1) (fun _ => run_iftrue h1) (hf l1)) (by omega)
    | _ => exact Sim.stuck

end

/-- what the evaluator does with the argument values of a strict call -/
def strictTail (ext : Externs) (ref : FunRef) (args : List Val) : EvalM Val :=
  match ref with
  | .builtin idx =>
    match builtins[idx]? with
    | none => fail (.stuck "builtin-index")
    | some b => applyB ext b.id args
  | .host name beh => hostStrict name beh args

theorem callStrict_eq {ext : Externs} {d : FunDecl} {args : List Val} {l : List Event}
    (h : NotStuck (strictTail ext d.ref args l).1) :
    callStrict ext d args l = strictTail ext d.ref args l := by
  obtain ⟨ty, ref, il⟩ := d
  cases ref with
  | host name beh => rfl
  | builtin idx =>
    simp only [callStrict, strictTail] at h ⊢
    cases hb : builtins[idx]? with
    | none => rfl
    | some b =>
      simp only [hb] at h ⊢
      by_cases hl : b.isLazy = true
      · exfalso
        simp only [applyB, bind_apply, lift_apply, applyBuiltin_lazy hb hl, stuckCast, seq_error] at h
        exact absurd h (show ¬ ExternMiss ("cast:" ++ "builtin-args") by decide)
      · simp only [hl]; rfl

/-- arguments first, unless the index of the built-in is off the table -/
theorem callFun_strict (f ρ ref args l) :
    callFun f false ρ ref false args l = (.error (.stuck "builtin-index"), l) ∨
    callFun f false ρ ref false args l =
      (evalList f false ρ args >>= fun vs => strictTail ρ.ext ref vs.toList) l := by
  cases ref with
  | host name beh => unfold callFun; exact Or.inr rfl
  | builtin idx =>
    cases hb : builtins[idx]? with
    | none => simp only [callFun, hb]; exact Or.inl rfl
    | some b => simp only [callFun, strictTail, hb]; exact Or.inr rfl

section
variable {funs : List FunDecl} {ρ : REnv} {P : Pool} {C : Code} {f : Nat}

theorem sim_strict {args : ExprList} {ref : FunRef} {o o1 o' : Nat} {s0 s : List Slot} {l : List Event}
    (hL : Sim ρ P C (evalList f false ρ args l) (WL args) o o1 s0 l (fun vs => pushVals vs.toList s0))
    (hstep : ∀ vs l1 F0, vs.length = args.length → NotStuck (strictTail ρ.ext ref vs l1).1 →
      run (F0+1) ρ P C o1 (pushVals vs s0) l1 =
        seq (strictTail ρ.ext ref vs l1) (fun v l' => run F0 ρ P C o' (.val v :: s) l')) :
    Sim ρ P C (callFun f false ρ ref false args l) (WL args + 1) o o' s0 l (fun v => .val v :: s) := by
  rcases callFun_strict f ρ ref args l with h | h
  · rw [h]; exact Sim.stuck
  · rw [h]
    refine Sim.seq hL fun vs l1 hvs => Sim.stepNS (w := 0) fun F0 _ hns => ?_
    exact hstep vs.toList l1 F0 (by simp [evalList_length _ _ _ _ hvs]) hns

end

section
variable {funs : List FunDecl} {ρ : REnv} {P : Pool} {f : Nat}

theorem arg_facts : ∀ {args : ExprList} {i : Nat} {a : Expr}, args.get? i = some a →
    a.depth ≤ depthList args ∧ W a ≤ WL args ∧
      (waL funs args = true → wa funs a = true) ∧ (KAL ρ args → KA ρ a)
  | .nil, _, _, h => by cases h
  | .cons e es, 0, a, h => by
    cases h
    simp only [depthList, WL, waL, KAL, Bool.and_eq_true]
    exact ⟨by omega, by omega, fun h => h.1, fun h => h.1⟩
  | .cons e es, i+1, a, h => by
    obtain ⟨h1, h2, h3, h4⟩ := arg_facts (args := es) (i := i) h
    simp only [depthList, WL, waL, KAL, Bool.and_eq_true]
    exact ⟨by omega, by omega, fun h => h3 h.2, fun h => h4 h.2⟩

theorem SimE.arg (hE : SimE funs ρ P f) {args : ExprList} (hd : depthList args < f)
    (hw : waL funs args = true) (hk : KAL ρ args) {i : Nat} {a : Expr} (ha : args.get? i = some a)
    {C o o' s l} (hl : LayE funs P C a o o') :
    Sim ρ P C (eval f false ρ a l) (W a) o o' s l (fun v => .val v :: s) := by
  obtain ⟨h1, -, h3, h4⟩ := arg_facts (funs := funs) (ρ := ρ) ha
  exact hE a C o o' s l (by omega) hl (h3 hw) (h4 hk)

theorem layT_run : ∀ (args : ExprList) (ths : List (Code × Ty)) (C : Code) (o o1 : Nat),
    LayT funs P C args ths o o1 →
    ths.length = args.length ∧
      ∀ F s l, run (F + args.length) ρ P C o s l = run F ρ P C o1 (pushThunks ths s) l
  | .nil, ths, C, o, o1, h => by cases h; exact ⟨rfl, fun F s l => rfl⟩
  | .cons e es, ths, C, o, o1, h => by
    cases h with
    | cons hdec hp hbody hret hrest =>
      obtain ⟨hlen, hrun⟩ := layT_run es _ C _ o1 hrest
      refine ⟨by simp [ExprList.length, hlen], fun F s l => ?_⟩
      rw [show F + (ExprList.cons e es).length = (F + es.length) + 1 by simp [ExprList.length]; omega]
      rw [run_const_thunk hdec hp, hrun, pushThunks_cons]

theorem layT_get : ∀ (args : ExprList) (ths : List (Code × Ty)) (C : Code) (o o1 : Nat) (i : Nat),
    LayT funs P C args ths o o1 →
    (args.get? i = none ∧ ths[i]? = none) ∨
    ∃ a body pt ob nx, args.get? i = some a ∧ ths[i]? = some (body, pt) ∧
      LayE funs P body a 0 ob ∧ decodeAt body ob = some (.simple .RETURN, nx)
  | .nil, ths, C, o, o1, i, h => by cases h; exact Or.inl ⟨rfl, rfl⟩
  | .cons e es, ths, C, o, o1, i, h => by
    cases h with
    | cons hdec hp hbody hret hrest =>
      cases i with
      | zero => exact Or.inr ⟨e, _, _, _, _, rfl, rfl, hbody, hret⟩
      | succ i => exact layT_get es _ C _ o1 i hrest

/-- forcing a thunk runs its buffer on an empty stack -/
theorem thunk_run (hE : SimE funs ρ P f) {a : Expr} {body : Code} {ob nx : Nat} {l : List Event} {F0 : Nat}
    (hd : a.depth < f) (hlay : LayE funs P body a 0 ob)
    (hret : decodeAt body ob = some (.simple .RETURN, nx))
    (hw : wa funs a = true) (hk : KA ρ a) (hF : W a + 1 ≤ F0)
    (hns : NotStuck (eval f false ρ a l).1) :
    run F0 ρ P body 0 [] l = eval f false ρ a l := by
  have h := hE a body 0 ob [] l hd hlay hw hk F0 (by omega)
  rcases he : eval f false ρ a l with ⟨x | v, l1⟩
  · rw [he] at h hns
    exact h (by cases x <;> first | trivial | exact hns)
  · rw [he] at h
    obtain ⟨F1, hF1, hrun⟩ := h
    obtain ⟨F2, rfl⟩ : ∃ F2, F1 = F2 + 1 := ⟨F1 - 1, by omega⟩
    rw [hrun, run_return hret]

theorem forceSim (hE : SimE funs ρ P f) {args : ExprList} {ths : List (Code × Ty)} {C : Code} {o o1 : Nat}
    (hlay : LayT funs P C args ths o o1) (hd : depthList args < f)
    (hw : waL funs args = true) (hk : KAL ρ args) {F0 : Nat} (hF : WL args + 1 ≤ F0) :
    ∀ (order : List Nat) (acc : Option Val) (l : List Event),
      NotStuck (forceSeq f false ρ args order acc l).1 →
      forceAll F0 ρ P ths order acc l = forceSeq f false ρ args order acc l := by
  intro order
  induction order with
  | nil =>
    intro acc l _
    cases acc <;> simp only [forceSeq, forceAll]
  | cons i rest ih =>
    intro acc l hns
    rcases layT_get args ths C o o1 i hlay with h | ⟨a, body, pt, ob, nx, h1, h2, h3, h4⟩
    · simp only [forceSeq, forceAll, h.1, h.2]
    · obtain ⟨h5, h6, h7, h8⟩ := arg_facts (funs := funs) (ρ := ρ) h1
      simp only [forceSeq, forceAll, h1, h2] at hns ⊢
      have hrun := thunk_run hE (l := l) (F0 := F0) (by omega) h3 h4 (h7 hw) (h8 hk) (by omega)
      rw [bind_apply, bind_apply]
      rcases he : eval f false ρ a l with ⟨x | v, l1⟩
      · rw [bind_err he] at hns
        rw [hrun (he ▸ hns), he]; rfl
      · rw [bind_ok he] at hns
        rw [hrun (he ▸ trivial), he]
        exact ih (some v) l1 hns

end

section
variable {funs : List FunDecl} {ρ : REnv} {P : Pool} {f : Nat}

theorem eval_static {p col callee args cty resolved index d l}
    (hres : (resolved == "") = false) (hrs : resolveStatic ρ.funs resolved index = some d) :
    eval (f+1) false ρ (.call p col callee args cty resolved index) l =
      callFun f false ρ d.ref d.isLazy args l := by
  simp only [eval, bind_recDbg, hres, Bool.false_eq_true, ↓reduceIte, hrs]

theorem callOk_bid {d : FunDecl} {id : BId} {n : Nat} (hbid : bidOf d = some id) (hok : callOk d n = true) :
    ∃ idx b, d.ref = .builtin idx ∧ builtins[idx]? = some b ∧ b.id = id ∧ n = arityOf b ∧
      d.isLazy = (id == .IF_BOOL_ANY_ANY || id == .LOGIC_AND_BOOL_BOOL || id == .LOGIC_OR_BOOL_BOOL) := by
  obtain ⟨idx, b, href, hb, hid⟩ := bidOf_inv hbid
  obtain ⟨har, hlz⟩ := callOk_inv hok href hb
  exact ⟨idx, b, href, hb, hid, har, by rw [hlz, isLazy_iff hb, hid]⟩

theorem simE_call (hρ : ρ.funs = funs) (hE : SimE funs ρ P f)
    (p : Pos) (col : Int) (callee : Expr) (args : ExprList) (cty : Option Ty) (resolved : String)
    (index : Int) (C : Code) (o o' : Nat) (s : List Slot) (l : List Event)
    (hd : (Expr.call p col callee args cty resolved index).depth < f + 1)
    (hl : LayE funs P C (.call p col callee args cty resolved index) o o')
    (hw : wa funs (.call p col callee args cty resolved index) = true)
    (hk : KA ρ (.call p col callee args cty resolved index)) :
    Sim ρ P C (eval (f+1) false ρ (.call p col callee args cty resolved index) l)
      (W (.call p col callee args cty resolved index)) o o' s l (fun v => .val v :: s) := by
  subst hρ
  simp only [Expr.depth] at hd
  simp only [KA] at hk
  simp only [W]
  have hda : depthList args < f := by omega
  cases hl with
  | dyn hres h1 h2 hdec =>
    have hres' : resolved = "" := by simpa using hres
    simp only [wa, hres, ↓reduceIte, Bool.and_eq_true] at hw
    obtain ⟨⟨hkc, hnl⟩, hka⟩ := And.intro (hk.1 hres') hk.2
    simp only [eval, bind_recDbg, hres, ↓reduceIte]
    refine Sim.mono (w := W callee + (WL args + 1)) ?_ (by omega)
    refine Sim.seq (hE callee C o _ s l (by omega) h1 hw.1 hkc) fun fv l1 hfv => ?_
    cases fv with
    | fn ty ref isLazy =>
      cases ty with
      | fn n ps r =>
        cases isLazy with
        | true => exact absurd rfl (hnl _ _ _ _ hfv _ _)
        | false =>
          refine sim_strict (simL hE args C _ _ (.val _ :: s) l1 hda h2 hw.2 hka)
            fun vs l2 F0 hlen hns => ?_
          rw [run_dyn hdec (popN_pushVals vs _ l2 _ hlen.symm), callStrict_eq (d := ⟨.fn n ps r, ref, false⟩) hns]
      | _ => exact Sim.stuck
    | _ => exact Sim.stuck
  | condIf hres hrs hbid hc =>
    obtain ⟨hcok, hwa⟩ := wa_static hres hrs hw
    obtain ⟨idx, b, href, hb, hid, -, (hlz : _ = true)⟩ := callOk_bid hbid hcok
    rw [eval_static hres hrs, href, hlz]
    simp only [callFun, hb, hid, ↓reduceIte]
    cases hc with
    | mk hc1 hd1 ht hd2 hf =>
      exact Sim.mono (simC (hE.arg hda hwa hk.2 (i := 0) rfl hc1) hd1 hd2
        (fun l1 => hE.arg hda hwa hk.2 (i := 1) rfl ht)
        (fun l1 => hE.arg hda hwa hk.2 (i := 2) rfl hf)) (by simp only [WL]; omega)
  | condAnd hres hrs hbid hc =>
    obtain ⟨hcok, hwa⟩ := wa_static hres hrs hw
    obtain ⟨idx, b, href, hb, hid, -, (hlz : _ = true)⟩ := callOk_bid hbid hcok
    rw [eval_static hres hrs, href, hlz]
    simp only [callFun, hb, hid, ↓reduceIte]
    cases hc with
    | mk hc1 hd1 ht hd2 hf =>
      cases hf with
      | bool hdec hp =>
        exact Sim.mono (simC (hE.arg hda hwa hk.2 (i := 0) rfl hc1) hd1 hd2
          (fun l1 => Sim.boolCast (hE.arg hda hwa hk.2 (i := 1) rfl ht))
          (fun l1 => simE_lit (Nat.le_refl 1) hdec hp)) (by simp only [WL]; omega)
  | condOr hres hrs hbid hc =>
    obtain ⟨hcok, hwa⟩ := wa_static hres hrs hw
    obtain ⟨idx, b, href, hb, hid, -, (hlz : _ = true)⟩ := callOk_bid hbid hcok
    rw [eval_static hres hrs, href, hlz]
    simp only [callFun, hb, hid, ↓reduceIte]
    cases hc with
    | mk hc1 hd1 ht hd2 hf =>
      cases ht with
      | bool hdec hp =>
        exact Sim.mono (simC (hE.arg hda hwa hk.2 (i := 0) rfl hc1) hd1 hd2
          (fun l1 => simE_lit (Nat.le_refl 1) hdec hp)
          (fun l1 => Sim.boolCast (hE.arg hda hwa hk.2 (i := 1) rfl hf))) (by simp only [WL]; omega)
  | not hres hrs hbid h1 hdec =>
    rename_i o1 d x rest
    obtain ⟨hcok, hwa⟩ := wa_static hres hrs hw
    obtain ⟨idx, b, href, hb, hid, har, (hlz : _ = false)⟩ := callOk_bid hbid hcok
    rw [eval_static hres hrs, href, hlz]
    -- `callOk` gives `args.length = arityOf b` (`har`), and `!` has arity 1, so `rest` is `.nil`
    cases rest with
    | cons _ _ => simp [ExprList.length, not_arity hb hid] at har
    | nil =>
      refine Sim.mono (sim_strict (simL hE _ C o o1 s l hda (.cons h1 .nil) hwa hk.2)
        fun vs l1 F0 hlen hns => ?_) (by simp only [WL]; omega)
      obtain ⟨v, rfl⟩ := List.length_eq_one_iff.mp hlen
      simp only [strictTail, applyB, hb, hid, bind_apply, lift_apply] at hns ⊢
      have hm : ¬ ExternMiss ("cast:" ++ "builtin-args") := by decide
      cases v with
      | bool bv => exact run_lognot hdec
      | _ =>
        rw [applyBuiltin_not_other _ _ (by intro b h; cases h)] at hns
        exact absurd hns hm
  | strict hres hrs hcond hlazy h1 htail =>
    rename_i o1 d
    obtain ⟨hcok, hwa⟩ := wa_static hres hrs hw
    rw [eval_static hres hrs, hlazy]
    refine Sim.mono (w := WL args + 1) (sim_strict (simL hE args C o o1 s l hda h1 hwa hk.2)
      fun vs l1 F0 hlen hns => ?_) (by omega)
    unfold CallTail at htail
    cases hop : (bidOf d).bind intrinsicByValue with
    | some op =>
      obtain ⟨id, hbid, hop'⟩ := Option.bind_eq_some_iff.mp hop
      obtain ⟨idx, b, href, hb, rfl, har, -⟩ := callOk_bid hbid hcok
      rw [hop] at htail
      rw [href, run_intrinsic htail (builtin?_of_intrinsic hb hop') (popN_pushVals vs s l1 _ (har ▸ hlen.symm))]
      simp only [strictTail, hb]
    | none =>
      simp only [hop, hlazy, Bool.false_eq_true, ↓reduceIte] at htail
      obtain ⟨i, hdec, hp⟩ := htail
      rw [run_callval hdec hp (popN_pushVals vs s l1 _ hlen.symm), callStrict_eq hns]
  | byNeed hres hrs hcond hlazy h1 htail =>
    rename_i o1 d ths
    obtain ⟨hcok, hwa⟩ := wa_static hres hrs hw
    rw [eval_static hres hrs, hlazy]
    cases hbid : bidOf d with
    | some id =>
      obtain ⟨idx, b, href, hb, hid, -, hlz⟩ := callOk_bid hbid hcok
      rw [hlazy] at hlz
      simp only [hbid, Option.map_some, Option.getD_some] at hcond
      simp only [Bool.true_eq, Bool.or_eq_true, beq_iff_eq] at hlz
      rcases hlz with (h | h) | h <;> rw [h] at hcond <;> cases hcond
    | none =>
      unfold CallTail at htail
      simp only [hbid, Option.bind_none, hlazy, ↓reduceIte] at htail
      obtain ⟨i, hdec, hp⟩ := htail
      obtain ⟨dty, dref, dil⟩ := d
      cases dref with
      | builtin idx =>
        have hb : builtins[idx]? = none := by simpa [bidOf] using hbid
        simp only [callFun, hb]; exact Sim.stuck
      | host name beh =>
        cases beh with
        | force order =>
          simp only [callFun, ↓reduceIte]
          rw [bind_apply, emit_apply, seq_ok]
          obtain ⟨hlen, hrunT⟩ := layT_run (ρ := ρ) args ths C o o1 h1
          have hlw := length_le_WL args
          refine Sim.mono (Sim.pre (fun F => hrunT F s l) (Sim.stepNS (w := WL args + 1) fun F0 hF0 hns => ?_)) (by omega)
          rw [run_callneed hdec hp (popThunks_pushThunks ths s l _ hlen.symm), callLazy,
            ← forceSim hE h1 hda hwa hk.2 hF0 order none _ hns]
          rfl
        | _ => simp only [callFun, ↓reduceIte]; exact Sim.stuck

end

section
variable {funs : List FunDecl} {ρ : REnv} {P : Pool}

theorem simE_all (hρ : ρ.funs = funs) : ∀ f, SimE funs ρ P f := by
  intro f
  induction f with
  | zero => intro e C o o' s l hd; exact absurd hd (Nat.not_lt_zero _)
  | succ f ih =>
    intro e C o o' s l hd hl hw hk
    cases e with
    | call p col callee args cty resolved index =>
      exact simE_call hρ ih p col callee args cty resolved index C o o' s l hd hl hw hk
    | _ => exact simE_nocall ih _ C o o' s l hd hl hw hk (by intros; intro h; cases h)

/-- A code unit for `e`, run from offset 0 on an empty stack with at least `W e + 1` units of fuel, returns what
the evaluator returns (value or failure, and log) whenever the evaluator does not end in an internal fault. -/
theorem exec_correct (hρ : ρ.funs = funs) {e : Expr} {C : Code} (hU : LayU funs P C e)
    (hw : wa funs e = true) (hk : KA ρ e) {F : Nat} (hF : W e + 1 ≤ F) (l : List Event)
    (hns : NotStuck (eval (e.depth + 1) false ρ e l).1) :
    run F ρ P C 0 [] l = eval (e.depth + 1) false ρ e l :=
  have ⟨_, hlay, hret⟩ := hU
  thunk_run (simE_all hρ _) (Nat.lt_succ_self _) hlay hret hw hk hF hns

end

end Yae.VmSim
