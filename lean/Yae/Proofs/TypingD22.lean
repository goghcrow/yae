/-
  Witnesses for C05: the environment and call of finding D22 (the checker commits to the first
  polymorphic overload that unifies up to `⊥` absorption and rejects the program if the final
  equality test fails, although a later overload fits exactly), and a small environment
  satisfying `EnvOK` (non-vacuity of the C05 / C16 theorems).
-/
import Yae.Proofs.TypingCheck
import Yae.Proofs.CheckCall
namespace Yae

/-- D22 environment: two polymorphic overloads of `f`/1: `f(list['a]) num` then `f('a) str` -/
def d22Env : TEnv :=
  ⟨[], [⟨.fn "f" (.cons (.list (.var "a")) .nil) .num, .host "f1" (.constNum 0), false⟩,
        ⟨.fn "f" (.cons (.var "a") .nil) .str, .host "f2" (.constStr ""), false⟩], []⟩
/-- `f([][0])`: the argument has type `⊥` -/
def d22Expr : Expr :=
  .call Pos.unknown 0 (.ident Pos.unknown "f")
    (.cons (.subscript Pos.unknown 0 (.list Pos.unknown .nil none) (.num Pos.unknown 0) none) .nil)
    none "" 0

theorem d22_inst1 : instantiate (.cons (.list (.var "a")) .nil) .num (.cons .bot .nil) =
    some (.cons (.list (.var "a")) .nil, .num) := rfl
theorem d22_inst2 : instantiate (.cons (.var "a") .nil) .str (.cons .bot .nil) =
    some (.cons .bot .nil, .str) := rfl
theorem d22_mono : lookupMono d22Env.funs (monoKey "f" (.cons .bot .nil)) = none := rfl
theorem d22_poly : lookupPoly d22Env.funs (polyKey "f" (TyList.cons .bot .nil).length) =
    d22Env.funs := rfl

theorem d22_args {As : TyList} (h : TypedArgs d22Env
    (.cons (.subscript Pos.unknown 0 (.list Pos.unknown .nil none) (.num Pos.unknown 0) none) .nil)
    As) : As = .cons .bot .nil := by
  cases h with
  | cons h1 h2 =>
    cases h2
    cases h1 with
    | subList a _ _ => cases a; rfl
    | subMap a _ _ => cases a

/-- `.builtin 2` is the position of `ADD_NUM_NUM` in `builtins` -/
def exEnv : TEnv :=
  ⟨[("x", .num)],
   [⟨.fn "+" (.cons .num (.cons .num .nil)) .num, .builtin 2, false⟩], reservedWords⟩

theorem exEnv_ok : EnvOK exEnv where
  vars := by
    intro x T h
    simp only [TEnv.lookupVar, exEnv, List.find?] at h
    split at h <;> simp at h
    subst h; rfl
  funs := by
    intro d hd
    simp only [exEnv, List.mem_singleton] at hd
    subst hd
    exact ⟨_, _, _, rfl, fun _ => rfl, fun h => by simp [slotFree, slotFreeList] at h⟩

/-- `x + x` -/
def exExpr : Expr :=
  .call Pos.unknown 0 (.ident Pos.unknown "+")
    (.cons (.ident Pos.unknown "x") (.cons (.ident Pos.unknown "x") .nil)) none "" 0

theorem exExpr_typed : Typed exEnv exExpr .num :=
  .callMono (d := ⟨.fn "+" (.cons .num (.cons .num .nil)) .num, .builtin 2, false⟩)
    (.cons (.ident (notReserved_short rfl) rfl) (.cons (.ident (notReserved_short rfl) rfl) .nil))
    rfl rfl rfl rfl

theorem exExpr_checked : ∃ e', check exEnv 0 exExpr = .ok (.num, e', 0) := ⟨_, rfl⟩

end Yae
