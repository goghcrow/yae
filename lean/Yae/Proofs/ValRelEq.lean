/-
  C18, value level.  `Val.All P` (`P` at every node of a value) and the three conditions on values stated with
  it: `Val.WF`, `Val.Typed`, `Val.SelfEq` (what `valEq v v` needs: `C18.valEq_refl_iff`).  `Val.WF` is C18's own
  notion; no lemma relates it to `Sound.WF : Val → Bool` of `Spec/WF` (C01).  Then the assumed IEEE facts
  (`FloatFacts`), symmetry of `valEq`, tolerance-separated pairs (`Sep`) and "equal values render alike"
  (`valEq_imp_render'`).
  C13, value level: values that differ only in the insertion order of map entries at any depth (`PermEq`) have
  the same rendering and the same `string()` text.
-/
import Yae.Proofs.ValRel
namespace Yae

mutual
def Val.All (P : Val → Prop) : Val → Prop
  | .list ty vs => P (.list ty vs) ∧ ValList.All P vs
  | .map ty es => P (.map ty es) ∧ EntryList.All P es
  | .obj ty vs => P (.obj ty vs) ∧ ValList.All P vs
  | .just el v => P (.just el v) ∧ Val.All P v
  | .num x => P (.num x)
  | .str s => P (.str s)
  | .bool b => P (.bool b)
  | .time t => P (.time t)
  | .fn ty r l => P (.fn ty r l)
  | .nothing el => P (.nothing el)
  | .nil => P .nil
def ValList.All (P : Val → Prop) : ValList → Prop
  | .nil => True
  | .cons v vs => Val.All P v ∧ ValList.All P vs
def EntryList.All (P : Val → Prop) : EntryList → Prop
  | .nil => True
  | .cons _ _ v es => Val.All P v ∧ EntryList.All P es
end

theorem Val.All.self {P : Val → Prop} : ∀ {v : Val}, v.All P → P v
  | .list _ _, h | .map _ _, h | .obj _ _, h | .just _ _, h => by
    simp only [Val.All] at h; exact h.1
  | .num _, h | .str _, h | .bool _, h | .time _, h | .fn _ _ _, h | .nothing _, h | .nil, h => by
    simpa only [Val.All] using h

theorem ValList.all_iff (P : Val → Prop) : ∀ vs : ValList,
    vs.All P ↔ ∀ v ∈ vs.toList, v.All P
  | .nil => by simp [ValList.All, ValList.toList]
  | .cons v vs => by simp [ValList.All, ValList.toList, ValList.all_iff P vs]

theorem EntryList.all_iff (P : Val → Prop) : ∀ es : EntryList,
    es.All P ↔ ∀ e ∈ es.toList, e.2.2.All P
  | .nil => by simp [EntryList.All, EntryList.toList]
  | .cons t k v es => by simp [EntryList.All, EntryList.toList, EntryList.all_iff P es]

theorem Val.all_list {P : Val → Prop} {ty vs} :
    (Val.list ty vs).All P ↔ P (.list ty vs) ∧ ∀ v ∈ vs.toList, v.All P := by
  simp [Val.All, ValList.all_iff]
theorem Val.all_obj {P : Val → Prop} {ty vs} :
    (Val.obj ty vs).All P ↔ P (.obj ty vs) ∧ ∀ v ∈ vs.toList, v.All P := by
  simp [Val.All, ValList.all_iff]
theorem Val.all_map {P : Val → Prop} {ty es} :
    (Val.map ty es).All P ↔ P (.map ty es) ∧ ∀ e ∈ es.toList, e.2.2.All P := by
  simp [Val.All, EntryList.all_iff]
theorem Val.all_just {P : Val → Prop} {el v} :
    (Val.just el v).All P ↔ P (.just el v) ∧ v.All P := by
  simp [Val.All]

theorem Val.All.imp₂ {P Q R : Val → Prop} (h : ∀ u, P u → Q u → R u) :
    ∀ {v : Val}, v.All P → v.All Q → v.All R := by
  intro v
  induction v using Val.induct_mem with
  | list ty vs ih =>
    intro hp hq; rw [Val.all_list] at hp hq ⊢
    exact ⟨h _ hp.1 hq.1, fun v hm => ih v hm (hp.2 v hm) (hq.2 v hm)⟩
  | obj ty vs ih =>
    intro hp hq; rw [Val.all_obj] at hp hq ⊢
    exact ⟨h _ hp.1 hq.1, fun v hm => ih v hm (hp.2 v hm) (hq.2 v hm)⟩
  | map ty es ih =>
    intro hp hq; rw [Val.all_map] at hp hq ⊢
    exact ⟨h _ hp.1 hq.1, fun e hm => ih e hm (hp.2 e hm) (hq.2 e hm)⟩
  | just el v ih =>
    intro hp hq; rw [Val.all_just] at hp hq ⊢
    exact ⟨h _ hp.1 hq.1, ih hp.2 hq.2⟩
  | _ => intro hp hq; simp only [Val.All] at *; exact h _ hp hq

theorem Val.All.imp {P Q : Val → Prop} {v : Val} (hv : v.All P) (h : ∀ u, P u → Q u) : v.All Q :=
  Val.All.imp₂ (fun u hu _ => h u hu) hv hv

theorem Val.All.and {P Q : Val → Prop} {v : Val} (hp : v.All P) (hq : v.All Q) :
    v.All fun u => P u ∧ Q u :=
  Val.All.imp₂ (fun _ => And.intro) hp hq

/-- One node: own type well formed and of the right kind, an object has as many values as its type has
fields, map keys (tag, text) are pairwise distinct and carry the tag of the key type; no Go `nil` inside. -/
def Val.LocalWF : Val → Prop
  | .num _ | .str _ | .bool _ | .time _ => True
  | .list ty _ => ty.wf = true ∧ ∃ el, ty = .list el
  | .map ty es => ty.wf = true ∧ es.keys.Nodup ∧
      ∃ k v, ty = .map k v ∧ ∀ e ∈ es.toList, e.1 = k.kind
  | .obj ty vs => ty.wf = true ∧ ∃ fs, ty = .obj fs ∧ fs.length = vs.length
  | .fn ty _ _ => ty.wf = true ∧ ∃ n ps r, ty = .fn n ps r
  | .just el _ => el.wf = true
  | .nothing el => el.wf = true
  | .nil => False

def Val.WF (v : Val) : Prop := v.All Val.LocalWF

/-- The components' own types conform to the declared component types (`types.Equals`). -/
def Val.LocalTyped : Val → Prop
  | .list ty vs => ∀ el, ty = .list el → ∀ v ∈ vs.toList, tyEq v.typeOf el = true
  | .map ty es => ∀ k v, ty = .map k v → ∀ e ∈ es.toList, tyEq e.2.2.typeOf v = true
  | .obj ty vs => ∀ fs, ty = .obj fs → ∀ (i : Nat) n t v, fs.get? i = some (n, t) →
      vs.toList[i]? = some v → tyEq v.typeOf t = true
  | .just el v => tyEq v.typeOf el = true
  | _ => True
def Val.Typed (v : Val) : Prop := v.WF ∧ v.All Val.LocalTyped

theorem Val.WF.typeOf_wf : ∀ {v : Val}, v.WF → v.typeOf.wf = true
  | .num _, _ | .str _, _ | .bool _, _ | .time _, _ => by simp [Val.typeOf, Ty.wf]
  | .list _ _, h | .map _ _, h | .obj _ _, h | .fn _ _ _, h => by
    have := Val.All.self h; simp only [Val.LocalWF] at this; exact this.1
  | .just _ _, h | .nothing _, h => by
    have := Val.All.self h; simp only [Val.LocalWF] at this; simpa [Val.typeOf, Ty.wf] using this
  | .nil, h => by have := Val.All.self h; simp [Val.LocalWF] at this

/-- Every fact about `Float` (opaque to the kernel) and about the shortest round-trip formatting
algorithm that the C18 / C04 theorems rely on, as explicit hypotheses.  Nothing here is an axiom:
the theorems take a `FloatFacts` argument. -/
structure FloatFacts : Prop where
  /-- IEEE: `|x - y| = |y - x|`, so the tolerance test is symmetric. -/
  numEQ_symm : ∀ x y : Float, numEQ x y = numEQ y x
  /-- IEEE: `|(±0) - (±0)| = 0 < ε`. -/
  numEQ_zeros : ∀ x y : Float, Num.bitsIsZero x.toBits = true → Num.bitsIsZero y.toBits = true →
    numEQ x y = true
  /-- `Float.toBits` canonicalises NaN (documented behaviour of `Float.toBits`). -/
  nan_bits_unique : ∀ x y : Float, Num.bitsIsNaN x.toBits = true → Num.bitsIsNaN y.toBits = true →
    x.toBits = y.toBits
  /-- IEEE: for non-NaN `d`, `¬ (d < ε) ↔ d ≥ ε`; with `d = |x - y|`, which is NaN only if `x`
  or `y` is NaN or both are infinities of the same sign. -/
  numNE_eq_not_numEQ : ∀ x y : Float, Num.isFinite x = true → Num.isFinite y = true →
    numNE x y = !numEQ x y
  /-- `strconv.FormatFloat(x,'f',-1,64)` (shortest round-trip digits) is injective on the bit
  patterns that are rendered through it, NaN payloads aside. -/
  fmtFloat_injective : ∀ a b : UInt64, Num.isIntBits a = false → Num.isIntBits b = false →
    Num.fmtFloatBits a = Num.fmtFloatBits b → a = b ∨ (Num.bitsIsNaN a = true ∧ Num.bitsIsNaN b = true)
  /-- an integer text (`FormatInt`) is never the text of a value rendered through `FormatFloat`
  (those have a fraction, or at least 19 digits, or are `NaN` / `±Inf`). -/
  fmtInt_ne_fmtFloat : ∀ a b : UInt64, Num.isIntBits a = true → Num.isIntBits b = false →
    Num.fmtInt (Num.toInt64Bits a) ≠ Num.fmtFloatBits b

theorem tyEqFields_mem : ∀ (gs fs : FieldList), tyEqFields gs fs = true →
    ∀ n ∈ gs.names, n ∈ fs.names := by
  intro gs fs h n hn
  obtain ⟨t, ht⟩ := Option.isSome_iff_exists.1 ((FieldList.find?_isSome_iff gs n).2 hn)
  obtain ⟨u, hu, _⟩ := tyEqFields_find gs fs n t h ht
  exact (FieldList.find?_isSome_iff fs n).1 (by rw [hu]; rfl)

theorem wf_obj_nodup {fs : FieldList} (h : (Ty.obj fs).wf = true) : fs.names.Nodup :=
  wfFields_nodup fs (by simpa [Ty.wf] using h)

theorem valEq_symm_imp (hsym : ∀ a b : Float, numEQ a b = numEQ b a) {x y : Val} (hx : x.WF)
    (hy : y.WF) (h : valEq x y = true) : valEq y x = true := by
  induction x using Val.induct_mem generalizing y with
  | num a =>
    cases y with
    | num b => rw [valEq_num, hsym]; exact valEq_inv h
    | _ => exact (valEq_inv h).elim
  | str a =>
    cases y with
    | str b => rw [valEq_inv h, valEq_str]; exact beq_self_eq_true b
    | _ => exact (valEq_inv h).elim
  | bool a =>
    cases y with
    | bool b => rw [valEq_inv h, valEq_bool]; exact beq_self_eq_true b
    | _ => exact (valEq_inv h).elim
  | time a =>
    cases y with
    | time b =>
      have := valEq_inv h
      simp only [TimeV.equal, Bool.and_eq_true, beq_iff_eq] at this
      simp [valEq_time, TimeV.equal, this]
    | _ => exact (valEq_inv h).elim
  | fn => cases y <;> exact (valEq_inv h).elim
  | nil => exact absurd (Val.All.self hx) (by simp [Val.LocalWF])
  | nothing el =>
    cases y with
    | nothing el' =>
      rw [valEq_nothing, tyEq_symm' (Val.All.self hy) (Val.All.self hx)]; exact valEq_inv h
    | _ => exact (valEq_inv h).elim
  | just el v ih =>
    cases y with
    | just el' w =>
      obtain ⟨ht, hv⟩ := valEq_inv h
      rw [valEq_just, tyEq_symm' (Val.all_just.1 hy).1 (Val.all_just.1 hx).1, ht,
        ih (Val.all_just.1 hx).2 (Val.all_just.1 hy).2 hv]
      rfl
    | _ => exact (valEq_inv h).elim
  | list tx xs ih =>
    cases y with
    | list ty ys =>
      obtain ⟨ht, hl, hv⟩ := valEq_inv h
      have hx' := Val.all_list.1 hx
      have hy' := Val.all_list.1 hy
      rw [valEq_list, tyEq_symm' (a := ty) (b := tx) hy.typeOf_wf hx.typeOf_wf]
      simp only [Bool.and_eq_true, beq_iff_eq]
      refine ⟨ht, hl.symm, ?_⟩
      rw [valEqList_iff] at hv ⊢
      refine ⟨hv.1.symm, fun i v w hv1 hw1 => ?_⟩
      have hwm := List.mem_of_getElem? hw1
      exact ih w hwm (hx'.2 w hwm) (hy'.2 v (List.mem_of_getElem? hv1)) (hv.2 i w v hw1 hv1)
    | _ => exact (valEq_inv h).elim
  | map tx xs ih =>
    cases y with
    | map ty ys =>
      obtain ⟨ht, hl, hv⟩ := valEq_inv h
      have hx' := Val.all_map.1 hx
      have hy' := Val.all_map.1 hy
      have hndx : xs.keys.Nodup := hx'.1.2.1
      have hndy : ys.keys.Nodup := hy'.1.2.1
      rw [valEq_map, tyEq_symm' (a := ty) (b := tx) hy.typeOf_wf hx.typeOf_wf]
      simp only [Bool.and_eq_true, beq_iff_eq]
      refine ⟨ht, hl.symm, ?_⟩
      rw [valEqEntries_iff_matches hndy] at hv
      rw [valEqEntries_iff_matches hndx]
      refine (hv.symm hndx hndy ?_).imp fun b hb a ha _ hab =>
        ih a ha (hx'.2 a ha) (hy'.2 b hb) hab
      rw [EntryList.length_toList, EntryList.length_toList, hl]
    | _ => exact (valEq_inv h).elim
  | obj tx xs ih =>
    cases y with
    | obj ty ys =>
      have hx' := Val.all_obj.1 hx
      have hy' := Val.all_obj.1 hy
      obtain ⟨hwx, fs, rfl, hlx⟩ := hx'.1
      obtain ⟨hwy, gs, rfl, hly⟩ := hy'.1
      obtain ⟨ht, hl, _, hfs, hv⟩ := valEq_inv h
      cases hfs
      have hndx := wf_obj_nodup hwx
      have hndy := wf_obj_nodup hwy
      rw [valEq_obj, tyEq_symm' hwy hwx, ht]
      simp only [Bool.and_eq_true, beq_iff_eq]
      refine ⟨trivial, hl.symm, ?_⟩
      rw [valEqFields_iff_matches hndy] at hv
      rw [valEqFields_iff_matches hndx]
      refine (hv.symm (objPairs_nodup xs hndx) (objPairs_nodup ys hndy) ?_).imp
        fun q hq p hp _ hpq => ih p.2 (List.of_mem_zip hp).2 (hx'.2 _ (List.of_mem_zip hp).2)
          (hy'.2 _ (List.of_mem_zip hq).2) hpq
      rw [length_objPairs hlx, length_objPairs hly, hl]
    | _ => exact (valEq_inv h).elim

/-- Not equal to itself: a number not within tolerance of itself (NaN, ±Inf: `|x - x|` is NaN), and a
function value (compared by pointer identity; every occurrence is a distinct pointer in the model). -/
def Val.LocalSelfEq : Val → Prop
  | .num x => numEQ x x = true
  | .fn _ _ _ => False
  | _ => True

def Val.SelfEq (v : Val) : Prop := v.All Val.LocalSelfEq

/-- Same shape (list elements by index, map values by key, object fields by name) and at corresponding leaves
* numbers are within tolerance exactly when bit-identical (this excludes a NaN / ±Inf leaf);
* (display, see `C18.time_equal_render_differs`) equal instants are displayed in the same zone;
* (display, see `C18.nothing_equal_render_differs`) the element types of optionals, when `tyEq`, render alike
  (`Ty.render` lists object fields in declaration order). -/
inductive Sep : Val → Val → Prop
  | num {a b : Float} : (numEQ a b = true ↔ a.toBits = b.toBits) → Sep (.num a) (.num b)
  | str (a b : String) : Sep (.str a) (.str b)
  | bool (a b : Bool) : Sep (.bool a) (.bool b)
  | time {a b : TimeV} : (a.equal b = true → a.offset = b.offset ∧ a.zone = b.zone) →
      Sep (.time a) (.time b)
  | list {tx ty : Ty} {xs ys : ValList} :
      (∀ (i : Nat) v w, xs.toList[i]? = some v → ys.toList[i]? = some w → Sep v w) →
      Sep (.list tx xs) (.list ty ys)
  | map {tx ty : Ty} {xs ys : EntryList} :
      (∀ t k v w, xs.find? t k = some v → ys.find? t k = some w → Sep v w) →
      Sep (.map tx xs) (.map ty ys)
  | obj {tx ty : Ty} {xs ys : ValList} :
      (∀ n v w, objGet? tx xs n = some v → objGet? ty ys n = some w → Sep v w) →
      Sep (.obj tx xs) (.obj ty ys)
  | fn (tx ty : Ty) (r r' : FunRef) (l l' : Bool) : Sep (.fn tx r l) (.fn ty r' l')
  | just {ea eb : Ty} {a b : Val} : (tyEq ea eb = true → ea.render = eb.render) → Sep a b →
      Sep (.just ea a) (.just eb b)
  | nothing {ea eb : Ty} : (tyEq ea eb = true → ea.render = eb.render) →
      Sep (.nothing ea) (.nothing eb)

theorem Sep.list_of_mem {tx ty : Ty} {xs ys : ValList}
    (h : ∀ v ∈ xs.toList, ∀ w ∈ ys.toList, Sep v w) : Sep (.list tx xs) (.list ty ys) :=
  Sep.list fun _ _ _ h1 h2 => h _ (List.mem_of_getElem? h1) _ (List.mem_of_getElem? h2)

theorem Sep.map_of_entries {tx ty : Ty} {xs ys : EntryList}
    (h : ∀ a ∈ xs.toList, ∀ b ∈ ys.toList, entryKey a = entryKey b → Sep a.2.2 b.2.2) :
    Sep (.map tx xs) (.map ty ys) :=
  Sep.map fun _ _ _ _ h1 h2 =>
    h _ (EntryList.find?_some_mem _ _ _ _ h1) _ (EntryList.find?_some_mem _ _ _ _ h2) rfl

theorem Sep.obj_of_pairs {fs gs : FieldList} {xs ys : ValList}
    (h : ∀ p ∈ objPairs fs xs, ∀ q ∈ objPairs gs ys, p.1 = q.1 → Sep p.2 q.2) :
    Sep (.obj (.obj fs) xs) (.obj (.obj gs) ys) :=
  Sep.obj fun _ _ _ h1 h2 =>
    h _ (objGet?_some_mem _ _ _ _ h1) _ (objGet?_some_mem _ _ _ _ h2) rfl

theorem valEq_imp_render' : ∀ x y : Val, x.WF → y.WF → Sep x y → valEq x y = true →
    x.render = y.render := by
  intro x y hx hy hs h
  induction hs with
  | num hiff => simp only [Val.render, Num.renderNum, hiff.1 (valEq_inv h)]
  | str | bool => rw [valEq_inv h]
  | time hz => rw [TimeV.eq_of_equal (valEq_inv h) (hz (valEq_inv h))]
  | fn => exact (valEq_inv h).elim
  | nothing hr => simp only [Val.render, hr (valEq_inv h)]
  | just hr _ ih =>
    obtain ⟨ht, hv⟩ := valEq_inv h
    simp only [Val.render, hr ht, ih (Val.all_just.1 hx).2 (Val.all_just.1 hy).2 hv]
  | @list _ _ xs ys _ ih =>
    obtain ⟨_, _, hv⟩ := valEq_inv h
    have hx' := Val.all_list.1 hx
    have hy' := Val.all_list.1 hy
    rw [valEqList_iff] at hv
    simp only [Val.render, renderVals_eq]
    rw [map_eq_of_index Val.render _ _ hv.1 fun i v w hv1 hw1 =>
      ih i v w hv1 hw1 (hx'.2 v (List.mem_of_getElem? hv1)) (hy'.2 w (List.mem_of_getElem? hw1))
        (hv.2 i v w hv1 hw1)]
  | @map _ _ xs ys _ ih =>
    obtain ⟨_, hl, hv⟩ := valEq_inv h
    have hx' := Val.all_map.1 hx
    have hy' := Val.all_map.1 hy
    obtain ⟨_, hndx, kx, vx, _, htx⟩ := hx'.1
    have hndy : ys.keys.Nodup := hy'.1.2.1
    rw [valEqEntries_iff_matches hndy] at hv
    -- partners render alike, so the (key, text) pairs agree up to order
    have hp := (hv.imp (Q := fun a b => a.2.2.render = b.2.2.render) fun a ha b hb hk hab =>
      ih _ _ _ _ (EntryList.find?_of_mem_key hndx ha rfl) (EntryList.find?_of_mem_key hndy hb hk)
        (hx'.2 a ha) (hy'.2 b hb) hab).perm_map hndx hndy
      (by rw [EntryList.length_toList, EntryList.length_toList, hl])
    rw [render_map, render_map, renderEntries_eq, renderEntries_eq]
    have hp' := hp.map (fun p => (p.1.2, p.2))
    simp only [List.map_map, Function.comp_def] at hp'
    apply mapText_perm hp'
    simpa [EntryList.keyTexts, List.map_map, Function.comp_def] using
      EntryList.keyTexts_nodup_of_tag htx hndx
  | @obj _ _ xs ys _ ih =>
    have hx' := Val.all_obj.1 hx
    have hy' := Val.all_obj.1 hy
    obtain ⟨hwx, fs, rfl, hlx⟩ := hx'.1
    obtain ⟨hwy, gs, rfl, hly⟩ := hy'.1
    obtain ⟨_, hl, _, hfs, hv⟩ := valEq_inv h
    cases hfs
    have hndx := wf_obj_nodup hwx
    have hndy := wf_obj_nodup hwy
    rw [valEqFields_iff_matches hndy] at hv
    have hp := (hv.imp (Q := fun p q => p.2.render = q.2.render) fun p hp q hq hk hpq =>
      ih p.1 _ _ (mem_objGet?_of_nodup fs xs _ _ hndx hp)
        (hk ▸ mem_objGet?_of_nodup gs ys _ _ hndy hq) (hx'.2 _ (List.of_mem_zip hp).2)
        (hy'.2 _ (List.of_mem_zip hq).2) hpq).perm_map
      (objPairs_nodup xs hndx) (objPairs_nodup ys hndy)
      (by rw [length_objPairs hlx, length_objPairs hly, hl])
    rw [render_obj, render_obj, objPairs_render, objPairs_render]
    exact objText_perm hp (by simpa [List.map_map, Function.comp_def] using objPairs_nodup xs hndx)

/-- `y` is `x` with the entries of any number of maps inside re-ordered.  Maps must have pairwise distinct
key texts (true of every well-formed map). -/
inductive PermEq : Val → Val → Prop
  | refl (v : Val) : PermEq v v
  | list {ty : Ty} {xs ys : ValList} (hlen : xs.toList.length = ys.toList.length)
      (h : ∀ (i : Nat) v w, xs.toList[i]? = some v → ys.toList[i]? = some w → PermEq v w) :
      PermEq (.list ty xs) (.list ty ys)
  | obj {ty : Ty} {xs ys : ValList} (hlen : xs.toList.length = ys.toList.length)
      (h : ∀ (i : Nat) v w, xs.toList[i]? = some v → ys.toList[i]? = some w → PermEq v w) :
      PermEq (.obj ty xs) (.obj ty ys)
  | just {el : Ty} {v w : Val} (h : PermEq v w) : PermEq (.just el v) (.just el w)
  /-- same keys in the same order with related values (`es₁` / `es₁'`), then a permutation -/
  | map {ty : Ty} {es₁ es₁' es₂ : EntryList} (hnd : es₁.keyTexts.Nodup)
      (hlen : es₁.toList.length = es₁'.toList.length)
      (hk : ∀ (i : Nat) e e', es₁.toList[i]? = some e → es₁'.toList[i]? = some e' →
        e.1 = e'.1 ∧ e.2.1 = e'.2.1)
      (hv : ∀ (i : Nat) e e', es₁.toList[i]? = some e → es₁'.toList[i]? = some e' →
        PermEq e.2.2 e'.2.2)
      (hp : es₁'.toList.Perm es₂.toList) : PermEq (.map ty es₁) (.map ty es₂)

theorem vals_texts_congr {xs ys : ValList} (hlen : xs.toList.length = ys.toList.length)
    (h : ∀ (i : Nat) v w, xs.toList[i]? = some v → ys.toList[i]? = some w →
      v.render = w.render ∧ v.stringify = w.stringify) :
    renderVals xs = renderVals ys ∧ stringifyVals xs = stringifyVals ys := by
  rw [renderVals_eq, renderVals_eq, stringifyVals_eq, stringifyVals_eq]
  exact ⟨map_eq_of_index _ _ _ hlen fun i v w hv hw => (h i v w hv hw).1,
    map_eq_of_index _ _ _ hlen fun i v w hv hw => (h i v w hv hw).2⟩

theorem PermEq.texts {x y : Val} (h : PermEq x y) :
    x.render = y.render ∧ x.stringify = y.stringify := by
  induction h with
  | refl v => exact ⟨rfl, rfl⟩
  | list hlen _ ih =>
    obtain ⟨hr, hs⟩ := vals_texts_congr hlen ih
    simp only [Val.render, Val.stringify, hr, hs, and_self]
  | @obj ty _ _ hlen _ ih =>
    obtain ⟨hr, hs⟩ := vals_texts_congr hlen ih
    cases ty <;> simp [Val.render, Val.stringify, hr, hs]
  | just _ ih => simp [Val.render, Val.stringify, ih.1, ih.2]
  | @map _ es₁ es₁' es₂ hnd hlen hk _ hp ih =>
    -- for either text function `f`: first the values entry by entry, then the permutation
    have key : ∀ f : Val → String,
        (∀ (i : Nat) e e', es₁.toList[i]? = some e → es₁'.toList[i]? = some e' →
          f e.2.2 = f e'.2.2) →
        mapText (es₁.toList.map fun e => (e.2.1, f e.2.2)) =
          mapText (es₂.toList.map fun e => (e.2.1, f e.2.2)) := by
      intro f hf
      have he := map_eq_of_index (fun e : Kind × String × Val => (e.2.1, f e.2.2)) _ _ hlen
        (fun i e e' he he' => by rw [(hk i e e' he he').2, hf i e e' he he'])
      rw [he]
      apply mapText_perm (hp.map _)
      rw [← he]
      simpa [EntryList.keyTexts, List.map_map, Function.comp_def] using hnd
    exact ⟨by
        rw [render_map, render_map, renderEntries_eq, renderEntries_eq]
        exact key _ fun i e e' he he' => (ih i e e' he he').1, by
        rw [stringify_map, stringify_map, stringifyEntries_eq, stringifyEntries_eq]
        exact key _ fun i e e' he he' => (ih i e e' he he').2⟩

theorem PermEq.of_perm {ty : Ty} {es₁ es₂ : EntryList} (hnd : es₁.keyTexts.Nodup)
    (hp : es₁.toList.Perm es₂.toList) : PermEq (.map ty es₁) (.map ty es₂) :=
  PermEq.map hnd rfl
    (fun i e e' he he' => by rw [he] at he'; cases he'; exact ⟨rfl, rfl⟩)
    (fun i e e' he he' => by rw [he] at he'; cases he'; exact PermEq.refl _) hp

end Yae
