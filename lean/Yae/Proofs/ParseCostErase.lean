/-
  Erasure for the instrumented parser (`Yae/Spec/ParseCost.lean`): dropping the counter from
  `pExprC`, … gives exactly the model functions `pExpr`, … (`erase_all`); hence `parseWithC` /
  `parseC` are `parseWith` / `parse` plus a counter.  `nudResC`, `ledResC` as in `Parse`.
-/
import Yae.Spec.ParseCost
import Yae.Proofs.Parse
namespace Yae

def nudResC (env : PEnv) (f : Nat) (t : Token) (i : Nat) (bp : BP) (nud : Nud) : PResC Expr :=
match nud with
| .ident => (.ok (.ident t.pos t.lexeme, i), 0)
| .true_ => (.ok (.bool t.pos true, i), 0)
| .false_ => (.ok (.bool t.pos false, i), 0)
| .num =>
  match Num.parseNumLit t.lexeme with
  | some v => (.ok (.num t.pos v, i), 0)
  | none => (.error .syntax, 0)
| .str =>
  match Num.unquote t.lexeme with
  | some v => (.ok (.str t.pos v, i), 0)
  | none => (.error .syntax, 0)
| .time =>
  match env.timeLit t with
  | .ok e => (.ok (e, i), 0)
  | .error e => (.error e, 0)
| .group =>
  match pExprC env f 0 i with
  | (.error e, c) => (.error e, c)
  | (.ok (e, i), c) =>
    match env.mustEat ")" i with
    | .error e => (.error e, c)
    | .ok (rp, i) =>
      match Pos.range t.pos rp.pos with
      | .error e => (.error e, c)
      | .ok rg => (.ok (.group rg e, i), c)
| .unaryPrefix =>
  match pExprC env f bp i with
  | (.error e, c) => (.error e, c)
  | (.ok (e, i), c) =>
    match Pos.range t.pos e.pos with
    | .error e => (.error e, c)
    | .ok rg => (.ok (.unary rg t.lexeme t.pos e true, i), c)
| .listMap =>
  if (env.peek i).kind == ":" then
    match env.mustEat "]" (env.adv i) with
    | .error e => (.error e, 0)
    | .ok (rb, i) =>
      match Pos.range t.pos rb.pos with
      | .error e => (.error e, 0)
      | .ok rg => (.ok (.map rg .nil none, i), 0)
  else
    if (env.peek i).kind == "]" then
      match env.mustEat "]" i with
      | .error e => (.error e, 0)
      | .ok (rb, i) =>
        match Pos.range t.pos rb.pos with
        | .error e => (.error e, 0)
        | .ok rg => (.ok (.list rg .nil none, i), 0)
    else
      match pExprC env f 0 i with
      | (.error e, c) => (.error e, c)
      | (.ok (fst, i), c) =>
        if (env.peek i).kind == ":" then
          match pExprC env f 0 (env.adv i) with
          | (.error e, c₂) => (.error e, c + c₂)
          | (.ok (v, i), c₂) =>
            let rest : PResC (List (Expr × Expr)) :=
              if (env.peek i).kind == "," then pMapC env f [(fst, v)] (env.adv i)
              else (.ok ([(fst, v)], i), 0)
            match rest with
            | (.error e, c₃) => (.error e, c + c₂ + c₃)
            | (.ok (ps, i), c₃) =>
              match env.mustEat "]" i with
              | .error e => (.error e, c + c₂ + c₃)
              | .ok (rb, i) =>
                match Pos.range t.pos rb.pos with
                | .error e => (.error e, c + c₂ + c₃)
                | .ok rg =>
                  (.ok (.map rg (PairList.ofList ps.reverse) none, i), c + c₂ + c₃)
        else
          let rest : PResC (List Expr) :=
            if (env.peek i).kind == "," then pListC env f [fst] (env.adv i)
            else (.ok ([fst], i), 0)
          match rest with
          | (.error e, c₂) => (.error e, c + c₂)
          | (.ok (els, i), c₂) =>
            match env.mustEat "]" i with
            | .error e => (.error e, c + c₂)
            | .ok (rb, i) =>
              match Pos.range t.pos rb.pos with
              | .error e => (.error e, c + c₂)
              | .ok rg => (.ok (.list rg (ExprList.ofList els.reverse) none, i), c + c₂)
| .obj =>
  match pObjC env f [] i with
  | (.error e, c) => (.error e, c)
  | (.ok (fs, i), c) =>
    match env.mustEat "}" i with
    | .error e => (.error e, c)
    | .ok (rb, i) =>
      match Pos.range t.pos rb.pos with
      | .error e => (.error e, c)
      | .ok rg => (.ok (.obj rg (FieldEList.ofList fs.reverse) none, i), c)

def ledResC (env : PEnv) (f : Nat) (left : Expr) (t : Token) (i : Nat) (bp : BP) (led : Led) :
    PResC Expr :=
match led with
| .binaryL =>
  match pExprC env f bp i with
  | (.error e, c) => (.error e, c)
  | (.ok (rhs, i), c) =>
    match Pos.range left.pos rhs.pos with
    | .error e => (.error e, c)
    | .ok rg => (.ok (.binary rg t.lexeme t.pos fixInfixL left rhs, i), c)
| .binaryR =>
  match pExprC env f (bpPred bp) i with
  | (.error e, c) => (.error e, c)
  | (.ok (rhs, i), c) =>
    match Pos.range left.pos rhs.pos with
    | .error e => (.error e, c)
    | .ok rg => (.ok (.binary rg t.lexeme t.pos fixInfixR left rhs, i), c)
| .binaryN =>
  match pExprC env f bp i with
  | (.error e, c) => (.error e, c)
  | (.ok (rhs, i), c) =>
    match Pos.range left.pos rhs.pos with
    | .error e => (.error e, c)
    | .ok rg => (.ok (.binary rg t.lexeme t.pos fixInfixN left rhs, i), c)
| .unaryPostfix =>
  match Pos.range left.pos t.pos with
  | .error e => (.error e, 0)
  | .ok rg => (.ok (.unary rg t.lexeme t.pos left false, i), 0)
| .question =>
  match pExprC env f 0 i with
  | (.error e, c) => (.error e, c)
  | (.ok (m, i), c) =>
    match env.mustEat ":" i with
    | .error e => (.error e, c)
    | .ok (_, i) =>
      match pExprC env f (bpPred bp) i with
      | (.error e, c₂) => (.error e, c + c₂)
      | (.ok (r, i), c₂) =>
        match Pos.range left.pos r.pos with
        | .error e => (.error e, c + c₂)
        | .ok rg => (.ok (.ternary rg t.lexeme t.pos left m r, i), c + c₂)
| .call => pCallC env f left t i
| .dot =>
  let name := env.peek i
  let i := env.adv i
  match Pos.range left.pos name.pos with
  | .error e => (.error e, 0)
  | .ok rg =>
    let mem := Expr.member rg t.pos.col left name.lexeme name.pos none (-1)
    let lp := env.peek i
    if lp.kind == "(" then pCallC env f mem lp (env.adv i)
    else (.ok (mem, i), 0)
| .subscript =>
  match pExprC env f 0 i with
  | (.error e, c) => (.error e, c)
  | (.ok (ix, i), c) =>
    match env.mustEat "]" i with
    | .error e => (.error e, c)
    | .ok (rb, i) =>
      match Pos.range left.pos rb.pos with
      | .error e => (.error e, c)
      | .ok rg => (.ok (.subscript rg t.pos.col left ix none, i), c)

/-- the outcome of a tail call, counted after the `k` calls made before it and the caller itself -/
def PResC.tick {α : Type} (k : Nat) (r : PResC α) : PResC α := (r.1, k + r.2 + 1)

theorem pExprC_succ (env : PEnv) (f : Nat) (rbp : BP) (i : Nat) :
    pExprC env (f + 1) rbp i =
      match tableLookup (env.peek i).kind env.g.prefixs with
      | none => (.error .syntax, 1)
      | some (bp, nud) =>
        match nudResC env f (env.peek i) (env.adv i) bp nud with
        | (.error e, c) => (.error e, c + 1)
        | (.ok (left, j), c) =>
          (pInfixC env f left rbp j).tick c := by rw [pExprC]; rfl

theorem pInfixC_succ (env : PEnv) (f : Nat) (left : Expr) (rbp : BP) (i : Nat) :
    pInfixC env (f + 1) left rbp i =
      if env.g.infixLbp (env.peek i).kind > rbp then
        match tableLookup (env.peek i).kind env.g.infixs with
        | none => (.error .syntax, 1)
        | some (bp, led) =>
          match ledResC env f left (env.peek i) (env.adv i) bp led with
          | (.error e, c) => (.error e, c + 1)
          | (.ok (e, j), c) =>
            match infixNCheck e with
            | .error e => (.error e, c + 1)
            | .ok e => (pInfixC env f e rbp j).tick c
      else
        match infixNCheck left with
        | .error e => (.error e, 1)
        | .ok e => (.ok (e, i), 1) := rfl

theorem pCallC_succ (env : PEnv) (f : Nat) (callee : Expr) (t : Token) (i : Nat) :
    pCallC env (f + 1) callee t i =
      match (if (env.peek i).kind == ")" then (.ok ([], i), 0) else pArgsC env f [] i :
          PResC (List Expr)) with
      | (.error e, c) => (.error e, c + 1)
      | (.ok (as, i), c) =>
        match env.mustEat ")" i with
        | .error e => (.error e, c + 1)
        | .ok (rp, i) =>
          match Pos.range callee.pos rp.pos with
          | .error e => (.error e, c + 1)
          | .ok rg =>
            (.ok (.call rg t.pos.col callee (ExprList.ofList as.reverse) none "" (-1), i), c + 1) :=
  rfl

theorem pArgsC_succ (env : PEnv) (f : Nat) (acc : List Expr) (i : Nat) :
    pArgsC env (f + 1) acc i =
      match pExprC env f 0 i with
      | (.error e, c) => (.error e, c + 1)
      | (.ok (a, i), c) =>
        if (env.peek i).kind == "," then
          (pArgsC env f (a :: acc) (env.adv i)).tick c
        else (.ok (a :: acc, i), c + 1) := rfl

theorem pListC_succ (env : PEnv) (f : Nat) (acc : List Expr) (i : Nat) :
    pListC env (f + 1) acc i =
      if (env.peek i).kind == "]" then (.ok (acc, i), 1)
      else
        match pExprC env f 0 i with
        | (.error e, c) => (.error e, c + 1)
        | (.ok (el, i), c) =>
          if (env.peek i).kind == "," then
            (pListC env f (el :: acc) (env.adv i)).tick c
          else (.ok (el :: acc, i), c + 1) := rfl

theorem pMapC_succ (env : PEnv) (f : Nat) (acc : List (Expr × Expr)) (i : Nat) :
    pMapC env (f + 1) acc i =
      if (env.peek i).kind == "]" then (.ok (acc, i), 1)
      else
        match pExprC env f 0 i with
        | (.error e, c) => (.error e, c + 1)
        | (.ok (k, i), c) =>
          match env.mustEat ":" i with
          | .error e => (.error e, c + 1)
          | .ok (_, i) =>
            match pExprC env f 0 i with
            | (.error e, c₂) => (.error e, c + c₂ + 1)
            | (.ok (v, i), c₂) =>
              if (env.peek i).kind == "," then
                (pMapC env f ((k, v) :: acc) (env.adv i)).tick (c + c₂)
              else (.ok ((k, v) :: acc, i), c + c₂ + 1) := rfl

theorem pObjC_succ (env : PEnv) (f : Nat) (acc : List (String × Expr)) (i : Nat) :
    pObjC env (f + 1) acc i =
      if (env.peek i).kind == "}" then (.ok (acc, i), 1)
      else
        match env.mustEat "<sym>" i with
        | .error e => (.error e, 1)
        | .ok (n, i) =>
          match env.mustEat ":" i with
          | .error e => (.error e, 1)
          | .ok (_, i) =>
            match pExprC env f 0 i with
            | (.error e, c) => (.error e, c + 1)
            | (.ok (v, i), c) =>
              if (env.peek i).kind == "," then
                (pObjC env f ((n.lexeme, v) :: acc) (env.adv i)).tick c
              else (.ok ((n.lexeme, v) :: acc, i), c + 1) := rfl

structure EraseAt (env : PEnv) (f : Nat) : Prop where
  exprE : ∀ rbp i, pExpr env f rbp i = (pExprC env f rbp i).1
  infixE : ∀ l rbp i, pInfix env f l rbp i = (pInfixC env f l rbp i).1
  callE : ∀ c t i, pCall env f c t i = (pCallC env f c t i).1
  argsE : ∀ acc i, pArgs env f acc i = (pArgsC env f acc i).1
  listE : ∀ acc i, pList env f acc i = (pListC env f acc i).1
  mapE : ∀ acc i, pMap env f acc i = (pMapC env f acc i).1
  objE : ∀ acc i, pObj env f acc i = (pObjC env f acc i).1

/-- a branch that makes no call counts `0`: the shape of `rest` in `pExprC`, `args` in `pCallC` -/
theorem ite_fst_call {α : Type} (c : Prop) [Decidable c] (a : PResC α) (x : PRes α) :
    (if c then a.1 else x) = (if c then a else (x, 0)).1 := by split <;> rfl
theorem ite_fst_stop {α : Type} (c : Prop) [Decidable c] (a : PResC α) (x : PRes α) :
    (if c then x else a.1) = (if c then (x, 0) else a).1 := by split <;> rfl

/- Each path through an instrumented function comes with an equation for every call and test on
it; the model function, unfolded, takes the same path under these equations. -/

theorem erase_nud {env : PEnv} {f : Nat} (ih : EraseAt env f) (t : Token) (i : Nat) (bp : BP)
    (nud : Nud) : nudRes env f t i bp nud = (nudResC env f t i bp nud).1 := by
  unfold nudResC
  cases nud <;> simp only []
  all_goals repeat' split
  all_goals simp only [↓reduceIte, Bool.false_eq_true, nudRes, ih.exprE, ih.listE, ih.mapE,
    ih.objE, ite_fst_call, *]

theorem erase_led {env : PEnv} {f : Nat} (ih : EraseAt env f) (left : Expr) (t : Token) (i : Nat)
    (bp : BP) (led : Led) : ledRes env f left t i bp led = (ledResC env f left t i bp led).1 := by
  unfold ledResC
  cases led <;> simp only []
  all_goals repeat' split
  all_goals simp only [↓reduceIte, Bool.false_eq_true, ledRes, ih.exprE, ih.callE, *]

theorem erase_succ {env : PEnv} {f : Nat} (ih : EraseAt env f) : EraseAt env (f + 1) := by
  refine ⟨fun rbp i => ?exprE, fun l rbp i => ?infixE, fun c t i => ?callE, fun acc i => ?argsE,
    fun acc i => ?listE, fun acc i => ?mapE, fun acc i => ?objE⟩
  case' exprE => rw [pExprC_succ]
  case' infixE => rw [pInfixC_succ]
  case' callE => rw [pCallC_succ]
  case' argsE => rw [pArgsC_succ]
  case' listE => rw [pListC_succ]
  case' mapE => rw [pMapC_succ]
  case' objE => rw [pObjC_succ]
  all_goals
    repeat' split
    all_goals simp only [↓reduceIte, Bool.false_eq_true, pExpr_succ, pInfix_succ, pCall_succ,
      pArgs_succ, pList_succ, pMap_succ, pObj_succ, erase_nud ih, erase_led ih, ih.exprE,
      ih.infixE, ih.argsE, ih.listE, ih.mapE, ih.objE, ite_fst_stop, PResC.tick, *]

theorem erase_all (env : PEnv) (f : Nat) : EraseAt env f := by
  induction f with
  | zero => exact ⟨fun _ _ => rfl, fun _ _ _ => rfl, fun _ _ _ => rfl, fun _ _ => rfl,
      fun _ _ => rfl, fun _ _ => rfl, fun _ _ => rfl⟩
  | succ f ih => exact erase_succ ih

/-- the final `mustEat` is not a call: `parseWithC` is `parseWith` beside the count of its `pExprC` -/
theorem parseWithC_eq (fuel : Nat) (ops : List Operator) (times : List (String × Int))
    (toks : List Token) : parseWithC fuel ops times toks =
      (parseWith fuel ops times toks, (pExprC (mkEnv ops times toks) fuel 0 0).2) := by
  unfold parseWithC parseWith mkEnv
  simp only [(erase_all _ _).exprE]
  repeat' split
  all_goals grind

theorem parseWithC_erase (fuel : Nat) (ops : List Operator) (times : List (String × Int))
    (toks : List Token) : (parseWithC fuel ops times toks).1 = parseWith fuel ops times toks := by
  rw [parseWithC_eq]

theorem parseC_erase (ops : List Operator) (times : List (String × Int)) (toks : List Token) :
    (parseC ops times toks).1 = parse ops times toks :=
  parseWithC_erase _ ops times toks

end Yae
