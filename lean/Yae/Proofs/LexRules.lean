/-
  The lexicon (`newLexicon`, `sortOps`, `Matcher.run`) for C09 / C12: which rules can produce
  which kinds, progress, whole words, the `primOper` guard, longest symbolic operator first.
-/
import Yae.Proofs.Lex
import Yae.Proofs.SortLemmas
namespace Yae

abbrev Operator.size (o : Operator) : Nat := o.kind.utf8ByteSize

/-- The test handed to `insertBy`: `x` goes in front of `y` when it is at least as long, so operators of equal
length keep their order (a "comes before", not a strict order). -/
abbrev ltOp (x y : Operator) : Bool := decide (y.size ≤ x.size)

theorem insertOp_eq (x : Operator) : ∀ l : List Operator, insertOp x l = insertBy ltOp x l
  | [] => rfl
  | y :: ys => by
    simp only [insertOp, insertBy, ltOp, Operator.size, insertOp_eq x ys, decide_eq_true_eq]
    by_cases h : y.kind.utf8ByteSize ≤ x.kind.utf8ByteSize
    · rw [if_neg (by omega), if_pos h]
    · rw [if_pos (by omega), if_neg h]

/-- `oper.Sort` is the stable insertion sort of `SortLemmas`, by descending byte length. -/
theorem sortOps_eq : ∀ l : List Operator, sortOps l = sortBy ltOp l
  | [] => rfl
  | x :: xs => by rw [sortOps, insertOp_eq, sortOps_eq xs, sortBy_cons]

theorem sortOps_perm (l : List Operator) : (sortOps l).Perm l := sortOps_eq l ▸ sortBy_perm _ l

theorem mem_sortOps {o : Operator} {l : List Operator} : o ∈ sortOps l ↔ o ∈ l :=
  (sortOps_perm l).mem_iff

theorem sortOps_length (l : List Operator) : (sortOps l).length = l.length :=
  (sortOps_perm l).length_eq

theorem sortOps_sorted (l : List Operator) :
    (sortOps l).Pairwise (fun a b => a.size ≥ b.size) :=
  sortOps_eq l ▸ sortBy_pairwise (lt := ltOp) (R := fun a b => a.size ≥ b.size)
    ⟨of_decide_eq_true, fun h => Nat.le_of_not_le (of_decide_eq_false h), fun h1 h2 => Nat.le_trans h2 h1⟩ l

theorem firstMatch_append (a b : List Rule) (s : List Char) :
    firstMatch (a ++ b) s = (firstMatch a s).or (firstMatch b s) := by
  induction a with
  | nil => simp [firstMatch]
  | cons r rs ih =>
    simp only [List.cons_append, firstMatch]
    split <;> simp [ih]

theorem firstMatch_map_inv {α : Type} {f : α → Rule} {l : List α} {s : List Char} {k : String} {n : Nat}
    (h : firstMatch (l.map f) s = some (k, n)) :
    ∃ before a after, l = before ++ a :: after ∧ (f a).kind = k ∧ (f a).m.run s = some n ∧
      ∀ b ∈ before, (f b).m.run s = none := by
  obtain ⟨pre, r, post, e, hk, hr, hpre⟩ := firstMatch_spec h
  obtain ⟨before, l', rfl, rfl, e'⟩ := List.map_eq_append_iff.mp e
  obtain ⟨a, after, rfl, rfl, rfl⟩ := List.map_eq_cons_iff.mp e'
  exact ⟨before, a, after, rfl, hk, hr, fun b hb => hpre _ (List.mem_map_of_mem hb)⟩

def fixedRules : List Rule := [":", ",", "(", ")", "[", "]", "{", "}"].map strRule
def primRules : List Rule := (sortOps builtInOpers).map (fun o => primOperRule o.kind)
def userRules (ops : List Operator) : List Rule := (sortOps ops).map (fun o => operRule o.kind)
def boolRules : List Rule := [keywordRule "true", keywordRule "false"]
/-- The rules tried before the literal rules. -/
def earlyRules (ops : List Operator) : List Rule :=
  fixedRules ++ primRules ++ userRules ops ++ boolRules

/-- The ten literal rules: token kind and pattern, in the order of `newLexicon`. -/
def litPats : List (String × Pat) :=
  [("<num>", .floatA), ("<num>", .floatB), ("<num>", .bin), ("<num>", .hex), ("<num>", .oct),
   ("<num>", .int), ("<str>", .str), ("<str>", .raw), ("<time>", .time), ("<sym>", .sym)]

def litRule (kp : String × Pat) : Rule := ⟨kp.1, .regex kp.2⟩

theorem primRules_eq : primRules = [primOperRule ".", primOperRule "?"] := by rfl

theorem newLexicon_split (ops : List Operator) :
    newLexicon ops = earlyRules ops ++ litPats.map litRule := rfl

def literalKinds : List String := ["<num>", "<str>", "<time>", "<sym>"]

-- for the `decide` of `constRules_spec`, which compares matchers
deriving instance DecidableEq for Matcher

/-- The twelve rules of the lexicon that do not depend on the operator table. -/
def constRules : List Rule := fixedRules ++ primRules ++ boolRules

theorem mem_earlyRules {ops : List Operator} {r : Rule} (h : r ∈ earlyRules ops) :
    r ∈ constRules ∨ ∃ o ∈ ops, r = operRule o.kind := by
  simp only [earlyRules, constRules, List.mem_append] at h ⊢
  rcases h with ((h | h) | h) | h
  · exact .inl (.inl (.inl h))
  · exact .inl (.inl (.inr h))
  · obtain ⟨o, ho, rfl⟩ := List.mem_map.mp h
    exact .inr ⟨o, mem_sortOps.mp ho, rfl⟩
  · exact .inl (.inr h)

theorem mem_newLexicon {ops : List Operator} {r : Rule} (h : r ∈ newLexicon ops) :
    r ∈ constRules ∨ (∃ o ∈ ops, r = operRule o.kind) ∨ ∃ k ∈ literalKinds, ∃ p, r = ⟨k, .regex p⟩ := by
  rw [newLexicon_split] at h
  rcases List.mem_append.mp h with h | h
  · exact (mem_earlyRules h).imp_right .inl
  · obtain ⟨kp, hkp, rfl⟩ := List.mem_map.mp h
    exact .inr (.inr ⟨kp.1, (by decide : ∀ kp ∈ litPats, kp.1 ∈ literalKinds) kp hkp, kp.2, rfl⟩)

/-- The text a rule looks for at the cursor (`str`, `keyword`, `primOper` of `rule.go`). -/
def Matcher.text : Matcher → Option (List Char)
  | .str t | .keyword t | .primOper t => some t
  | .regex _ => none

def Matcher.guard : Matcher → List Char → Bool
  | .keyword _, c :: _ => !isIdentCont c
  | .primOper _, rest => !operHasPrefix rest
  | _, _ => true

theorem Matcher.run_text {m : Matcher} {t : List Char} (ht : m.text = some t) (s : List Char) :
    m.run s = if t.isPrefixOf s = true ∧ m.guard (s.drop t.length) = true then some t.length
      else none := by
  cases m with
  | regex p => cases ht
  | str tok => cases ht; simp [Matcher.run, Matcher.guard]
  | keyword kw =>
    cases ht
    simp only [Matcher.run]
    cases t.isPrefixOf s
    · simp
    · cases s.drop t.length with
      | nil => simp [Matcher.guard]
      | cons c r => cases hc : isIdentCont c <;> simp [Matcher.guard, hc]
  | primOper op =>
    cases ht
    simp only [Matcher.run, Matcher.guard]
    by_cases hp : t.isPrefixOf s = true <;> by_cases ho : operHasPrefix (s.drop t.length) = true <;>
      simp [hp, ho]

theorem Matcher.run_text_some {m : Matcher} {t s : List Char} {n : Nat} (ht : m.text = some t)
    (h : m.run s = some n) : n = t.length ∧ s = t ++ s.drop t.length ∧ m.guard (s.drop t.length) = true := by
  rw [Matcher.run_text ht] at h
  split at h
  · rename_i hp; cases h
    exact ⟨rfl, (List.prefix_iff_eq_append.mp (List.isPrefixOf_iff_prefix.mp hp.1)).symm, hp.2⟩
  · cases h

theorem Matcher.run_none_of_not_prefix {m : Matcher} {t s : List Char} (ht : m.text = some t)
    (h : t.isPrefixOf s = false) : m.run s = none := by
  simp [Matcher.run_text ht, h]

theorem run_regex_pos {p : Pat} {s : List Char} {n : Nat} (h : (Matcher.regex p).run s = some n) :
    0 < n := by
  simp only [Matcher.run] at h
  split at h
  · simp at h
  · rename_i m hm hne
    simp at h; subst h
    exact Nat.pos_of_ne_zero hm
  · simp at h

theorem operRule_kind (k : String) : (operRule k).kind = k := by
  unfold operRule; split <;> rfl

theorem operRule_text (k : String) : (operRule k).m.text = some (operRule k).kind.toList := by
  unfold operRule; split <;> rfl

theorem constRules_spec : ∀ r ∈ constRules, r.m.text = some r.kind.toList ∧ r.kind ≠ "" ∧
    (isIdentOp r.kind.toList = true → r.m = .keyword r.kind.toList) ∧
    ((r.kind = "." ∨ r.kind = "?") → r.m = .primOper r.kind.toList) := by decide

theorem literalKinds_spec : ∀ k ∈ literalKinds, isIdentOp k.toList ≠ true ∧ ¬ (k = "." ∨ k = "?") := by
  decide

theorem newLexicon_progress {ops : List Operator} (hops : ∀ o ∈ ops, o.kind ≠ "") :
    RulesProgress (newLexicon ops) := by
  intro r hr s n hrun
  have text : ∀ {r : Rule}, r.m.text = some r.kind.toList → r.kind ≠ "" → r.m.run s = some n → 0 < n :=
    fun ht hk hrun => by
      rw [(Matcher.run_text_some ht hrun).1]
      exact List.length_pos_iff.mpr fun h => hk (String.toList_eq_nil_iff.mp h)
  rcases mem_newLexicon hr with hc | ⟨o, ho, rfl⟩ | ⟨k, _, p, rfl⟩
  · exact text (constRules_spec r hc).1 (constRules_spec r hc).2.1 hrun
  · exact text (operRule_text _) (by rw [operRule_kind]; exact hops o ho) hrun
  · exact run_regex_pos hrun

theorem lex_no_fuel {ops : List Operator} (hops : ∀ o ∈ ops, o.kind ≠ "") (s : List Char) :
    lex ops s ≠ .error .fuel :=
  lexLoop_no_fuel (newLexicon_progress hops) _ _ _ (Nat.lt_succ_self _)

theorem newLexicon_text {ops : List Operator} {r : Rule} (hr : r ∈ newLexicon ops) :
    r.m.text = some r.kind.toList ∨ r.kind ∈ literalKinds := by
  rcases mem_newLexicon hr with hc | ⟨o, _, rfl⟩ | ⟨k, hk, p, rfl⟩
  · exact .inl (constRules_spec r hc).1
  · exact .inl (operRule_text _)
  · exact .inr hk

theorem newLexicon_ident_rule {ops : List Operator} {r : Rule} (hr : r ∈ newLexicon ops)
    (hk : isIdentOp r.kind.toList = true) : r.m = .keyword r.kind.toList := by
  rcases mem_newLexicon hr with hc | ⟨o, ho, rfl⟩ | ⟨k, hk', p, rfl⟩
  · exact (constRules_spec r hc).2.2.1 hk
  · rw [operRule_kind] at hk ⊢
    simp [operRule, hk, keywordRule]
  · exact absurd hk (literalKinds_spec k hk').1

theorem newLexicon_prim_rule {ops : List Operator} {r : Rule} (hr : r ∈ newLexicon ops)
    (hk : r.kind = "." ∨ r.kind = "?") (hops : ∀ o ∈ ops, o.kind ≠ r.kind) :
    r.m = .primOper r.kind.toList := by
  rcases mem_newLexicon hr with hc | ⟨o, ho, rfl⟩ | ⟨k, hk', p, rfl⟩
  · exact (constRules_spec r hc).2.2.2 hk
  · exact absurd (operRule_kind o.kind).symm (hops o ho)
  · exact absurd hk (literalKinds_spec k hk').2

theorem firstMatch_text {ops : List Operator} {s : List Char} {k : String} {n : Nat}
    (h : firstMatch (newLexicon ops) s = some (k, n)) (hk : k ∉ literalKinds) :
    ∃ m, (⟨k, m⟩ : Rule) ∈ newLexicon ops ∧ n = k.toList.length ∧
      s = k.toList ++ s.drop k.toList.length ∧ m.guard (s.drop k.toList.length) = true := by
  obtain ⟨r, hr, rfl, hrun⟩ := firstMatch_mem h
  rcases newLexicon_text hr with ht | hl
  · obtain ⟨h1, h2, h3⟩ := Matcher.run_text_some ht hrun
    exact ⟨r.m, hr, h1, h2, h3⟩
  · exact absurd hl hk

theorem firstMatch_kind_mem {rules : List Rule} {s : List Char} {k : String} {n : Nat}
    (h : firstMatch rules s = some (k, n)) : k ∈ rules.map (·.kind) := by
  obtain ⟨r, hr, rfl, _⟩ := firstMatch_mem h
  exact List.mem_map_of_mem hr

theorem firstMatch_user_longest {ops : List Operator} {s : List Char} {o : Operator} (ho : o ∈ ops)
    (hsym : isIdentOp o.kind.toList = false) (hpre : o.kind.toList.isPrefixOf s = true) :
    ∃ o' ∈ ops, o.size ≤ o'.size ∧ ∃ n, firstMatch (userRules ops) s = some (o'.kind, n) := by
  have hmatch : (operRule o.kind).m.run s = some o.kind.toList.length := by
    simp [operRule, hsym, strRule, Matcher.run, hpre]
  have hmem : o ∈ sortOps ops := mem_sortOps.mpr ho
  cases h : firstMatch (userRules ops) s with
  | none =>
    have := firstMatch_eq_none.1 h _ (List.mem_map_of_mem hmem)
    rw [hmatch] at this; cases this
  | some kn =>
    obtain ⟨k, n⟩ := kn
    obtain ⟨l1, o', l2, e1, hrk, -, hfail⟩ := firstMatch_map_inv h
    refine ⟨o', mem_sortOps.mp (by rw [e1]; simp), ?_, n, by rw [← hrk, operRule_kind]⟩
    rw [e1] at hmem
    rcases List.mem_append.mp hmem with hm | hm
    · have := hfail o hm
      rw [hmatch] at this; cases this
    · have hs := sortOps_sorted ops
      rw [e1] at hs
      have hs2 := (List.pairwise_append.mp hs).2.1
      cases hm with
      | head => exact Nat.le_refl _
      | tail _ hm => exact (List.pairwise_cons.mp hs2).1 o hm

/-- Longest match among the registered symbolic operators, with the exceptions the lexicon
builds in: the eight punctuation rules and the two built-in operators come first. -/
theorem firstMatch_longest {ops : List Operator} {s : List Char} {k : String} {n : Nat}
    (h : firstMatch (newLexicon ops) s = some (k, n)) {o : Operator} (ho : o ∈ ops)
    (hsym : isIdentOp o.kind.toList = false) (hpre : o.kind.toList.isPrefixOf s = true) :
    k ∈ [":", ",", "(", ")", "[", "]", "{", "}"] ∨ k = "." ∨ k = "?" ∨
      ∃ o' ∈ ops, o'.kind = k ∧ o.size ≤ o'.size := by
  rw [newLexicon_split, earlyRules] at h
  simp only [List.append_assoc, firstMatch_append] at h
  cases h1 : firstMatch fixedRules s with
  | some kn =>
    rw [h1] at h; simp at h; subst h
    exact .inl (by simpa [fixedRules, strRule] using firstMatch_kind_mem h1)
  | none =>
    rw [h1] at h; simp only [Option.none_or] at h
    cases h2 : firstMatch primRules s with
    | some kn =>
      rw [h2] at h; simp at h; subst h
      have := firstMatch_kind_mem h2
      rw [primRules_eq] at this
      simp [primOperRule] at this
      exact .inr (by rcases this with h' | h' <;> simp [h'])
    | none =>
      rw [h2] at h; simp only [Option.none_or] at h
      obtain ⟨o', ho', hle, n', h3⟩ := firstMatch_user_longest ho hsym hpre
      rw [h3] at h; simp at h
      exact .inr (.inr (.inr ⟨o', ho', h.1, hle⟩))

theorem lex_text_token {ops : List Operator} {s : List Char} {ts : List Token}
    (h : lex ops s = .ok ts) {t : Token} (ht : t ∈ ts) (hk : t.kind ∉ literalKinds) :
    t.lexeme = t.kind ∧ ∃ pre post m, s = pre ++ t.lexeme.toList ++ post ∧
      t.pos.idx = pre.length ∧ (⟨t.kind, m⟩ : Rule) ∈ newLexicon ops ∧ m.guard post = true := by
  obtain ⟨pre, post, n, h1, _, _, h4, h5, h6⟩ := (lex_lexed h).tokAt ht
  obtain ⟨m, hm, w1, w2, w3⟩ := firstMatch_text h5 hk
  have hlex : t.lexeme.toList = t.kind.toList := by rw [h6, w1, w2]; simp
  have hdrop : (t.lexeme.toList ++ post).drop t.kind.toList.length = post := by rw [← hlex]; simp
  exact ⟨String.toList_inj.mp hlex, pre, post, m, h1, by rw [h4, tokPos_zero], hm, by rw [← hdrop]; exact w3⟩

end Yae
