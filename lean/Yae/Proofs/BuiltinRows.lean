/- The rows of `applyBuiltin`.  On arguments of a row's own shape `applyBuiltin ext id args` reduces by computation, so for the
rows whose body is one `ret (…)` the equation is `rfl` at the place of use.  The six rows with a body of their own (an
`if`, a look-up in the externs' tables, a nested `match`) are stated here, once, because a client has to rewrite with
the row before it can split on what the body inspects. -/
import Yae.Model.Builtins
namespace Yae

theorem applyBuiltin_MOD (ext : Externs) (x y : Float) : applyBuiltin ext .MOD_NUM_NUM [.num x, .num y] =
    if Num.toInt64 y = 0 then .error .modZero
    else .ok (.num (Float.ofInt (Int.tmod (Num.toInt64 x) (Num.toInt64 y))), []) := rfl

theorem applyBuiltin_MATCH (ext : Externs) (p s : String) : applyBuiltin ext .MATCH_STR_STR [.str p, .str s] =
    (match ext.regex? p s with
     | some (some b) => .ok (.bool b, [])
     | some none => .error .badRegex
     | none => .error (.stuck "extern-miss:regex")) := rfl

theorem applyBuiltin_STRTOTIME (ext : Externs) (s : String) : applyBuiltin ext .STRTOTIME_STR [.str s] =
    (match ext.strtotime? s with
     | some ts => .ok (.time (TimeV.unix ts), [])
     | none => .error (.stuck "extern-miss:strtotime")) := rfl

theorem applyBuiltin_GET_LIST (ext : Externs) (ty : Ty) (xs : ValList) (i : Float) (d : Val) :
    applyBuiltin ext .GET_LIST_NUM_ANY [.list ty xs, .num i, d] =
    if Num.toInt i < 0 || Num.toInt i ≥ xs.length then .ok (d, [])
    else (match xs.get? (Num.toInt i).toNat with
      | some .nil => .ok (d, [])
      | some x => .ok (x, [])
      | none => .ok (d, [])) := rfl

theorem applyBuiltin_GET_MAP (ext : Externs) (ty : Ty) (es : EntryList) (key d : Val) :
    applyBuiltin ext .GET_MAP_ANY_ANY [.map ty es, key, d] =
    (match key.key? with
     | some (t, ks) =>
       (match es.find? t ks with
        | some .nil => .ok (d, [])
        | some x => .ok (x, [])
        | none => .ok (d, []))
     | none => .error (.stuck "invalid map key type")) := rfl

theorem applyBuiltin_ISSET (ext : Externs) (ty : Ty) (es : EntryList) (key : Val) :
    applyBuiltin ext .ISSET_MAP_ANY [.map ty es, key] =
    (match key.key? with
     | some (t, ks) => .ok (.bool (es.find? t ks).isSome, [])
     | none => .error (.stuck "invalid map key type")) := rfl

end Yae
