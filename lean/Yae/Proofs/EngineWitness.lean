/-
  Concrete histories for C13.  The kernel evaluates the front end (lexer, parser, desugaring) and the monomorphic
  part of the checker; it does not evaluate `inferFun` (well-founded `applySubst`) nor `eval` (well-founded mutual
  recursion), so the polymorphic call is checked through `PolyOK.sigOK_inferFun` and the evaluations are unfolded
  by `simp`.  Each history is run call by call from what its compilations return (`compile_string`, `compile_not`,
  `compile_print`), without unfolding `Engine.compile`.
-/
import Yae.Proofs.EngineHistory
import Yae.Proofs.EngineCheck
import Yae.Proofs.TypingPolyOK
import Yae.Proofs.CheckCall
import Yae.Proofs.BuiltinTable
namespace Yae.EngineWitness
open Yae Yae.Facade Yae.EngineHistory

def front (ops : List Operator) (times : List (String × Int)) (src : String) : Option Expr :=
  match lex ops src.toList with
  | .error _ => none
  | .ok toks =>
    match parse ops times toks with
    | .error _ => none
    | .ok parsed => desugarGo parsed

theorem compileSrc_front {ops : List Operator} {times : List (String × Int)} {Γ : TEnv}
    {src : String} {d : Expr} (h : front ops times src = some d) :
    compileSrc ops times Γ src =
      match check Γ 0 d with
      | .error e => .error (.check e)
      | .ok (ty, e', _) => .ok (ty, e') := by
  unfold front at h
  unfold compileSrc
  split at h
  · cases h
  · next toks hl =>
    rw [hl]
    split at h
    · cases h
    · next parsed hp =>
      simp only [hp, h]
      rfl

theorem compile_of_front {e : Engine} {src : String} {d : Expr}
    (hf : front e.init.ops [] src = some d) {tenv : List (String × Ty)} {T : Ty} {e' : Expr}
    {ctr : Nat} (hc : check ⟨tenv, e.init.funs, reservedWords⟩ 0 d = .ok (T, e', ctr))
    {b : Backend} (hb : e.init.backend = b) :
    (e.compile [] tenv src).2 = .ok ⟨tenv, T, e', e.init.funs, b⟩ := by
  unfold Engine.compile
  simp only [compileSrc_front hf, Engine.tenvOf, hc, hb]

/-- `Expr` has no decidable equality (`Expr.num` holds a `Float`, opaque to the kernel), so `front … = some t` cannot
be decided for a given tree `t`.  The kernel decides a Bool test of the tree's SHAPE instead (`isCallTrue`: the call
`f(true)`), and `front_elim` inverts the test; the positions it leaves existential are not needed. -/
def isCallTrue (f : String) : Expr → Bool
  | .call _ _ (.ident _ g) (.cons (.bool _ true) .nil) _ _ _ => g == f
  | _ => false

theorem front_elim {ops : List Operator} {src f : String}
    (h : (front ops [] src).map (isCallTrue f) = some true) :
    ∃ p col cp bp cty res idx,
      front ops [] src = some (.call p col (.ident cp f) (.cons (.bool bp true) .nil) cty res idx) := by
  cases hf : front ops [] src with
  | none => rw [hf] at h; cases h
  | some d =>
    rw [hf] at h
    simp only [Option.map_some, Option.some.injEq] at h
    unfold isCallTrue at h
    split at h
    · next p col cp g bp cty res idx =>
      exact ⟨p, col, cp, bp, cty, res, idx, by rw [eq_of_beq h]⟩
    · cases h

/-- `f(true)` as the checker returns it: `f` resolved to `key`, `idx` at the type `bool → T` -/
def callTrue (f : String) (T : Ty) (key : String) (idx : Int) (p : Pos) (col : Int) (cp bp : Pos) :
    Expr :=
  .call p col (.ident cp f) (.cons (.bool bp true) .nil) (some (.fn f (.cons .bool .nil) T)) key idx

theorem compile_callTrue {e : Engine} {src f : String}
    (hf : (front e.init.ops [] src).map (isCallTrue f) = some true) {T : Ty} {key : String} {idx : Int}
    (hc : ∀ p col cp bp cty res i, ∃ ctr, check ⟨[], e.init.funs, reservedWords⟩ 0
        (.call p col (.ident cp f) (.cons (.bool bp true) .nil) cty res i) =
      .ok (T, callTrue f T key idx p col cp bp, ctr))
    {b : Backend} (hb : e.init.backend = b) :
    ∃ p col cp bp, (e.compile [] [] src).2 =
      .ok ⟨[], T, callTrue f T key idx p col cp bp, e.init.funs, b⟩ := by
  obtain ⟨p, col, cp, bp, cty, res, i, hf⟩ := front_elim hf
  obtain ⟨ctr, hc⟩ := hc p col cp bp cty res i
  exact ⟨p, col, cp, bp, compile_of_front hf hc hb⟩

theorem front_string : (front builtinOps [] "string(true)").map (isCallTrue "string") = some true := by
  decide +kernel

theorem front_not : (front builtinOps [] "!true").map (isCallTrue "!") = some true := by
  decide +kernel

def strTy : Ty := .fn "string" (.cons (.var "a") .nil) .str

theorem inferred (ctr : Nat) :
    inferFun ctr "string" (.cons (.var "a") .nil) .str (.cons .bool .nil) =
      .ok (.cons .bool .nil, .str) := by
  rw [PolyOK.sigOK_inferFun (by decide) (by decide)]
  rfl

/-- `callTrue "string" .str "∀.λ string 1" 0` unfolded (equal by `rfl`, which is how `compile_string` gets it from
`compile_callTrue`); likewise `notTrue`, `printTrue` below -/
def stringTrue (p : Pos) (col : Int) (cp bp : Pos) : Expr :=
  .call p col (.ident cp "string") (.cons (.bool bp true) .nil)
    (some (.fn "string" (.cons .bool .nil) .str)) "∀.λ string 1" 0

theorem pure_bind' {α β : Type} (a : α) (f : α → EvalM β) : (pure a >>= f) = f a :=
  EvalM.pure_bind a f

/-- the run of `f(true)` when the call resolves to a strict host function -/
theorem run_hostTrue {funs : List FunDecl} {ext : Externs} {key : String} {idx : Int} {ty : Ty}
    {name : String} {beh : HostBeh} {v : Val} {evs : List Event} (hne : (key == "") = false)
    (hr : resolveStatic funs key idx = some ⟨ty, .host name beh, false⟩)
    (hh : hostStrict name beh [.bool true] [] = (.ok v, evs))
    (p : Pos) (col : Int) (cp bp : Pos) (f : String) (cty : Option Ty) :
    runEval false ⟨[], funs, ext⟩ (.call p col (.ident cp f) (.cons (.bool bp true) .nil) cty key idx) =
      (.ok v, evs.reverse) := by
  have hd : (Expr.call p col (.ident cp f) (.cons (.bool bp true) .nil) cty key idx).depth = 2 := rfl
  unfold runEval
  rw [hd]
  simp only [eval, hr, recDbg, Bool.false_eq_true, if_false, hne]
  -- the equation lemmas of `callFun` are split by the host behaviour, here a variable
  rw [callFun.eq_def]
  simp only [eval, evalList, pure_bind', Bool.false_eq_true, if_false, ValList.toList]
  rw [EvalM.bind_apply, hh]
  rfl

/-- the run of `f(true)` when the call resolves to a strict built-in -/
theorem run_builtinTrue {funs : List FunDecl} {ext : Externs} {key : String} {idx : Int} {ty : Ty}
    {i : Nat} {b : BuiltinDecl} {v : Val} (hne : (key == "") = false)
    (hr : resolveStatic funs key idx = some ⟨ty, .builtin i, false⟩) (hb : builtins[i]? = some b)
    {evs : List Event} (ha : applyBuiltin ext b.id [.bool true] = .ok (v, evs))
    (p : Pos) (col : Int) (cp bp : Pos) (f : String) (cty : Option Ty) :
    runEval false ⟨[], funs, ext⟩ (.call p col (.ident cp f) (.cons (.bool bp true) .nil) cty key idx) =
      (.ok v, evs) := by
  have hd : (Expr.call p col (.ident cp f) (.cons (.bool bp true) .nil) cty key idx).depth = 2 := rfl
  unfold runEval
  rw [hd]
  simp only [eval, evalList, hr, callFun, hb, recDbg, pure_bind', Bool.false_eq_true, if_false,
    ValList.toList, hne, ha]
  simp [EvalM.lift, EvalM.emitAll, bind, pure]

/-! The registration order of a POLYMORPHIC overload: `histBefore` and `histAfter` are the same four calls; the last
invocation returns `"host"` in the first and `"true"` in the second. -/

def hostString : FunDecl := ⟨strTy, .host "string" (.constStr "host"), false⟩

def src : String := "string(true)"

def histBefore : List Op :=
  [.registerFun hostString, .compile [] [] src, .compile [] [] src, .invoke 2 [] {}]
def histAfter : List Op :=
  [.compile [] [] src, .registerFun hostString, .compile [] [] src, .invoke 2 [] {}]

def outStr : Out → Option String
  | .result (.ok (.str s), _) => some s
  | _ => none

theorem compile_string {e : Engine} (hops : e.init.ops = builtinOps) {d0 : FunDecl}
    {rest : List FunDecl} (hm : lookupMono e.init.funs "λ string (bool)" = none)
    (hp : lookupPoly e.init.funs "∀.λ string 1" = d0 :: rest) (hty : d0.ty = strTy)
    {b : Backend} (hb : e.init.backend = b) :
    ∃ p col cp bp, (e.compile [] [] src).2 =
      .ok ⟨[], .str, stringTrue p col cp bp, e.init.funs, b⟩ :=
  compile_callTrue (hops ▸ front_string) (fun p col cp bp cty res i =>
    ⟨_, check_call_poly (checkArgs_cons (e := .bool bp true) rfl checkArgs_nil) (by decide +kernel) hm
      (by decide +kernel) hp hty (inferred _) rfl rfl p col cp cty res i⟩) hb

/-! The lookups in the tables with one host function before or after the built-ins follow from those in the
built-in table (`Proofs/BuiltinTable.lean`) by `lookupPoly_append` / `lookupMono_append`. -/

theorem host_string : lookupPoly [hostString] "∀.λ string 1" = [hostString] ∧
    lookupMono [hostString] "λ string (bool)" = none := ⟨by rfl, by rfl⟩

theorem before_host : (Engine.new.run histBefore).2.map outStr = [none, none, none, some "host"] := by
  have hf : (Engine.new.registerFun hostString).init.funs = [hostString] ++ builtinDecls := rfl
  have hp : lookupPoly (Engine.new.registerFun hostString).init.funs "∀.λ string 1" =
      hostString :: [builtinString] := by
    rw [hf, EngineCheck.lookupPoly_append, builtin_string, host_string.1]; rfl
  obtain ⟨p, col, cp, bp, hc⟩ :=
    compile_string (e := Engine.new.registerFun hostString) rfl
      (by rw [hf, EngineCheck.lookupMono_append, builtin_string_mono, host_string.2]; rfl) hp rfl (b := .vm) rfl
  rw [Engine.run, histBefore, runFrom_cons (e' := Engine.new.registerFun hostString) (o := .done) rfl,
    runFrom_cons (step_compile hc _), runFrom_cons (step_compile (compile_init _ _ _ _ ▸ hc) _),
    runFrom_cons (step_invoke rfl _ _ _), Engine.runFrom]
  rw [invoke_nil (c := ⟨[], .str, stringTrue p col cp bp, _, .vm⟩) rfl
    (run_hostTrue rfl (resolveStatic_poly hp) rfl p col cp bp _ _)]
  rfl

theorem after_builtin : (Engine.new.run histAfter).2.map outStr = [none, none, none, some "true"] := by
  obtain ⟨p0, col0, cp0, bp0, hc0⟩ :=
    compile_string (e := Engine.new) rfl builtin_string_mono builtin_string rfl (b := .vm) rfl
  have hf : (Engine.new.init.registerFun hostString).init.funs = builtinDecls ++ [hostString] := rfl
  have hp : lookupPoly (Engine.new.init.registerFun hostString).init.funs "∀.λ string 1" =
      builtinString :: [hostString] := by
    rw [hf, EngineCheck.lookupPoly_append, builtin_string, host_string.1]; rfl
  obtain ⟨p, col, cp, bp, hc⟩ :=
    compile_string (e := Engine.new.init.registerFun hostString) rfl
      (by rw [hf, EngineCheck.lookupMono_append, builtin_string_mono, host_string.2]; rfl) hp rfl (b := .vm) rfl
  rw [Engine.run, histAfter, runFrom_cons (step_compile hc0 _),
    runFrom_cons (e' := Engine.new.init.registerFun hostString) (o := .done) rfl,
    runFrom_cons (step_compile hc _), runFrom_cons (step_invoke rfl _ _ _), Engine.runFrom]
  rw [invoke_nil (c := ⟨[], .str, stringTrue p col cp bp, _, .vm⟩) rfl
    (run_builtinTrue rfl (resolveStatic_poly hp) rfl rfl p col cp bp _ _)]
  rfl

def notTy : Ty := .fn "!" (.cons .bool .nil) .bool

def notTrue (p : Pos) (col : Int) (cp bp : Pos) : Expr :=
  .call p col (.ident cp "!") (.cons (.bool bp true) .nil) (some notTy) "λ ! (bool)" (-1)

theorem compile_not {e : Engine} (hops : e.init.ops = builtinOps) {d : FunDecl}
    (hm : lookupMono e.init.funs "λ ! (bool)" = some d) (hty : d.ty = notTy)
    {b : Backend} (hb : e.init.backend = b) :
    ∃ p col cp bp, (e.compile [] [] "!true").2 =
      .ok ⟨[], .bool, notTrue p col cp bp, e.init.funs, b⟩ :=
  compile_callTrue (hops ▸ front_not) (fun p col cp bp cty res i =>
    ⟨_, check_call_mono (checkArgs_cons (e := .bool bp true) rfl checkArgs_nil) (by decide +kernel) hm
      hty rfl rfl p col cp cty res i⟩) hb

def hostNot : FunDecl := ⟨notTy, .host "!" (.constBool true), false⟩

/-- a monomorphic key registered again after a compilation -/
def histLate (b : Backend) : List Op :=
  [.useCompiler b, .compile [] [] "!true", .registerFun hostNot, .invoke 1 [] {}]

def outBool : Out → Option Bool
  | .result (.ok (.bool b), _) => some b
  | _ => none

theorem host_not : lookupMono [hostNot] "λ ! (bool)" = some hostNot := by rfl

/-- registered after the built-ins, the host's `!` is the entry the monomorphic key finds -/
theorem not_after : lookupMono (builtinDecls ++ [hostNot]) "λ ! (bool)" = some hostNot := by
  rw [EngineCheck.lookupMono_append, host_not]; rfl

/-- `vm.Compile` (also `closure.Compile`): the Callable keeps the function it was compiled with -/
theorem late_vm : (Engine.new.run (histLate .vm)).2.map outBool = [none, none, none, some false] := by
  have hm : lookupMono (Engine.new.useCompiler .vm).init.funs "λ ! (bool)" = some builtinNot :=
    builtin_not
  obtain ⟨p, col, cp, bp, hc⟩ :=
    compile_not (e := Engine.new.useCompiler .vm) rfl hm rfl (b := .vm) rfl
  rw [Engine.run, histLate, runFrom_cons (e' := Engine.new.useCompiler .vm) (o := .done) rfl,
    runFrom_cons (step_compile hc _),
    runFrom_cons (e' := (Engine.new.useCompiler .vm).init.registerFun hostNot) (o := .done) rfl,
    runFrom_cons (step_invoke rfl _ _ _), Engine.runFrom,
    invoke_nil (c := ⟨[], .bool, notTrue p col cp bp, _, .vm⟩) rfl
      (run_builtinTrue rfl (resolveStatic_mono hm) rfl rfl p col cp bp _ _)]
  rfl

/-- `interp.Interp`: the Callable runs the function registered under the key when it is invoked -/
theorem late_interp :
    (Engine.new.run (histLate .interp)).2.map outBool = [none, none, none, some true] := by
  obtain ⟨p, col, cp, bp, hc⟩ :=
    compile_not (e := Engine.new.useCompiler .interp) rfl builtin_not rfl (b := .interp) rfl
  have hm' : lookupMono ((Engine.new.useCompiler .interp).init.registerFun hostNot).funs
      "λ ! (bool)" = some hostNot := not_after
  rw [Engine.run, histLate, runFrom_cons (e' := Engine.new.useCompiler .interp) (o := .done) rfl,
    runFrom_cons (step_compile hc _),
    runFrom_cons (e' := (Engine.new.useCompiler .interp).init.registerFun hostNot) (o := .done) rfl,
    runFrom_cons (step_invoke rfl _ _ _), Engine.runFrom,
    invoke_nil (c := ⟨[], .bool, notTrue p col cp bp, _, .interp⟩) rfl
      (run_hostTrue rfl (resolveStatic_mono hm') rfl p col cp bp _ _)]
  rfl

def histMonoBefore : List Op :=
  [.registerFun hostNot, .compile [] [] "!true", .compile [] [] "!true", .invoke 2 [] {}]
def histMonoAfter : List Op :=
  [.compile [] [] "!true", .registerFun hostNot, .compile [] [] "!true", .invoke 2 [] {}]

/-- registered before the first compilation, the host `!` is REPLACED by the built-in -/
theorem mono_before :
    (Engine.new.run histMonoBefore).2.map outBool = [none, none, none, some false] := by
  have hm : lookupMono (Engine.new.registerFun hostNot).init.funs "λ ! (bool)" =
      some builtinNot := by
    rw [show (Engine.new.registerFun hostNot).init.funs = [hostNot] ++ builtinDecls from rfl,
      EngineCheck.lookupMono_append, builtin_not]; rfl
  obtain ⟨p, col, cp, bp, hc⟩ :=
    compile_not (e := Engine.new.registerFun hostNot) rfl hm rfl (b := .vm) rfl
  rw [Engine.run, histMonoBefore,
    runFrom_cons (e' := Engine.new.registerFun hostNot) (o := .done) rfl,
    runFrom_cons (step_compile hc _), runFrom_cons (step_compile (compile_init _ _ _ _ ▸ hc) _),
    runFrom_cons (step_invoke rfl _ _ _), Engine.runFrom,
    invoke_nil (c := ⟨[], .bool, notTrue p col cp bp, _, .vm⟩) rfl
      (run_builtinTrue rfl (resolveStatic_mono hm) rfl rfl p col cp bp _ _)]
  rfl

/-- registered after it, the host `!` replaces the built-in -/
theorem mono_after :
    (Engine.new.run histMonoAfter).2.map outBool = [none, none, none, some true] := by
  obtain ⟨p0, col0, cp0, bp0, hc0⟩ :=
    compile_not (e := Engine.new) rfl builtin_not rfl (b := .vm) rfl
  have hm : lookupMono (Engine.new.init.registerFun hostNot).init.funs "λ ! (bool)" =
      some hostNot := not_after
  obtain ⟨p, col, cp, bp, hc⟩ :=
    compile_not (e := Engine.new.init.registerFun hostNot) rfl hm rfl (b := .vm) rfl
  rw [Engine.run, histMonoAfter, runFrom_cons (step_compile hc0 _),
    runFrom_cons (e' := Engine.new.init.registerFun hostNot) (o := .done) rfl,
    runFrom_cons (step_compile hc _), runFrom_cons (step_invoke rfl _ _ _), Engine.runFrom,
    invoke_nil (c := ⟨[], .bool, notTrue p col cp bp, _, .vm⟩) rfl
      (run_hostTrue rfl (resolveStatic_mono hm) rfl p col cp bp _ _)]
  rfl

def printTrue (p : Pos) (col : Int) (cp bp : Pos) : Expr :=
  .call p col (.ident cp "print") (.cons (.bool bp true) .nil)
    (some (.fn "print" (.cons .bool .nil) .bool)) "∀.λ print 1" 0

theorem front_print : (front builtinOps [] "print(true)").map (isCallTrue "print") = some true := by
  decide +kernel

theorem compile_print :
    ∃ p col cp bp, (Engine.new.compile [] [] "print(true)").2 =
      .ok ⟨[], .bool, printTrue p col cp bp, builtinDecls, .vm⟩ :=
  compile_callTrue (e := Engine.new) front_print (fun p col cp bp cty res i =>
    ⟨_, check_call_poly (Γ := ⟨[], builtinDecls, reservedWords⟩)
      (checkArgs_cons (e := .bool bp true) rfl checkArgs_nil) (by decide +kernel)
      builtin_print_mono (by decide +kernel) builtin_print rfl
      (by rw [PolyOK.sigOK_inferFun (by decide) (by decide)]; rfl) rfl rfl
      p col cp cty res i⟩) rfl

theorem run_print (ext : Externs) (p : Pos) (col : Int) (cp bp : Pos) :
    runEval false ⟨[], builtinDecls, ext⟩ (printTrue p col cp bp) =
      (.ok (.bool true), [.print (Val.bool true).render]) :=
  run_builtinTrue rfl (resolveStatic_poly builtin_print) rfl rfl p col cp bp _ _

def histThree : List Op := [.compile [] [] "!true", .invoke 0 [] {}, .invoke 0 [] {}]

theorem three_steps :
    (Engine.new.run histThree).1 = Engine.new.init ∧
    (Engine.new.run histThree).2.map outBool = [none, some false, some false] := by
  have hm : lookupMono Engine.new.init.funs "λ ! (bool)" = some builtinNot := builtin_not
  obtain ⟨p, col, cp, bp, hc⟩ := compile_not (e := Engine.new) rfl hm rfl (b := .vm) rfl
  rw [Engine.run, histThree, runFrom_cons (step_compile hc _),
    runFrom_cons (step_invoke rfl _ _ _), runFrom_cons (step_invoke rfl _ _ _), Engine.runFrom,
    invoke_nil (c := ⟨[], .bool, notTrue p col cp bp, _, .vm⟩) rfl
      (run_builtinTrue rfl (resolveStatic_mono hm) rfl rfl p col cp bp _ _)]
  exact ⟨rfl, rfl⟩

end Yae.EngineWitness
