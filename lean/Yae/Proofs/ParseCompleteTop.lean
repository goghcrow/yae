/-
  The top of C08.  `PE_iff`: from any cursor, `expr(rbp)` returns exactly the tree that yields the
  range and satisfies the parser's invariant `Inv2` there: the rule inductions on `Big` one way,
  `Yields.complete` the other.  The statements about `parse` are the instance "the whole input, `rbp = 0`".
-/
import Yae.Proofs.ParseComplete
import Yae.Proofs.ParseRespectsSound
import Yae.Proofs.ParseYieldSpan
import Yae.Proofs.ParseFuel
namespace Yae

def reservedKinds : List String := [")", "]", "}", ",", ":", tkEOF]

/-- no operator is spelled like a closing or separating token or has the kind `<END-OF-FILE>`,
no prefix operator has a negative binding power -/
def WFOps (ops : List Operator) : Prop :=
  (∀ o ∈ ops, o.kind ∉ reservedKinds) ∧ (∀ o ∈ ops, o.fixity = fixPrefix → ¬ o.bp < 0)

theorem newGrammar_prefixNonneg {ops : List Operator}
    (hp : ∀ o ∈ ops, o.fixity = fixPrefix → ¬ o.bp < 0) (k : String) :
    ¬ (newGrammar ops).prefixBp k < 0 := by
  have h := newGrammar_entries (P := fun _ bp _ => ¬ bp < 0) (Q := fun _ _ _ => True) ops
    (by decide) (fun _ _ => trivial) fun o ho => ⟨hp o ho, fun _ _ => trivial⟩
  unfold Grammar.prefixBp
  split
  · exact h.nud ‹_›
  · exact BP.not_zero_lt_zero

theorem WFOps.grammar {ops : List Operator} (h : WFOps ops) : WFGrammar (newGrammar ops) := by
  obtain ⟨hk, hp⟩ := h
  have hb : ∀ k ∈ reservedKinds, (∀ e ∈ builtinNuds, e.1 ≠ k) ∧ ∀ e ∈ builtinLeds, e.1 ≠ k := by
    decide
  have free {k : String} (hr : k ∈ reservedKinds) :=
    newGrammar_none (ops := ops) (fun o ho hh => hk o ho (hh ▸ hr)) (hb k hr).1 (hb k hr).2
  have rp := free (k := ")") (by decide)
  have rb := free (k := "]") (by decide)
  have co := free (k := ":") (by decide)
  refine ⟨free (k := tkEOF) (by decide), newGrammar_ledKinds ops, ?_, rp.2, rb.2,
    (free (k := "}") (by decide)).2, (free (k := ",") (by decide)).2, co.2, rp.1, rb.1, co.1,
    newGrammar_prefixNonneg hp⟩
  -- an operator may be spelled `(` too; `call` is registered after the operators, so the
  -- look-up finds it first
  intro bp led hl
  rw [newGrammar_eq] at hl
  simp only [Grammar.infix, tableLookup] at hl
  rw [if_neg (by decide), if_pos (by decide)] at hl
  cases hl; rfl

theorem mkEnv_peek_end (ops : List Operator) (times : List (String × Int)) (toks : List Token) :
    ((mkEnv ops times toks).peek toks.length).kind = tkEOF :=
  PEnv.peek_ge _ (by rw [mkEnv_size]; exact Nat.le_refl _)

theorem PE_iff {env : PEnv} (W : WFGrammar env.g) (hL : env.OpLex) {rbp : BP} {i j : Nat}
    {t : Expr} :
    PE env rbp i (t, j) ↔ (Yields env t i j ∧ Inv2 env rbp t j ∧ t.All Expr.noChainHere) := by
  constructor
  · intro h
    exact ⟨h.big.yields W.noEOF, h.big.resp W.noEOF hL W.ledKinds, h.big.all noChain_nodeOK⟩
  · rintro ⟨hy, I, hnc⟩
    exact (hy.complete W hL ⟨I.resp, hnc⟩ rbp I.above).pe ⟨I.resp, hnc⟩ I.follow I.stop

/-- Enough fuel decides `PE`: at `f` the run does not end for lack of fuel (`fuel_all`), so it
returns what any other fuel returns. -/
theorem PE_iff_fuel {env : PEnv} (hE : env.NoEOF) {f : Nat} {rbp : BP} {i : Nat} {r : Expr × Nat}
    (hf : 4 * (env.toks.size - i) + 1 ≤ f) : PE env rbp i r ↔ pExpr env f rbp i = .ok r := by
  refine ⟨fun ⟨f', h⟩ => ?_, fun h => ⟨f, h⟩⟩
  rw [← pExpr_mono_res (fuel_all hE f rbp i hf) (Nat.le_max_left f f')]
  exact pExpr_mono h (Nat.le_max_right _ _)

theorem parse_complete {ops : List Operator} {times : List (String × Int)} {toks : List Token}
    {t : Expr} (W : WFGrammar (newGrammar ops)) (hL : OpLexemes ops toks)
    (hy : Yields (mkEnv ops times toks) t 0 toks.length) (hR : Respects (newGrammar ops) t) :
    parse ops times toks = .ok t := by
  have hend := mkEnv_peek_end ops times toks
  -- the end of the input does not continue an expression
  have ⟨hF, hs⟩ := follow_closer (k := tkEOF) W hR.2.1 hR.1 W.noEOF.2 (by decide)
  have hPE : PE (mkEnv ops times toks) 0 0 (t, toks.length) :=
    (PE_iff W (hL.env (times := times))).mpr ⟨hy, ⟨⟨hR.2.1, hR.1, hend ▸ hF⟩, hend ▸ hs⟩, hR.2.2⟩
  exact parseWith_ok_iff.mpr
    ⟨_, (PE_iff_fuel (env := mkEnv ops times toks) W.noEOF (by simp [mkEnv, parseFuel])).mp hPE, hend⟩

theorem respects_unique {ops : List Operator} {times : List (String × Int)} {toks : List Token}
    {t t' : Expr} (W : WFGrammar (newGrammar ops)) (hL : OpLexemes ops toks)
    (hy : Yields (mkEnv ops times toks) t 0 toks.length) (hR : Respects (newGrammar ops) t)
    (hy' : Yields (mkEnv ops times toks) t' 0 toks.length) (hR' : Respects (newGrammar ops) t') :
    t = t' := by
  have h1 := parse_complete W hL hy hR
  have h2 := parse_complete W hL hy' hR'
  rw [h1] at h2
  cases h2; rfl

theorem parse_iff {ops : List Operator} {times : List (String × Int)} {toks : List Token}
    {t : Expr} (W : WFGrammar (newGrammar ops)) (hL : OpLexemes ops toks)
    (htk : ∀ t ∈ toks, t.kind ≠ tkEOF) :
    parse ops times toks = .ok t ↔
      (Yields (mkEnv ops times toks) t 0 toks.length ∧ Respects (newGrammar ops) t) := by
  constructor
  · intro h
    exact ⟨parseWith_yields_all W.noEOF htk h, parseWith_respects W.noEOF hL h⟩
  · rintro ⟨hy, hR⟩
    exact parse_complete W hL hy hR

end Yae
