/-
  The string pattern `"(?:[^"\\]*|\\["\\trnbf\/]|\\u[0-9a-fA-F]{4})*"` against the reference
  semantics.  The body of the `*` can match the empty string and the reference matcher
  backtracks exponentially on it, so the proof goes through the LANGUAGE instead: if `u` is in
  the language then `reStr (u ++ v) = some u.length` for every `v`, so at most one prefix of any
  input is in the language (`str_uniquePrefix`) and neither the priorities of leftmost-first nor
  the treatment of empty iterations can matter; what `reStr` accepts is in the language; hence
  `reStr` is the matcher in front of every continuation (`str_reads`).
-/
import Yae.Proofs.LexScan
namespace Yae
namespace Re

/-- a character of `[^"\\]` -/
def plainChar (c : Char) : Prop := c ≠ '"' ∧ c ≠ '\\'

theorem clsTest_plain (c : Char) : clsTest true [.ch '"', .esc '\\'] c = true ↔ plainChar c := by
  simp [clsTest, CItem.test, plainChar]

theorem clsTest_simpleEscape (c : Char) :
    clsTest false [.ch '"', .esc '\\', .ch 't', .ch 'r', .ch 'n', .ch 'b', .ch 'f', .esc '/'] c
      = isSimpleEscape c := by
  simp [clsTest, CItem.test, isSimpleEscape, Bool.or_assoc]

theorem clsTest_hex (c : Char) :
    clsTest false [.range '0' '9', .range 'a' 'f', .range 'A' 'F'] c = isHex c := by
  simp [clsTest, CItem.test, isHex, isDigit, Bool.or_assoc]

theorem reStrBody_nil : reStrBody [] = none := by rw [reStrBody.eq_def]

theorem reStrBody_cons (c : Char) (cs : List Char) :
    reStrBody (c :: cs) =
      if (c == '"') = true then some 1
      else if (c == '\\') = true then
        match cs with
        | [] => none
        | e :: cs1 =>
          if isSimpleEscape e = true then Option.map (fun x => x + 2) (reStrBody cs1)
          else if (e == 'u') = true then
            match cs1 with
            | h1 :: h2 :: h3 :: h4 :: cs2 =>
              if (isHex h1 && isHex h2 && isHex h3 && isHex h4) = true then
                Option.map (fun x => x + 6) (reStrBody cs2)
              else none
            | _ => none
          else none
      else Option.map (fun x => x + 1) (reStrBody cs) := by
  rw [reStrBody.eq_def]
  rcases cs with _ | ⟨e, _ | ⟨h1, _ | ⟨h2, _ | ⟨h3, _ | ⟨h4, cs2⟩⟩⟩⟩⟩ <;> rfl

theorem reStrBody_quote (t : List Char) : reStrBody ('"' :: t) = some 1 := by
  rw [reStrBody_cons]; rfl

theorem reStrBody_plain_cons {c : Char} (h : plainChar c) (t : List Char) :
    reStrBody (c :: t) = (reStrBody t).map (· + 1) := by
  rw [reStrBody_cons]
  simp [h.1, h.2]

theorem reStrBody_plain {u : List Char} (h : ∀ c ∈ u, plainChar c) (t : List Char) :
    reStrBody (u ++ t) = (reStrBody t).map (· + u.length) := by
  induction u with
  | nil => simp
  | cons c u ih =>
    rw [List.cons_append, reStrBody_plain_cons (h c (by simp)),
      ih (fun x hx => h x (by simp [hx]))]
    cases reStrBody t with
    | none => rfl
    | some n => simp only [Option.map_some, List.length_cons, Option.some.injEq]; omega

theorem reStrBody_esc {e : Char} (h : isSimpleEscape e = true) (t : List Char) :
    reStrBody ('\\' :: e :: t) = (reStrBody t).map (· + 2) := by
  rw [reStrBody_cons]
  simp [h]

theorem reStrBody_uni {h1 h2 h3 h4 : Char} (x1 : isHex h1 = true) (x2 : isHex h2 = true)
    (x3 : isHex h3 = true) (x4 : isHex h4 = true) (t : List Char) :
    reStrBody ('\\' :: 'u' :: h1 :: h2 :: h3 :: h4 :: t) = (reStrBody t).map (· + 6) := by
  rw [reStrBody_cons]
  simp [x1, x2, x3, x4, isSimpleEscape]

theorem strPlain_inv {u : List Char} (h : Matches strPlain u) : ∀ c ∈ u, plainChar c := by
  intro c hc
  exact (clsTest_plain c).mp (List.all_eq_true.1 ((isChar_cls _ _).star_word h) c hc)

theorem strEsc_inv {u : List Char} (h : Matches strEsc u) :
    ∃ e, u = ['\\', e] ∧ isSimpleEscape e = true := by
  obtain ⟨u1, u2, rfl, h1, h2⟩ := h.cat_inv
  have := h1.esc_inv; subst this
  obtain ⟨e, rfl, he⟩ := h2.cls_inv
  exact ⟨e, rfl, by rw [← clsTest_simpleEscape]; exact he⟩

theorem hexDigit_inv {u : List Char} (h : Matches hexDigit u) : ∃ x, u = [x] ∧ isHex x = true := by
  obtain ⟨x, rfl, hx⟩ := h.cls_inv
  exact ⟨x, rfl, by rw [← clsTest_hex]; exact hx⟩

theorem strUni_inv {u : List Char} (h : Matches strUni u) :
    ∃ h1 h2 h3 h4, u = ['\\', 'u', h1, h2, h3, h4] ∧
      isHex h1 = true ∧ isHex h2 = true ∧ isHex h3 = true ∧ isHex h4 = true := by
  obtain ⟨u1, u2, rfl, a1, a2⟩ := h.cat_inv
  have := a1.esc_inv; subst this
  obtain ⟨u3, u4, rfl, a3, a4⟩ := a2.cat_inv
  have := a3.chr_inv; subst this
  obtain ⟨w1, r1, rfl, b1, c1⟩ := a4.rep_succ_inv
  obtain ⟨w2, r2, rfl, b2, c2⟩ := c1.rep_succ_inv
  obtain ⟨w3, r3, rfl, b3, c3⟩ := c2.rep_succ_inv
  obtain ⟨w4, r4, rfl, b4, c4⟩ := c3.rep_succ_inv
  have := c4.rep_zero_inv; subst this
  obtain ⟨x1, rfl, y1⟩ := hexDigit_inv b1
  obtain ⟨x2, rfl, y2⟩ := hexDigit_inv b2
  obtain ⟨x3, rfl, y3⟩ := hexDigit_inv b3
  obtain ⟨x4, rfl, y4⟩ := hexDigit_inv b4
  exact ⟨x1, x2, x3, x4, rfl, y1, y2, y3, y4⟩

theorem strItem_inv {u : List Char} (h : Matches strItem u) :
    (∀ c ∈ u, plainChar c) ∨ (∃ e, u = ['\\', e] ∧ isSimpleEscape e = true) ∨
    (∃ h1 h2 h3 h4, u = ['\\', 'u', h1, h2, h3, h4] ∧
      isHex h1 = true ∧ isHex h2 = true ∧ isHex h3 = true ∧ isHex h4 = true) := by
  rcases h.grp_inv.alt_inv with h | h
  · exact .inl (strPlain_inv h)
  · rcases h.alt_inv with h | h
    · exact .inr (.inl (strEsc_inv h))
    · exact .inr (.inr (strUni_inv h))

theorem reStrBody_of_matches {w : List Char} (h : Matches (star strItem) w) (v : List Char) :
    reStrBody (w ++ '"' :: v) = some (w.length + 1) := by
  refine Matches.star_induction
    (P := fun w => reStrBody (w ++ '"' :: v) = some (w.length + 1)) ?_ ?_ h
  · exact reStrBody_quote v
  · intro u w' hu _ ih
    rcases strItem_inv hu with hp | ⟨e, rfl, he⟩ | ⟨h1, h2, h3, h4, rfl, x1, x2, x3, x4⟩
    · rw [List.append_assoc, reStrBody_plain hp, ih]
      simp only [Option.map_some, List.length_append, Option.some.injEq]; omega
    · show reStrBody ('\\' :: e :: (w' ++ '"' :: v)) = _
      rw [reStrBody_esc he, ih]
      simp only [Option.map_some, List.length_append, List.length_cons, List.length_nil,
        Option.some.injEq]; omega
    · show reStrBody ('\\' :: 'u' :: h1 :: h2 :: h3 :: h4 :: (w' ++ '"' :: v)) = _
      rw [reStrBody_uni x1 x2 x3 x4, ih]
      simp only [Option.map_some, List.length_append, List.length_cons, List.length_nil,
        Option.some.injEq]; omega

theorem reStr_of_matches {u : List Char} (h : Matches (reOf .str) u) (v : List Char) :
    reStr (u ++ v) = some u.length := by
  obtain ⟨w, rfl, a3⟩ := Matches.delim_iff.1 h
  show reStr ('"' :: ((w ++ ['"']) ++ v)) = _
  rw [reStr]
  simp only [beq_self_eq_true, if_true, List.append_assoc, List.singleton_append]
  rw [reStrBody_of_matches a3]
  simp

theorem strItem_plain (c : Char) (h : plainChar c) : Matches strItem [c] :=
  .grp (.altL (by
    have := Matches.starCons (Matches.cls ((clsTest_plain c).mpr h)) .starNil
    simpa [strPlain] using this))

theorem strItem_esc (e : Char) (h : isSimpleEscape e = true) : Matches strItem ['\\', e] :=
  .grp (.altR (.altL (Matches.cat (.esc '\\') (.cls (by rw [clsTest_simpleEscape]; exact h)))))

theorem hexDigit_of (x : Char) (h : isHex x = true) : Matches hexDigit [x] :=
  .cls (by rw [clsTest_hex]; exact h)

theorem strItem_uni (h1 h2 h3 h4 : Char) (x1 : isHex h1 = true) (x2 : isHex h2 = true)
    (x3 : isHex h3 = true) (x4 : isHex h4 = true) :
    Matches strItem ['\\', 'u', h1, h2, h3, h4] :=
  .grp (.altR (.altR (Matches.cat (.esc '\\') (Matches.cat (.chr 'u')
    (Matches.repSucc (hexDigit_of h1 x1) (Matches.repSucc (hexDigit_of h2 x2)
      (Matches.repSucc (hexDigit_of h3 x3) (Matches.repSucc (hexDigit_of h4 x4) .repZero))))))))

theorem matches_of_reStrBody (t : List Char) : ∀ n, reStrBody t = some n →
    ∃ w rest, t = w ++ '"' :: rest ∧ Matches (star strItem) w := by
  -- the cases are the arms of `reStrBody` in the order of `reStrBody_cons`; 1, 3, 6, 7, 8 return `none`
  fun_induction reStrBody t with
  | case1 | case3 | case6 | case7 | case8 => intro n h; cases h
  | case2 c tail hc =>
    intro n h
    obtain rfl : c = '"' := by simpa using hc
    cases h
    exact ⟨[], tail, rfl, .starNil⟩
  | case4 c _ hb e tail he ih =>
    intro n h
    obtain rfl : c = '\\' := by simpa using hb
    obtain ⟨n', h', rfl⟩ := Option.map_eq_some_iff.mp h
    obtain ⟨w, rest, rfl, hw⟩ := ih n' h'
    exact ⟨'\\' :: e :: w, rest, rfl, .starCons (strItem_esc e he) hw⟩
  | case5 c _ hb e _ hu h1 h2 h3 h4 cs2 hx ih =>
    intro n h
    obtain rfl : c = '\\' := by simpa using hb
    obtain rfl : e = 'u' := by simpa using hu
    simp only [Bool.and_eq_true] at hx
    obtain ⟨n', h', rfl⟩ := Option.map_eq_some_iff.mp h
    obtain ⟨w, rest, rfl, hw⟩ := ih n' h'
    exact ⟨'\\' :: 'u' :: h1 :: h2 :: h3 :: h4 :: w, rest, rfl,
      .starCons (strItem_uni h1 h2 h3 h4 hx.1.1.1 hx.1.1.2 hx.1.2 hx.2) hw⟩
  | case9 c tail hq hb ih =>
    intro n h
    obtain ⟨n', h', rfl⟩ := Option.map_eq_some_iff.mp h
    obtain ⟨w, rest, rfl, hw⟩ := ih n' h'
    exact ⟨c :: w, rest, rfl,
      .starCons (strItem_plain c ⟨by simpa using hq, by simpa using hb⟩) hw⟩

theorem matches_of_reStr {s : List Char} {n : Nat} (h : reStr s = some n) :
    ∃ u v, s = u ++ v ∧ Matches (reOf .str) u := by
  cases s with
  | nil => simp [reStr] at h
  | cons c cs =>
    simp only [reStr] at h
    split at h
    · rename_i hc
      have hc : c = '"' := by simpa using hc
      subst hc
      cases h' : reStrBody cs with
      | none => simp [h'] at h
      | some n' =>
        obtain ⟨w, rest, rfl, hw⟩ := matches_of_reStrBody cs n' h'
        exact ⟨'"' :: (w ++ ['"']), rest, by simp,
          Matches.cat (.chr '"') (Matches.cat hw (.chr '"'))⟩
    · cases h

/-- At most one prefix of any input is a string literal: the first unescaped quote ends it. -/
theorem str_uniquePrefix : UniquePrefix (reOf .str) :=
  uniquePrefix_of (f := reStr) (fun _ v h => reStr_of_matches h v)

theorem str_reads : Reads (reOf .str) reStr (fun _ => false) :=
  Reads.of_unique (fun _ v h => reStr_of_matches h v) (fun _ _ h => matches_of_reStr h) _

end Re
end Yae
