/- For `Yae/Props/Api.lean`: every compilation of a history returns a Callable or a reported error, from
   `Facade.compileSrc_total` (C12); what that needs of the engine (`StaticOK`) is kept by every call. -/
import Yae.Proofs.ApiHistory
import Yae.Proofs.FacadeTotal
namespace Yae.Api
open Yae Yae.Facade Yae.EngineHistory

/-- operators the lexer and the parser can work with, signatures the checker's unifier terminates on -/
def StaticOK (e : Engine) : Prop :=
  Yae.C12.OpsOK e.ops ∧ ∀ d ∈ e.funs, Yae.PolyOK.declOK d.ty = true

/-- what one call must satisfy for `StaticOK` to be kept: the condition for compilation to be TOTAL, where
`Api.OpOK` (`ApiHistory`) is the condition for running to be SOUND. -/
def OpStaticOK : Op → Prop
  | .registerFun d => (∃ n ps r, d.ty = .fn n ps r) → Yae.PolyOK.declOK d.ty = true
  | .registerOperator o => o.kind ≠ "" ∧ o.kind ≠ "<END-OF-FILE>" ∧ o.kind ∉ literalKinds
  | .compile _ tenv _ => ∀ p ∈ tenv, Yae.TyOK p.2 = true
  | _ => True

theorem staticOK_init {e : Engine} (h : StaticOK e) : StaticOK e.init := by
  obtain ⟨ho, hf⟩ := h
  refine ⟨?_, ?_⟩
  · rw [init_ops]
    refine List.forall_mem_append.2 ⟨ho, fun o h => ?_⟩
    split at h
    · exact (by decide : Yae.C12.OpsOK builtinOps) o h
    · cases h
  · rw [init_funs]
    refine List.forall_mem_append.2 ⟨hf, fun d h => ?_⟩
    split at h
    · exact Yae.PolyOK.sigOK_declOK
        (List.all_eq_true.1 Yae.PolyOK.builtinFuns_sigOK d (builtinFuns_eq ▸ h))
    · cases h

theorem staticOK_effect (e : Engine) (op : Op) (h : StaticOK e) (hop : OpStaticOK op) :
    StaticOK (effect e op) := by
  cases op with
  | registerFun d =>
    show StaticOK (e.registerFun d)
    rw [registerFun_eq]
    refine ⟨h.1, List.forall_mem_append.2 ⟨h.2, fun d' hm => ?_⟩⟩
    obtain ⟨hm, hfn⟩ := mem_regs hm
    cases List.mem_singleton.1 hm
    exact hop hfn
  | registerOperator o =>
    refine ⟨List.forall_mem_append.2 ⟨h.1, fun o' hm => ?_⟩, h.2⟩
    simp only [List.mem_singleton] at hm
    subst hm; exact hop
  | compile times tenv src => exact staticOK_init h
  | _ => exact h

theorem sigEnv_tenvOf {e : Engine} (h : StaticOK e) {tenv : List (String × Ty)}
    (ht : ∀ p ∈ tenv, Yae.TyOK p.2 = true) : Yae.PolyOK.SigEnv (e.tenvOf tenv) where
  vars := fun x T hx => ht (x, T) (lookupVar_mem (Γ := e.tenvOf tenv) hx)
  funs := h.2

theorem compile_out_ok {e : Engine} (he : StaticOK e) {ops : List Op}
    (hops : ∀ op ∈ ops, OpStaticOK op) {i : Nat} {times : List (String × Int)}
    {tenv : List (String × Ty)} {src : String} {out : Out}
    (hop : ops[i]? = some (.compile times tenv src)) (hout : (e.run ops).2[i]? = some out) :
    (∃ c, out = .compiled (.ok c) ∧ c.tenv = tenv) ∨
    (∃ err, out = .compiled (.error err) ∧ Yae.C12.reported err) := by
  have hout' := Option.some.inj (hout.symm.trans (run_out hop))
  have hS : StaticOK (e.run (ops.take i)).1 :=
    run_fst e _ ▸ foldl_keeps staticOK_effect (ops.take i) he fun op ho => hops op (List.mem_of_mem_take ho)
  have hS' := staticOK_init hS
  have hΓ := sigEnv_tenvOf hS' (tenv := tenv) (hops _ (List.mem_of_getElem? hop))
  simp only [Engine.step] at hout'
  rw [hout']
  unfold Engine.compile
  simp only
  rcases compileSrc_total hS'.1 hΓ times src with ⟨T, e', h⟩ | ⟨err, h, hr⟩
  · left; rw [h]; exact ⟨_, rfl, rfl⟩
  · right; rw [h]; exact ⟨err, rfl, hr⟩

end Yae.Api
