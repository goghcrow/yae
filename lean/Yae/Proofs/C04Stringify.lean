/-
  C04, "string conversion": `fun.stringify` (`Val.stringify`, the `string()` built-in) and its relation to
  `(*Val).String()` (`Val.render`).  The two texts coincide on values hereditarily free of strings, function
  values, maybes and objects whose fields are not declared in name order (`stringify_eq_render`); a kernel-checked
  difference for each excluded case.  The equations of maps and objects are in `Yae/Proofs/ValRel.lean`.
-/
import Yae.Proofs.ValRelEq
namespace Yae

theorem intercalate_two (sep a b : String) : sep.intercalate [a, b] = a ++ sep ++ b := by
  simp [String.append_assoc]

theorem stringify_list (ty : Ty) (vs : ValList) :
    Val.stringify (.list ty vs) = "[" ++ ", ".intercalate (vs.toList.map Val.stringify) ++ "]" := by
  simp only [Val.stringify, stringifyVals_eq, joinStr]

theorem render_list (ty : Ty) (vs : ValList) :
    Val.render (.list ty vs) = "[" ++ ", ".intercalate (vs.toList.map Val.render) ++ "]" := by
  simp only [Val.render, renderVals_eq, joinStr]

theorem sortBy_of_sorted {α : Type} (key : α → String) : ∀ l : List α,
    l.Pairwise (fun a b => key a < key b) → sortBy (ltKey key) l = l
  | [], _ => rfl
  | [x], _ => rfl
  | x :: y :: l, h => by
    have ih := sortBy_of_sorted key (y :: l) (List.pairwise_cons.1 h).2
    have hxy : key x < key y := (List.pairwise_cons.1 h).1 y (by simp)
    show insertBy (ltKey key) x (sortBy (ltKey key) (y :: l)) = x :: y :: l
    rw [ih]
    simp [insertBy, ltKey, hxy]

/-- The nodes at which the two texts of a value agree: no string (quoted by `String()`, bare in
`string()`), no function value (`<type>#fun` / `#fun`), no maybe (`Just#<type>(…)` / `Just(…)`),
and an object only if its fields are declared in strictly increasing order of their names
(`String()` sorts them, `string()` keeps the declaration order). -/
def Val.LocalSameText : Val → Prop
  | .str _ => False
  | .fn _ _ _ => False
  | .just _ _ => False
  | .nothing _ => False
  | .obj (.obj fs) _ => fs.names.Pairwise (· < ·)
  | _ => True

/-- **`string(x)` is `(*Val).String()`** on values built from numbers, bools, instants, lists,
maps and objects with fields in name order (hereditarily: `Val.All`). -/
theorem stringify_eq_render : ∀ v : Val, v.All Val.LocalSameText → v.stringify = v.render := by
  apply Val.induct_mem (P := fun v => v.All Val.LocalSameText → v.stringify = v.render)
  case num | bool | time => intro _ _; rfl
  case nil => intro _; rfl
  case str | nothing => intro _ h; exact absurd h (by simp [Val.All, Val.LocalSameText])
  case fn => intro ty r l h; exact absurd h (by simp [Val.All, Val.LocalSameText])
  case just => intro el v _ h; exact absurd (Val.all_just.1 h).1 (by simp [Val.LocalSameText])
  case list =>
    intro ty vs ih h
    rw [stringify_list, render_list]
    rw [List.map_congr_left (fun v hv => ih v hv ((Val.all_list.1 h).2 v hv))]
  case map =>
    intro ty es ih h
    rw [stringify_map, render_map, stringifyEntries_eq, renderEntries_eq]
    rw [List.map_congr_left (fun e he => by rw [ih e he ((Val.all_map.1 h).2 e he)])]
  case obj =>
    intro ty vs ih h
    have hvs : stringifyVals vs = renderVals vs := by
      rw [stringifyVals_eq, renderVals_eq]
      exact List.map_congr_left (fun v hv => ih v hv ((Val.all_obj.1 h).2 v hv))
    cases ty with
    | obj fs =>
      have hs : fs.names.Pairwise (· < ·) := (Val.all_obj.1 h).1
      rw [render_obj, objText, sortBy_of_sorted Prod.fst _
        (List.pairwise_map.1 (hs.sublist (map_fst_zip_sublist _ _)))]
      simp only [Val.stringify, hvs]
    | _ => simp [Val.stringify, Val.render]

/-- non-vacuity: `[true, false]` satisfies the hypothesis; both texts are `[true, false]` -/
example : (Val.list (.list .bool) (.cons (.bool true) (.cons (.bool false) .nil))).All
    Val.LocalSameText ∧
    (Val.list (.list .bool) (.cons (.bool true) (.cons (.bool false) .nil))).stringify =
      "[true, false]" := by
  refine ⟨by simp [Val.All, ValList.All, Val.LocalSameText], by decide⟩

/-! #### where the two texts differ (each clause of `LocalSameText` is needed) -/

/-- a string: bare in `string()`, quoted in `String()`; also INSIDE a list -/
theorem string_not_quoted :
    (Val.str "a").stringify = "a" ∧ (Val.str "a").render = "\"a\"" ∧
    (Val.list (.list .str) (.cons (.str "a") (.cons (.str "b c") .nil))).stringify = "[a, b c]" ∧
    (Val.list (.list .str) (.cons (.str "a") (.cons (.str "b c") .nil))).render =
      "[\"a\", \"b c\"]" := by decide

/-- Not a difference: the KEYS of a map are the key texts (`Key()`), which are quoted for strings
in both texts.  In `string(["k": "v"])` the key is quoted and the value is not. -/
theorem map_keys_stay_quoted :
    (Val.map (.map .str .str) (.cons .str (Num.quote "k") (.str "v") .nil)).stringify =
      "[\"k\": v]" ∧
    (Val.map (.map .str .str) (.cons .str (Num.quote "k") (.str "v") .nil)).render =
      "[\"k\": \"v\"]" := by decide

/-- an object: declaration order in `string()`, name order in `String()` -/
theorem obj_order_differs :
    (Val.obj (.obj (.cons "b" .bool (.cons "a" .bool .nil)))
      (.cons (.bool true) (.cons (.bool false) .nil))).stringify = "{b: true, a: false}" ∧
    (Val.obj (.obj (.cons "b" .bool (.cons "a" .bool .nil)))
      (.cons (.bool true) (.cons (.bool false) .nil))).render = "{a: false, b: true}" := by decide

/-- maybes and function values: `String()` shows the type, `string()` does not -/
theorem maybe_fn_differ :
    (Val.just .bool (.bool true)).stringify = "Just(true)" ∧
    (Val.just .bool (.bool true)).render = "Just#bool(true)" ∧
    (Val.nothing .bool).stringify = "Nothing()" ∧ (Val.nothing .bool).render = "Nothing#bool()" ∧
    (Val.fn (.fn "f" .nil .bool) (.builtin 0) false).stringify = "#fun" ∧
    (Val.fn (.fn "f" .nil .bool) (.builtin 0) false).render = "func f() bool#fun" := by decide

end Yae

#print axioms Yae.stringify_eq_render
#print axioms Yae.stringify_list
