/-
  The sample source text `a + b * c`, lexed and parsed with the built-in operators once.  The examples of C08 (which
  start from the tokens) and of C12 (which start from the text) rewrite with `lex1` and `parse1`.
-/
import Yae.Proofs.Lex  -- for `exceptDecEq`, by which `lex1` is decided
import Yae.Model.Parser
namespace Yae.C08
open Yae

/-- a token at `[a, b)` on line 0 -/
def tk (k l : String) (a b : Int) : Token := ⟨k, l, ⟨a, b, a, 0⟩⟩
def sym (n : String) (a : Int) : Token := tk "<sym>" n a (a + 1)
def op (k : String) (a : Int) : Token := tk k k a (a + k.length)

/-- `a + b * c` -/
def toks1 : List Token := [sym "a" 0, op "+" 2, sym "b" 4, op "*" 6, sym "c" 8]

/-- `a + (b * c)`; the `3` of the two nodes is `fixInfixL` -/
def tree1 : Expr :=
  .binary ⟨0, 9, 0, 0⟩ "+" ⟨2, 3, 2, 0⟩ 3 (.ident ⟨0, 1, 0, 0⟩ "a")
    (.binary ⟨4, 9, 4, 0⟩ "*" ⟨6, 7, 6, 0⟩ 3 (.ident ⟨4, 5, 4, 0⟩ "b") (.ident ⟨8, 9, 8, 0⟩ "c"))

theorem lex1 : lex builtinOps "a + b * c".toList = .ok toks1 := by decide +kernel

theorem parse1 : parse builtinOps [] toks1 = .ok tree1 := by rfl

end Yae.C08
