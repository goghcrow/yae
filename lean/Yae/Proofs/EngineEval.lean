/-
  What an evaluation depends on.  `eval_congr`: two run-time environments with the same externs that give the same
  value to every visited identifier and the same function to every visited static call evaluate alike: same
  result, same events, from every log, with every fuel, in debug mode or not.  It is `Walk.eval` with equality of
  logs as the relation.
-/
import Yae.Proofs.EvalWalk
namespace Yae.EngineEval
open Yae

def Agree (ρ₁ ρ₂ : REnv) : Expr → Prop :=
  All (fun x => ρ₁.lookupVar x = ρ₂.lookupVar x)
    (fun r i => resolveStatic ρ₁.funs r i = resolveStatic ρ₂.funs r i) True

theorem eval_congr {ρ₁ ρ₂ : REnv} (hext : ρ₁.ext = ρ₂.ext) {e : Expr} (h : Agree ρ₁ ρ₂ e)
    (fuel : Nat) (dbg : Bool) : eval fuel dbg ρ₁ e = eval fuel dbg ρ₂ e :=
  have W : Walk Eq (fun _ => True) dbg dbg ρ₁ ρ₂ _ _ True :=
    { val := .top, ext := hext, call := fun _ _ _ _ h => congrArg _ h,
      dbg := fun _ _ _ _ h => by rw [h], var := fun _ h => ⟨h, fun _ _ => trivial⟩,
      fn := fun _ _ h => ⟨h, fun _ _ => .inl fun _ _ _ h => congrArg _ h⟩,
      dyn := fun _ _ _ _ _ => .inl fun _ _ _ h => congrArg _ h }
  funext fun l => have h := W.eval fuel e h l l rfl; Prod.ext h.1 h.2.1

theorem runEval_congr {ρ₁ ρ₂ : REnv} (hext : ρ₁.ext = ρ₂.ext) {e : Expr} (h : Agree ρ₁ ρ₂ e)
    (dbg : Bool) : runEval dbg ρ₁ e = runEval dbg ρ₂ e := by
  unfold runEval
  rw [eval_congr hext h]

end Yae.EngineEval
