/-
  `Time.String()` (`TimeV.render`) as a text of the layout `YYYY-MM-DD hh:mm:ss[.fffffffff] ±hhmm ZONE` (`timeL`,
  `render_toList`), read back field by field.  The readers of `readTime` invert one field whatever follows; from
  that, two equal texts of the layout have equal fields (`timeL_inj`) and the whole reader inverts the layout.
  With the calendar of `C04Time`, every reading of the text of an instant satisfying `TimeV.TextOK` denotes that
  instant (`read_back`: C04), hence the text determines the instant and, when the zone abbreviation has none of
  `,` `]` `}` `)`, contains none of them (`timeText`: C18).
-/
import Yae.Proofs.ListLemmas
import Yae.Proofs.ValRelTextChars
import Yae.Proofs.C04Time
namespace Yae
open Civil

theorem civil_inj (z1 z2 : Int) (h1 : 0 ≤ z1 + 719468) (h2 : 0 ≤ z2 + 719468)
    (h : civilFromDays z1 = civilFromDays z2) : z1 = z2 := by
  rw [← dayNumber_civilFromDays z1 h1, h, dayNumber_civilFromDays z2 h2]

def padL (w n : Nat) : List Char :=
  List.replicate (w - (Nat.toDigits 10 n).length) '0' ++ Nat.toDigits 10 n

theorem pad_toList (w n : Nat) : (pad w n).toList = padL w n := by
  simp only [pad, padL, String.toList_append, String.toList_ofList, Nat.toString_eq_repr,
    Nat.toList_repr, ← String.length_toList]

theorem padL_isDigit (w n : Nat) : ∀ c ∈ padL w n, c.isDigit = true := by
  intro c hc
  simp only [padL, List.mem_append, List.mem_replicate] at hc
  rcases hc with hc | hc
  · rw [hc.2]; rfl
  · exact Nat.isDigit_of_mem_toDigits (by decide) (by decide) hc

theorem padL_ne_nil (w n : Nat) : padL w n ≠ [] := by
  simp [padL]

theorem padL_value (w n : Nat) : Nat.ofDigitChars 10 (padL w n) 0 = n := by
  simp [padL, Nat.ofDigitChars_append]

theorem padL_length {w n : Nat} (hw : 0 < w) (h : n < 10 ^ w) : (padL w n).length = w := by
  have := (Nat.length_toDigits_le_iff (b := 10) (n := n) (by decide) hw).2 h
  simp only [padL, List.length_append, List.length_replicate]
  omega

theorem isDigit_ne {c : Char} (h : c.isDigit = true) (d : Char) (hd : d.isDigit = false) :
    (c == d) = false :=
  beq_eq_false_iff_ne.2 fun e => by rw [e, hd] at h; cases h

def fracL (nsec : Nat) : List Char :=
  if nsec = 0 then [] else '.' :: ((padL 9 nsec).reverse.dropWhile (· == '0')).reverse

theorem fracStr_toList (nsec : Nat) : (fracStr nsec).toList = fracL nsec := by
  simp only [fracStr, fracL]
  split
  · rfl
  · simp [String.toList_append, pad_toList]

theorem fracL_chars (nsec : Nat) : ∀ c ∈ fracL nsec, c = '.' ∨ c.isDigit = true := by
  intro c hc
  simp only [fracL] at hc
  split at hc
  · simp at hc
  · simp only [List.mem_cons, List.mem_reverse] at hc
    rcases hc with hc | hc
    · exact Or.inl hc
    · exact Or.inr (padL_isDigit 9 nsec c (List.mem_reverse.1 ((List.dropWhile_sublist _).mem hc)))

theorem strip_zeros (l : List Char) :
    ∃ k, l = (l.reverse.dropWhile (· == '0')).reverse ++ List.replicate k '0' := by
  have h : l.reverse.takeWhile (· == '0') =
      List.replicate (l.reverse.takeWhile (· == '0')).length '0' :=
    List.eq_replicate_iff.2 ⟨rfl, fun b hb => by
      simpa using List.all_eq_true.1 List.all_takeWhile b hb⟩
  refine ⟨(l.reverse.takeWhile (· == '0')).length, ?_⟩
  rw [← List.reverse_replicate, ← h, ← List.reverse_append, List.takeWhile_append_dropWhile,
    List.reverse_reverse]

def timeL (Y M D hh mm ss nsec : Nat) (neg : Bool) (oh om : Nat) (zone : List Char) : List Char :=
  padL 4 Y ++ '-' :: (padL 2 M ++ '-' :: (padL 2 D ++ ' ' :: (padL 2 hh ++ ':' :: (padL 2 mm ++
    ':' :: (padL 2 ss ++ (fracL nsec ++ ' ' :: (if neg then '-' else '+') ::
      ((padL 2 oh ++ padL 2 om) ++ ' ' :: zone)))))))

def TimeV.days (t : TimeV) : Int := (t.sec + t.offset).fdiv 86400
def TimeV.sod (t : TimeV) : Nat := ((t.sec + t.offset).fmod 86400).toNat

theorem render_toList (t : TimeV) :
    t.render.toList = timeL (civilFromDays t.days).1.toNat (civilFromDays t.days).2.1
      (civilFromDays t.days).2.2 (t.sod / 3600) (t.sod % 3600 / 60) (t.sod % 60) t.nsec
      (decide (t.offset < 0)) (t.offset.natAbs / 3600) (t.offset.natAbs % 3600 / 60)
      t.zone.toList := by
  have hsign : (if t.offset < 0 then "-" else "+" : String).toList =
      [if decide (t.offset < 0) then '-' else '+'] := by
    by_cases h : t.offset < 0 <;> simp [h]
  rcases hc : civilFromDays t.days with ⟨y, m, d⟩
  simp only [TimeV.days] at hc
  -- `unfold` before rewriting with `hc`: given both at once, `simp only` compares `t.render` with
  -- its own body up to reduction of the string operations, which takes very long to check
  unfold TimeV.render
  simp only [hc, timeL, TimeV.sod, String.toList_append, pad_toList, fracStr_toList, hsign,
    List.append_assoc, List.cons_append, List.nil_append]
  rfl

theorem timeL_chars (Y M D hh mm ss nsec : Nat) (neg : Bool) (oh om : Nat) (zone : List Char)
    (hz : ∀ c ∈ zone, stopV c = false) :
    ∀ c ∈ timeL Y M D hh mm ss nsec neg oh om zone, stopV c = false := by
  have hdig : ∀ c : Char, c.isDigit = true → stopV c = false := fun c hc =>
    (numChar_not_stop (numChar_of_isDigit hc)).1
  have hp : ∀ w n, ∀ c ∈ padL w n, stopV c = false := fun w n c hc => hdig c (padL_isDigit w n c hc)
  have hf : ∀ c ∈ fracL nsec, stopV c = false := fun c hc =>
    (fracL_chars nsec c hc).elim (fun h => h ▸ by decide) (hdig c)
  simp only [timeL, List.forall_mem_append, List.forall_mem_cons]
  exact ⟨hp _ _, by decide, hp _ _, by decide, hp _ _, by decide, hp _ _, by decide, hp _ _,
    by decide, hp _ _, hf, by decide, by cases neg <;> decide, ⟨hp _ _, hp _ _⟩, by decide, hz⟩

theorem TimeV.sec_eq (t : TimeV) : t.sec = t.days * 86400 + t.sod - t.offset := by
  have h1 : (0 : Int) ≤ (t.sec + t.offset) % 86400 := Int.emod_nonneg _ (by decide)
  simp only [TimeV.days, TimeV.sod, Int.fdiv_eq_ediv_of_nonneg _ (by decide : (0 : Int) ≤ 86400),
    Int.fmod_eq_emod_of_nonneg _ (by decide : (0 : Int) ≤ 86400), Int.toNat_of_nonneg h1]
  omega

theorem TimeV.days_ge (t : TimeV) (h : -62162035200 ≤ t.sec + t.offset) : 0 ≤ t.days + 719468 := by
  simp only [TimeV.days, Int.fdiv_eq_ediv_of_nonneg _ (by decide : (0 : Int) ≤ 86400)]
  omega

theorem TimeV.sod_lt (t : TimeV) : t.sod < 86400 := by
  have h1 : (0 : Int) ≤ (t.sec + t.offset) % 86400 := Int.emod_nonneg _ (by decide)
  have h2 : (t.sec + t.offset) % 86400 < 86400 := Int.emod_lt_of_pos _ (by decide)
  simp only [TimeV.sod, Int.fmod_eq_emod_of_nonneg _ (by decide : (0 : Int) ≤ 86400)]
  omega

/-- the value of a string of decimal digits, by core's `Nat.ofDigitChars` (`padL_value` is stated
with it); no lemma relates it to the model's `Num.digitsVal` -/
def numVal (ds : List Char) : Nat := Nat.ofDigitChars 10 ds 0

def readNum (cs : List Char) : Option (Nat × List Char) :=
  let ds := cs.takeWhile Char.isDigit
  if ds = [] then none else some (numVal ds, cs.dropWhile Char.isDigit)

def expect (c : Char) : List Char → Option (List Char)
  | d :: r => if d = c then some r else none
  | [] => none

/-- optional fraction `.d{1,9}`: nanoseconds -/
def readFrac : List Char → Option (Nat × List Char)
  | '.' :: r =>
    let ds := r.takeWhile Char.isDigit
    if ds = [] ∨ 9 < ds.length then none
    else some (numVal (ds ++ List.replicate (9 - ds.length) '0'), r.dropWhile Char.isDigit)
  | r => some (0, r)

theorem readNum_pad (w n : Nat) {r : List Char} (hr : Re.NoHead Char.isDigit r) :
    readNum (padL w n ++ r) = some (n, r) := by
  obtain ⟨h1, h2⟩ := span_append (padL_isDigit w n) hr
  simp only [readNum, h1, h2, if_neg (padL_ne_nil w n), numVal, padL_value]

theorem expect_cons (c : Char) (r : List Char) : expect c (c :: r) = some r := by simp [expect]

theorem readFrac_fracL (ns : Nat) (h : ns < 1000000000) (rest : List Char) :
    readFrac (fracL ns ++ ' ' :: rest) = some (ns, ' ' :: rest) := by
  unfold fracL
  by_cases h0 : ns = 0
  · subst h0; simp [readFrac]
  · rw [if_neg h0]
    have hlen : (padL 9 ns).length = 9 := padL_length (by decide) (by simpa using h)
    have hS : ∀ c ∈ ((padL 9 ns).reverse.dropWhile (· == '0')).reverse, c.isDigit = true :=
      fun c hc => padL_isDigit 9 ns c
        (List.mem_reverse.1 ((List.dropWhile_sublist _).mem (List.mem_reverse.1 hc)))
    obtain ⟨k, hres⟩ := strip_zeros (padL 9 ns)
    generalize ((padL 9 ns).reverse.dropWhile (· == '0')).reverse = S at *
    -- `padL 9 ns = S ++ k zeros`, and `S` is not empty since `ns ≠ 0`
    have hk : S.length + k = 9 := by
      rw [← hlen, hres, List.length_append, List.length_replicate]
    have hSne : S ≠ [] := by
      intro hnil; subst hnil
      have := padL_value 9 ns
      rw [hres, (by simpa using hk : k = 9)] at this
      exact h0 (by rw [← this]; decide)
    obtain ⟨t1, t2⟩ := span_append (r := ' ' :: rest) hS (Re.NoHead.cons rest (by decide))
    simp only [List.cons_append, readFrac, t1, t2]
    rw [if_neg (by intro hc; rcases hc with hc | hc; exact hSne hc; omega),
      (by omega : 9 - S.length = k), ← hres, numVal, padL_value]

theorem pad_split {w w' a b : Nat} {d : Char} (hd : d.isDigit = false) {r r' : List Char}
    (h : padL w a ++ d :: r = padL w' b ++ d :: r') : a = b ∧ r = r' := by
  have := congrArg readNum h
  rw [readNum_pad w a (Re.NoHead.cons r hd), readNum_pad w' b (Re.NoHead.cons r' hd)] at this
  simpa using this

theorem frac_split {a b : Nat} (ha : a < 1000000000) (hb : b < 1000000000) {r r' : List Char}
    (h : fracL a ++ ' ' :: r = fracL b ++ ' ' :: r') : a = b ∧ r = r' := by
  have := congrArg readFrac h
  rw [readFrac_fracL a ha, readFrac_fracL b hb] at this
  simpa using this

theorem fracL_head (n : Nat) (r : List Char) : Re.NoHead Char.isDigit (fracL n ++ ' ' :: r) := by
  unfold fracL
  split <;> exact Re.NoHead.cons _ (by decide)

theorem timeL_inj {Y M D hh mm ss nsec Y' M' D' hh' mm' ss' nsec' : Nat} {neg neg' : Bool}
    {oh om oh' om' : Nat} {zone zone' : List Char}
    (hn : nsec < 1000000000) (hn' : nsec' < 1000000000) (hom : om < 100) (hom' : om' < 100)
    (h : timeL Y M D hh mm ss nsec neg oh om zone =
      timeL Y' M' D' hh' mm' ss' nsec' neg' oh' om' zone') :
    Y = Y' ∧ M = M' ∧ D = D' ∧ hh = hh' ∧ mm = mm' ∧ ss = ss' ∧ nsec = nsec' ∧ neg = neg' ∧
      oh = oh' ∧ om = om' := by
  simp only [timeL] at h
  obtain ⟨e1, h⟩ := pad_split (by decide) h
  obtain ⟨e2, h⟩ := pad_split (by decide) h
  obtain ⟨e3, h⟩ := pad_split (by decide) h
  obtain ⟨e4, h⟩ := pad_split (by decide) h
  obtain ⟨e5, h⟩ := pad_split (by decide) h
  -- seconds: what follows (the fraction or a space) begins with no digit
  have h6 := congrArg readNum h
  rw [readNum_pad 2 ss (fracL_head _ _), readNum_pad 2 ss' (fracL_head _ _)] at h6
  simp only [Option.some.injEq, Prod.mk.injEq] at h6
  obtain ⟨e6, h⟩ := h6
  obtain ⟨e7, h⟩ := frac_split hn hn' h
  simp only [List.cons.injEq] at h
  obtain ⟨e8, h⟩ := h
  -- offset: the digits up to the space, the last two of them the minutes
  have hdd : ∀ a b, ∀ c ∈ padL 2 a ++ padL 2 b, (c == ' ') = false := fun a b c hc =>
    isDigit_ne (List.forall_mem_append.2 ⟨padL_isDigit 2 a, padL_isDigit 2 b⟩ c hc) ' ' (by decide)
  obtain ⟨e9, _⟩ := prefix_unique (fun c => c == ' ') _ _ _ _ (hdd _ _) (hdd _ _)
    (Term.cons (by simp) _) (Term.cons (by simp) _) h
  obtain ⟨e10, e11⟩ := List.append_inj' e9
    (by rw [padL_length (by decide) (by simpa using hom),
      padL_length (by decide) (by simpa using hom')])
  have pv : ∀ {a b : Nat}, padL 2 a = padL 2 b → a = b := fun {a b} e => by
    rw [← padL_value 2 a, e, padL_value]
  refine ⟨e1, e2, e3, e4, e5, e6, e7, ?_, pv e10, pv e11⟩
  cases neg <;> cases neg' <;> first | rfl | (exact absurd e8 (by decide))

/-- civil date and time of day in a zone `off` seconds east of UTC -/
def instantOf (y m d hh mm ss : Nat) (off : Int) : Int := epochOf y m d hh mm ss - off

def offsetOf (neg : Bool) (oh om : Nat) : Int :=
  if neg then -((oh * 3600 + om * 60 : Nat) : Int) else ((oh * 3600 + om * 60 : Nat) : Int)

theorem sec_of_displayed (t : TimeV) (h : -62162035200 ≤ t.sec + t.offset) :
    ∃ y m d : Nat, civilFromDays t.days = ((y : Int), m, d) ∧ ValidDate y m d ∧ FromMarch0 y m ∧
      t.sec = instantOf y m d (t.sod / 3600) (t.sod % 3600 / 60) (t.sod % 60) t.offset := by
  have hz := t.days_ge h
  obtain ⟨y, m, d, hc, hv, hr⟩ := civilFromDays_valid t.days hz
  refine ⟨y, m, d, hc, hv, hr, ?_⟩
  have hd := dayNumber_civilFromDays t.days hz
  rw [hc] at hd
  simp only [Int.toNat_natCast] at hd
  rw [instantOf, epochOf, hd, t.sec_eq]
  have := t.sod_lt
  generalize t.sod = s at *
  omega

/-- however the text of an instant is split into the fields of its layout, the instant is the one these fields
denote -/
theorem read_back (t : TimeV) (ht : t.TextOK) {Y M D hh mm ss ns oh om : Nat} {neg : Bool}
    {zone : List Char} (hns : ns < 1000000000) (hom : om < 100)
    (h : t.render.toList = timeL Y M D hh mm ss ns neg oh om zone) :
    t.sec = instantOf Y M D hh mm ss (offsetOf neg oh om) ∧ t.nsec = ns := by
  rw [render_toList] at h
  have hoff := ht.offset_min
  obtain ⟨eY, eM, eD, ehh, emm, ess, ens, eneg, eoh, eom⟩ :=
    timeL_inj ht.nsec hns (by omega) hom h
  obtain ⟨y, m, d, hc, hv, hr, hsec⟩ := sec_of_displayed t ht.year_lo
  rw [hc] at eY eM eD
  simp only [Int.toNat_natCast] at eY eM eD
  subst eY eM eD ehh emm ess ens eoh eom
  refine ⟨?_, rfl⟩
  rw [hsec]
  congr 1
  unfold offsetOf
  subst eneg
  by_cases hneg : t.offset < 0
  · simp only [hneg, decide_true, if_true]; omega
  · simp only [hneg, decide_false]; simp; omega

/-- both instants are the one the fields of the common text denote (`read_back`) -/
theorem timeText : TimeText where
  ne := fun t => by
    rw [render_toList]
    intro h
    simp only [timeL, List.append_eq_nil_iff] at h
    exact padL_ne_nil 4 _ h.1
  chars := fun t ht => by rw [render_toList]; exact timeL_chars _ _ _ _ _ _ _ _ _ _ _ ht.zone
  inj := fun a b ha hb h => by
    have hm : b.offset.natAbs % 3600 / 60 < 100 := by omega
    obtain ⟨s1, n1⟩ := read_back a ha hb.nsec hm (by rw [h]; exact render_toList b)
    obtain ⟨s2, _⟩ := read_back b hb hb.nsec hm (render_toList b)
    simp [TimeV.equal, s1, s2, n1]

/-! ### the whole reader; `readTime` occurs in the statement of `C04.time_text_reader` -/

/-- the zone field `±hhmm`, exactly four digits: seconds east of UTC (`offsetOf`) -/
def readOffset : List Char → Option (Int × List Char)
  | sg :: r =>
    let ds := r.takeWhile Char.isDigit
    if ds.length = 4 ∧ (sg = '+' ∨ sg = '-') then
      some (offsetOf (sg == '-') (numVal (ds.take 2)) (numVal (ds.drop 2)), r.dropWhile Char.isDigit)
    else none
  | [] => none

/-- answers seconds since the epoch, computed from the fields by the calendar (`instantOf`), and nanoseconds -/
def readTimeL (cs : List Char) : Option (Int × Nat) := do
  let (Y, r) ← readNum cs
  let r ← expect '-' r
  let (M, r) ← readNum r
  let r ← expect '-' r
  let (D, r) ← readNum r
  let r ← expect ' ' r
  let (hh, r) ← readNum r
  let r ← expect ':' r
  let (mm, r) ← readNum r
  let r ← expect ':' r
  let (ss, r) ← readNum r
  let (ns, r) ← readFrac r
  let r ← expect ' ' r
  let (off, r) ← readOffset r
  let _ ← expect ' ' r
  pure (instantOf Y M D hh mm ss off, ns)

def readTime (s : String) : Option (Int × Nat) := readTimeL s.toList

theorem readOffset_pad (neg : Bool) (oh om : Nat) (hoh : oh < 100) (hom : om < 100)
    (zone : List Char) :
    readOffset ((if neg then '-' else '+') :: ((padL 2 oh ++ padL 2 om) ++ ' ' :: zone)) =
      some (offsetOf neg oh om, ' ' :: zone) := by
  have l1 : (padL 2 oh).length = 2 := padL_length (by decide) (by simpa using hoh)
  have l2 : (padL 2 om).length = 2 := padL_length (by decide) (by simpa using hom)
  obtain ⟨t1, t2⟩ := span_append (ds := padL 2 oh ++ padL 2 om) (r := ' ' :: zone)
    (List.forall_mem_append.2 ⟨padL_isDigit 2 oh, padL_isDigit 2 om⟩)
    (Re.NoHead.cons zone (by decide))
  have hsg : ((if neg then '-' else '+' : Char) == '-') = neg := by cases neg <;> decide
  have hsg' : (if neg then '-' else '+' : Char) = '+' ∨ (if neg then '-' else '+' : Char) = '-' := by
    cases neg <;> simp
  simp only [readOffset, t1, t2, List.length_append, l1, l2, hsg, hsg', and_self, if_true]
  rw [List.take_left' l1, List.drop_left' l1]
  simp only [numVal, padL_value]

theorem readTimeL_timeL (Y M D hh mm ss ns : Nat) (neg : Bool) (oh om : Nat) (zone : List Char)
    (hns : ns < 1000000000) (hoh : oh < 100) (hom : om < 100) :
    readTimeL (timeL Y M D hh mm ss ns neg oh om zone) =
      some (instantOf Y M D hh mm ss (offsetOf neg oh om), ns) := by
  simp only [readTimeL, timeL, bind, Option.bind, pure,
    readNum_pad 4 Y (Re.NoHead.cons (c := '-') _ (by decide)),
    readNum_pad 2 M (Re.NoHead.cons (c := '-') _ (by decide)),
    readNum_pad 2 D (Re.NoHead.cons (c := ' ') _ (by decide)),
    readNum_pad 2 hh (Re.NoHead.cons (c := ':') _ (by decide)),
    readNum_pad 2 mm (Re.NoHead.cons (c := ':') _ (by decide)), readNum_pad 2 ss (fracL_head _ _),
    expect_cons, readFrac_fracL ns hns, readOffset_pad neg oh om hoh hom]

theorem pad2_zero : pad 2 0 = "00" := by decide
theorem fracStr_zero : fracStr 0 = "" := by decide

theorem epochOf_days_sod (y m d hh mm ss : Nat) (h1 : hh < 24) (h2 : mm < 60) (h3 : ss < 60) :
    (epochOf y m d hh mm ss).fdiv 86400 = dayNumber y m d ∧
      (epochOf y m d hh mm ss).fmod 86400 = ((hh * 3600 + mm * 60 + ss : Nat) : Int) := by
  rw [Int.fdiv_eq_ediv_of_nonneg _ (by decide), Int.fmod_eq_emod_of_nonneg _ (by decide)]
  unfold epochOf
  generalize dayNumber y m d = D
  omega

/-- the instant `epochOf y m d hh mm ss` (what `timelib.Strtotime` answers for the absolute form `y-m-d hh:mm:ss`
UTC; the model takes that answer from a table) is displayed by `Time.String()` with exactly these fields -/
theorem render_unix_epochOf (y m d hh mm ss : Nat) (hv : ValidDate y m d) (hr : FromMarch0 y m)
    (h1 : hh < 24) (h2 : mm < 60) (h3 : ss < 60) :
    (TimeV.unix (epochOf y m d hh mm ss)).render =
      pad 4 y ++ "-" ++ pad 2 m ++ "-" ++ pad 2 d ++ " " ++ pad 2 hh ++ ":" ++ pad 2 mm ++ ":" ++
        pad 2 ss ++ " +0000 UTC" := by
  obtain ⟨e1, e2⟩ := epochOf_days_sod y m d hh mm ss h1 h2 h3
  have f1 : (hh * 3600 + mm * 60 + ss) / 3600 = hh := by omega
  have f2 : (hh * 3600 + mm * 60 + ss) % 3600 / 60 = mm := by omega
  have f3 : (hh * 3600 + mm * 60 + ss) % 60 = ss := by omega
  -- `unfold` first, as in `render_toList`
  unfold TimeV.render
  simp only [TimeV.unix, Int.add_zero, e1, e2, civilFromDays_dayNumber y m d hv hr,
    Int.toNat_natCast, f1, f2, f3, fracStr_zero, Int.natAbs_zero, Nat.zero_div, Nat.zero_mod, pad2_zero]
  simp [String.append_assoc]

set_option maxRecDepth 20000 in
example : readTime "2024-02-29 12:30:05.25 +0200 CEST" = some (1709202605, 250000000) := by
  -- the reader is run up to the fields; `daysBeforeYear 2024` is taken in closed form
  have h : readTime "2024-02-29 12:30:05.25 +0200 CEST" =
      some (instantOf 2024 2 29 12 30 5 7200, 250000000) := rfl
  rw [h, instantOf, epochOf, dayNumber, daysBeforeYear_eq]
  decide

end Yae

#print axioms Yae.render_unix_epochOf
#print axioms Yae.sec_of_displayed
#print axioms Yae.read_back
#print axioms Yae.readTimeL_timeL
