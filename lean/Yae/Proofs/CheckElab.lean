/-
  What `check` returns, as a relation.  `Elab Γ (.expr e T e')`: the checker elaborates `e` to the annotated tree `e'`
  of type `T`; the other four judgements (`CheckJudgement`) say the same of `checkElems`, `checkPairs`, `checkFields`,
  `checkArgs`.  One rule for each path on which the checker succeeds, recording the elaborations of the subtrees,
  the tests that passed and the node written; the type-variable counter is hidden.  `check_post` walks `check`
  once: what it returns is in `Elab` (`check_elab`), and it runs out of fuel only where it calls the unifier
  (`NoFuel`).  A fact about the returned trees or types is then one induction on `Elab`, stated for every
  judgement by a `match`.  Overload resolution is a relation of its own (`Tried`, `Resolves`), with the failing
  runs as well, because `NoFuel` and `PolyOK.resolve_ne_fuel` speak of them; the counter is forgotten.
-/
import Yae.Model.Check
import Yae.Proofs.ExceptLemmas
import Yae.Proofs.ListLemmas
namespace Yae

@[simp] theorem CR.ok_bind {α β : Type} (x : α) (f : α → CR β) :
    ((Except.ok x : CR α) >>= f) = f x := rfl

theorem CR.throw_eq {α : Type} (e : CheckErr) : (throw e : CR α) = .error e := rfl
theorem CR.pure_eq {α : Type} (x : α) : (pure x : CR α) = .ok x := rfl

theorem typeAssert_ok {a b : Ty} : typeAssert a b = .ok () ↔ tyEq a b = true := by
  unfold typeAssert
  split <;> simp_all [Except.pure_eq, Except.throw_eq]

/-- With equally many on both sides, asserting the parameters one by one is one assertion about the tuples. -/
theorem assertParams_eq : ∀ (ps as : TyList), ps.length = as.length →
    assertParams ps as = typeAssert (.tuple ps) (.tuple as)
  | .nil, .nil, _ => rfl
  | .nil, .cons _ _, h | .cons _ _, .nil, h => nomatch h
  | .cons p ps, .cons a as, h => by
    rw [assertParams, assertParams_eq ps as (Nat.succ.inj h)]
    unfold typeAssert
    rw [tyEq, tyEq, tyEqList]
    cases tyEq p a <;> rfl

theorem assertParams_ok (ps as : TyList) (h : ps.length = as.length) :
    assertParams ps as = .ok () ↔ tyEqList ps as = true := by
  rw [assertParams_eq ps as h, typeAssert_ok, tyEq]

theorem mkObj_ok {fs : FieldList} {T : Ty} :
    mkObj fs = .ok T ↔ mkObj.wfFieldsShallow fs = true ∧ T = .obj fs := by
  unfold mkObj
  split
  · next h => simp [h, Except.pure_eq]; exact eq_comm
  · next h => simp [h, Except.throw_eq]

theorem liftU_some {α : Type} {x : UM α} {a : α} (h : liftU x = .ok (some a)) : x = .ok a := by
  unfold liftU at h
  split at h
  · cases Except.pure_eq_ok.1 h; rfl
  · cases Except.pure_eq_ok.1 h
  · exact absurd h Except.throw_ne_ok
  · exact absurd h Except.throw_ne_ok

theorem lookupVar_mem {Γ : TEnv} {x : String} {T : Ty} (h : Γ.lookupVar x = some T) :
    (x, T) ∈ Γ.vars :=
  assoc_some_mem h

theorem key_slotFree {d : FunDecl} {k : String} {b : Bool} {name ps ret} (hd : d.ty = .fn name ps ret)
    (hk : (d.key == (k, b)) = true) : slotFree d.ty = b := by
  have h : d.key.2 = slotFree d.ty := by
    simp only [FunDecl.key, hd, overloadKey]
    split <;> simp [*]
  rw [← h, eq_of_beq hk]

theorem lookupMono_mem {funs : List FunDecl} {k : String} {d : FunDecl}
    (h : lookupMono funs k = some d) : d ∈ funs ∧ (d.key == (k, true)) = true := by
  unfold lookupMono at h
  have := List.mem_of_getLast? h
  simpa [List.mem_filter] using this

theorem lookupPoly_mem {funs : List FunDecl} {k : String} {d : FunDecl}
    (h : d ∈ lookupPoly funs k) : d ∈ funs ∧ (d.key == (k, false)) = true := by
  unfold lookupPoly at h
  simpa [List.mem_filter] using h

/-- How `tryPoly` ends on candidates of which the first has position `i`: it moves past those whose signature
`inferFun` cannot instantiate (`liftU` makes `fail` the value `none`) and stops at the first it can, at one that is
no function, or at an error of `inferFun`. -/
inductive Tried (As : TyList) : List FunDecl → Nat → Except CheckErr (Option (Nat × TyList × Ty × String)) → Prop
  | nil {i} : Tried As [] i (.ok none)
  | notFn {d rest i} : (∀ n ps r, d.ty ≠ .fn n ps r) → Tried As (d :: rest) i (.error .noncallable)
  | here {d rest i name ps ret c ps' T} : d.ty = .fn name ps ret →
      liftU (inferFun c name ps ret As) = .ok (some (ps', T)) → Tried As (d :: rest) i (.ok (some (i, ps', T, name)))
  | err {d rest i name ps ret c e} : d.ty = .fn name ps ret →
      liftU (inferFun c name ps ret As) = .error e → Tried As (d :: rest) i (.error e)
  | later {d rest i name ps ret c t} : d.ty = .fn name ps ret →
      liftU (inferFun c name ps ret As) = .ok none → Tried As rest (i+1) t → Tried As (d :: rest) i t

theorem tryPoly_sat (As : TyList) : ∀ (cands : List FunDecl) (ctr i : Nat),
    Except.Sat (fun e => Tried As cands i (.error e)) (fun r => Tried As cands i (.ok r.1)) (tryPoly ctr As cands i)
  | [], _, _ => by simp only [tryPoly]; exact .pure .nil
  | d :: rest, ctr, i => by
    simp only [tryPoly]
    split
    · next name ps ret hd =>
      cases hi : liftU (inferFun ctr name ps ret As) with
      | error e => exact .err hd hi
      | ok o =>
        cases o with
        | some r => exact .pure (.here hd hi)
        | none => exact (tryPoly_sat As rest _ _).mono (fun _ => .later hd hi) fun _ => .later hd hi
    · next hnf => exact .throw (.notFn hnf)

theorem Tried.found {As : TyList} {cands : List FunDecl} {i : Nat}
    {t : Except CheckErr (Option (Nat × TyList × Ty × String))} (h : Tried As cands i t) :
    ∀ {j ps' T name}, t = .ok (some (j, ps', T, name)) →
      ∃ d ps ret c, i ≤ j ∧ cands[j - i]? = some d ∧ d.ty = .fn name ps ret ∧
        liftU (inferFun c name ps ret As) = .ok (some (ps', T)) := by
  induction h with
  | nil | notFn | err => intro _ _ _ _ h; cases h
  | here hd hi => intro _ _ _ _ h; cases h; exact ⟨_, _, _, _, Nat.le_refl _, by simp, hd, hi⟩
  | @later _ _ i _ _ _ _ _ _ _ _ ih =>
    intro j _ _ _ h
    obtain ⟨d', ps, ret, c, hle, hg, hty, hinf⟩ := ih h
    refine ⟨d', ps, ret, c, by omega, ?_, hty, hinf⟩
    rw [show j - i = (j - (i + 1)) + 1 by omega]; simpa using hg

/-- How overload resolution ends: with the monomorphic entry under the key of the callee's name and the argument
types, taken as it stands (or refused, if it is no function); where there is none, as `tryPoly` ends on the
polymorphic entries under the key of the name and the number of arguments, `nofun` if it finds none. -/
inductive Resolves (Γ : TEnv) (f : String) (As : TyList) : Except CheckErr Resolved → Prop
  | mono {d name ps ret} : lookupMono Γ.funs (overloadKey f As .bot).1 = some d → d.ty = .fn name ps ret →
      Resolves Γ f As (.ok ⟨ps, ret, name, (overloadKey f As .bot).1, -1⟩)
  | monoNotFn {d} : lookupMono Γ.funs (overloadKey f As .bot).1 = some d → (∀ n ps r, d.ty ≠ .fn n ps r) →
      Resolves Γ f As (.error .noncallable)
  | poly {j ps' T name} : lookupMono Γ.funs (overloadKey f As .bot).1 = none →
      Tried As (lookupPoly Γ.funs ("∀.λ " ++ f ++ " " ++ toString As.length)) 0 (.ok (some (j, ps', T, name))) →
      Resolves Γ f As (.ok ⟨ps', T, name, "∀.λ " ++ f ++ " " ++ toString As.length, j⟩)
  | none : lookupMono Γ.funs (overloadKey f As .bot).1 = none →
      Tried As (lookupPoly Γ.funs ("∀.λ " ++ f ++ " " ++ toString As.length)) 0 (.ok none) →
      Resolves Γ f As (.error .nofun)
  | err {e} : lookupMono Γ.funs (overloadKey f As .bot).1 = none →
      Tried As (lookupPoly Γ.funs ("∀.λ " ++ f ++ " " ++ toString As.length)) 0 (.error e) →
      Resolves Γ f As (.error e)

theorem resolve_sat (Γ : TEnv) (c : Nat) (f : String) (As : TyList) :
    Except.Sat (fun e => Resolves Γ f As (.error e)) (fun r => Resolves Γ f As (.ok r.1))
      (resolveOverloadedFun Γ c f As) := by
  unfold resolveOverloadedFun
  simp only []
  split
  · next d hm =>
    split
    · next hty => exact .pure (.mono hm hty)
    · next hnf => exact .throw (.monoNotFn hm hnf)
  · next hm =>
    split
    · next he => exact .throw (.none hm (List.isEmpty_iff.1 he ▸ .nil))
    · refine ((tryPoly_sat As _ _ _).mono (fun _ => .err hm) fun _ => id).bind fun (r, c') ht => ?_
      dsimp only at ht ⊢
      split
      · exact .pure (.poly hm ht)
      · exact .throw (.none hm ht)

inductive CheckJudgement where
  | expr (e : Expr) (T : Ty) (e' : Expr)
  | elems (T : Ty) (es es' : ExprList)
  | pairs (K V : Ty) (ps ps' : PairList)
  | fields (fs : FieldEList) (Fs : FieldList) (fs' : FieldEList)
  | args (es : ExprList) (Ts : TyList) (es' : ExprList)

inductive Elab (Γ : TEnv) : CheckJudgement → Prop
  | str {p v} : Elab Γ (.expr (.str p v) .str (.str p v))
  | num {p v} : Elab Γ (.expr (.num p v) .num (.num p v))
  | time {p v} : Elab Γ (.expr (.time p v) .time (.time p v))
  | bool {p v} : Elab Γ (.expr (.bool p v) .bool (.bool p v))
  | listNil {p ty} : Elab Γ (.expr (.list p .nil ty) (.list .bot) (.list p .nil (some (.list .bot))))
  | listCons {p e es ty T e' es'} : Elab Γ (.expr e T e') → Elab Γ (.elems T es es') →
      Elab Γ (.expr (.list p (.cons e es) ty) (.list T) (.list p (.cons e' es') (some (.list T))))
  | mapNil {p ty} :
      Elab Γ (.expr (.map p .nil ty) (.map .bot .bot) (.map p .nil (some (.map .bot .bot))))
  | mapCons {p k v ps ty K V k' v' ps'} : Elab Γ (.expr k K k') → K.isPrimitive = true →
      Elab Γ (.expr v V v') → Elab Γ (.pairs K V ps ps') →
      Elab Γ (.expr (.map p (.cons k v ps) ty) (.map K V)
        (.map p (.cons k' v' ps') (some (.map K V))))
  | obj {p fs ty Fs fs'} : Elab Γ (.fields fs Fs fs') → mkObj.wfFieldsShallow Fs = true →
      Elab Γ (.expr (.obj p fs ty) (.obj Fs) (.obj p fs' (some (.obj Fs))))
  | ident {p x T} : Γ.reserved.contains x = false → Γ.lookupVar x = some T →
      Elab Γ (.expr (.ident p x) T (.ident p x))
  /-- the callee is an identifier: static dispatch through the overload table; the checker's test that parameters
  and arguments are equally many is implied by `tyEqList` -/
  | callStatic {p col cp f args cty res idx As args' r} : Elab Γ (.args args As args') →
      Resolves Γ f As (.ok r) → tyEqList r.params As = true →
      Elab Γ (.expr (.call p col (.ident cp f) args cty res idx) r.ret
        (.call p col (.ident cp f) args' (some (.fn r.fname r.params r.ret)) r.key r.index))
  /-- any other callee is elaborated and its function type instantiated -/
  | callDyn {p col callee args cty res idx As args' name ps ret callee' c ps' T} :
      Elab Γ (.args args As args') → Elab Γ (.expr callee (.fn name ps ret) callee') →
      inferFun c name ps ret As = .ok (ps', T) → tyEqList ps' As = true →
      Elab Γ (.expr (.call p col callee args cty res idx) T
        (.call p col callee' args' (some (.fn name ps' T)) "" (-1)))
  | subList {p col v i vty El I v' i'} : Elab Γ (.expr v (.list El) v') → Elab Γ (.expr i I i') →
      tyEq I .num = true →
      Elab Γ (.expr (.subscript p col v i vty) El (.subscript p col v' i' (some (.list El))))
  | subMap {p col v i vty K V I v' i'} : Elab Γ (.expr v (.map K V) v') → Elab Γ (.expr i I i') →
      tyEq I K = true →
      Elab Γ (.expr (.subscript p col v i vty) V (.subscript p col v' i' (some (.map K V))))
  | member {p col o f fp oty idx Fs T o' i} : Elab Γ (.expr o (.obj Fs) o') → Fs.find? f = some T →
      Fs.indexOf? f = some i →
      Elab Γ (.expr (.member p col o f fp oty idx) T (.member p col o' f fp (some (.obj Fs)) i))
  | elemsNil {T} : Elab Γ (.elems T .nil .nil)
  | elemsCons {T e es U e' es'} : Elab Γ (.expr e U e') → tyEq T U = true → Elab Γ (.elems T es es') →
      Elab Γ (.elems T (.cons e es) (.cons e' es'))
  | pairsNil {K V} : Elab Γ (.pairs K V .nil .nil)
  | pairsCons {K V k v ps K' V' k' v' ps'} : Elab Γ (.expr k K' k') → tyEq K K' = true →
      Elab Γ (.expr v V' v') → tyEq V V' = true → Elab Γ (.pairs K V ps ps') →
      Elab Γ (.pairs K V (.cons k v ps) (.cons k' v' ps'))
  | fieldsNil : Elab Γ (.fields .nil .nil .nil)
  | fieldsCons {n e fs T Fs e' fs'} : Elab Γ (.expr e T e') → Elab Γ (.fields fs Fs fs') →
      Elab Γ (.fields (.cons n e fs) (.cons n T Fs) (.cons n e' fs'))
  | argsNil : Elab Γ (.args .nil .nil .nil)
  | argsCons {e es T Ts e' es'} : Elab Γ (.expr e T e') → Elab Γ (.args es Ts es') →
      Elab Γ (.args (.cons e es) (.cons T Ts) (.cons e' es'))

/-- What a run of the checker may do: return a value with `Q`, reject, or, only under `z`, run out of fuel. -/
abbrev CR.Post {α : Type} (z : Prop) (r : CR α) (Q : α → Prop) : Prop := Except.Post CheckErr.fuel z r Q

theorem typeAssert_post {z : Prop} {a b : Ty} : CR.Post z (typeAssert a b) fun _ => tyEq a b = true := by
  unfold typeAssert
  split
  · next h => exact h
  · exact .throw nofun

theorem mkObj_post {z : Prop} {fs : FieldList} :
    CR.Post z (mkObj fs) fun T => mkObj.wfFieldsShallow fs = true ∧ T = .obj fs := by
  unfold mkObj
  split
  · next h => exact ⟨h, rfl⟩
  · exact .throw nofun

theorem assertParams_post {z : Prop} (ps as : TyList) (h : ps.length = as.length) :
    CR.Post z (assertParams ps as) fun _ => tyEqList ps as = true := by
  rw [assertParams_eq ps as h]
  exact typeAssert_post.mono id fun _ h => by rwa [tyEq] at h

/-- `check` spends fuel only in the unifier, which it reaches in two places: overload resolution, which here
has fuel enough, and the instantiation of a callee whose type is a function type, which here does not arise. -/
structure NoFuel (Γ : TEnv) : Prop where
  resolve : ∀ {args As args'}, Elab Γ (.args args As args') → ∀ f, ¬ Resolves Γ f As (.error .fuel)
  callee : ∀ {e name ps ret e'}, Elab Γ (.expr e (.fn name ps ret) e') → False

mutual
/-- With `z := True` nothing is asked of `Γ` and the statement is about successful runs only; with `NoFuel Γ`
and `z := False` it says moreover that `check` does not run out of fuel. -/
theorem check_post {Γ : TEnv} {z : Prop} (hN : NoFuel Γ ∨ z) : ∀ (e : Expr) (c : Nat),
    CR.Post z (check Γ c e) fun r => Elab Γ (.expr e r.1 r.2.1)
  | .str _ _, _ | .num _ _, _ | .time _ _, _ | .bool _ _, _ | .list _ .nil _, _
  | .map _ .nil _, _ => by
    simp only [check]; exact .pure (by constructor)
  | .list _ (.cons e es) _, c => by
    simp only [check]
    refine (check_post hN e c).bind id fun (T, e', c1) h1 => ?_
    exact (checkElems_post hN es c1 T).bind id fun (es', c2) h2 => .pure (.listCons h1 h2)
  | .map _ (.cons k v ps) _, c => by
    simp only [check]
    refine (check_post hN k c).bind id fun (K, k', c1) h1 => ?_
    refine .guard (fun _ => nofun) fun hp => ?_
    refine (check_post hN v c1).bind id fun (V, v', c2) h2 => ?_
    exact (checkPairs_post hN ps c2 K V).bind id fun (ps', c3) h3 =>
      .pure (.mapCons h1 (by simpa using hp) h2 h3)
  | .obj _ fs _, c => by
    simp only [check]
    refine (checkFields_post hN fs c).bind id fun (Fs, fs', c1) h1 => ?_
    exact mkObj_post.bind id fun T ⟨hs, e⟩ => e ▸ .pure (.obj h1 hs)
  | .ident _ x, c => by
    simp only [check]
    refine .guard (fun _ => nofun) fun hr => ?_
    split
    · next hl => exact .pure (.ident hr hl)
    · exact .throw nofun
  | .call p col callee args cty res idx, c => by
    simp only [check]
    refine (checkArgs_post hN args c).bind id fun (As, args', c1) ha => ?_
    dsimp only
    split
    · next cp fname =>
      refine Except.Sat.bind ((resolve_sat Γ c1 fname As).mono
        (fun _ he hf => hN.elim (fun h => (h.resolve ha fname (hf ▸ he)).elim) id) fun _ => id) fun (r, c2) hr => ?_
      refine .guard (fun _ => nofun) fun hlen => ?_
      have hlen : r.params.length = As.length := by simpa using hlen
      exact (assertParams_post _ _ hlen).bind id fun _ hass => .pure (.callStatic ha hr hass)
    · refine (check_post hN callee c1).bind id fun (fT, callee', c2) hc => ?_
      dsimp only
      split
      · next name ps ret =>
        refine (Except.Post.intro (r := liftU (inferFun c2 name ps ret As))
          (hN.imp_left fun h => (h.callee hc).elim)).bind id fun o ho => ?_
        split
        · exact .throw nofun
        · next ps' ret' =>
          refine .guard (fun _ => nofun) fun hlen => ?_
          have hlen : ps'.length = As.length := by simpa using hlen
          exact (assertParams_post _ _ hlen).bind id fun _ hass =>
            .pure (.callDyn ha hc (liftU_some ho) hass)
      · exact .throw nofun
  | .subscript _ _ v i _, c => by
    simp only [check]
    refine (check_post hN v c).bind id fun (T1, v', c1) hv => ?_
    dsimp only
    split
    · refine (check_post hN i c1).bind id fun (I, i', c2) hi => ?_
      exact typeAssert_post.bind id fun _ h3 => .pure (.subList hv hi h3)
    · refine (check_post hN i c1).bind id fun (I, i', c2) hi => ?_
      exact typeAssert_post.bind id fun _ h3 => .pure (.subMap hv hi h3)
    · exact .throw nofun
  | .member _ _ o f _ _ _, c => by
    simp only [check]
    refine (check_post hN o c).bind id fun (T1, o', c1) ho => ?_
    dsimp only
    split
    · split
      · next hf hi => exact .pure (.member ho hf hi)
      · exact .throw nofun
    · exact .throw nofun
  | .unary .., _ | .binary .., _ | .ternary .., _ | .group .., _ => by
    simp only [check]; exact .throw nofun
termination_by structural e => e
theorem checkElems_post {Γ : TEnv} {z : Prop} (hN : NoFuel Γ ∨ z) : ∀ (es : ExprList) (c : Nat) (T : Ty),
    CR.Post z (checkElems Γ c T es) fun r => Elab Γ (.elems T es r.1)
  | .nil, _, _ => by simp only [checkElems]; exact .pure .elemsNil
  | .cons e es, c, T => by
    simp only [checkElems]
    refine (check_post hN e c).bind id fun (U, e', c1) h1 => ?_
    refine typeAssert_post.bind id fun _ h2 => ?_
    exact (checkElems_post hN es c1 T).bind id fun (es', c2) h3 => .pure (.elemsCons h1 h2 h3)
termination_by structural es => es
theorem checkPairs_post {Γ : TEnv} {z : Prop} (hN : NoFuel Γ ∨ z) : ∀ (ps : PairList) (c : Nat) (K V : Ty),
    CR.Post z (checkPairs Γ c K V ps) fun r => Elab Γ (.pairs K V ps r.1)
  | .nil, _, _, _ => by simp only [checkPairs]; exact .pure .pairsNil
  | .cons k v ps, c, K, V => by
    simp only [checkPairs]
    refine (check_post hN k c).bind id fun (K', k', c1) h1 => ?_
    refine typeAssert_post.bind id fun _ h2 => ?_
    refine (check_post hN v c1).bind id fun (V', v', c2) h3 => ?_
    refine typeAssert_post.bind id fun _ h4 => ?_
    exact (checkPairs_post hN ps c2 K V).bind id fun (ps', c3) h5 => .pure (.pairsCons h1 h2 h3 h4 h5)
termination_by structural ps => ps
theorem checkFields_post {Γ : TEnv} {z : Prop} (hN : NoFuel Γ ∨ z) : ∀ (fs : FieldEList) (c : Nat),
    CR.Post z (checkFields Γ c fs) fun r => Elab Γ (.fields fs r.1 r.2.1)
  | .nil, _ => by simp only [checkFields]; exact .pure .fieldsNil
  | .cons n e fs, c => by
    simp only [checkFields]
    refine (check_post hN e c).bind id fun (T, e', c1) h1 => ?_
    exact (checkFields_post hN fs c1).bind id fun (Fs, fs', c2) h2 => .pure (.fieldsCons h1 h2)
termination_by structural fs => fs
theorem checkArgs_post {Γ : TEnv} {z : Prop} (hN : NoFuel Γ ∨ z) : ∀ (es : ExprList) (c : Nat),
    CR.Post z (checkArgs Γ c es) fun r => Elab Γ (.args es r.1 r.2.1)
  | .nil, _ => by simp only [checkArgs]; exact .pure .argsNil
  | .cons e es, c => by
    simp only [checkArgs]
    refine (check_post hN e c).bind id fun (T, e', c1) h1 => ?_
    exact (checkArgs_post hN es c1).bind id fun (Ts, es', c2) h2 => .pure (.argsCons h1 h2)
termination_by structural es => es
end

theorem check_elab {Γ : TEnv} (e : Expr) {c : Nat} {T : Ty} {e' : Expr} {c' : Nat}
    (h : check Γ c e = .ok (T, e', c')) : Elab Γ (.expr e T e') :=
  (check_post (.inr trivial) e c).of_ok h
theorem checkElems_elab {Γ : TEnv} (es : ExprList) {c : Nat} {T : Ty} {es' : ExprList} {c' : Nat}
    (h : checkElems Γ c T es = .ok (es', c')) : Elab Γ (.elems T es es') :=
  (checkElems_post (.inr trivial) es c T).of_ok h
theorem checkPairs_elab {Γ : TEnv} (ps : PairList) {c : Nat} {K V : Ty} {ps' : PairList} {c' : Nat}
    (h : checkPairs Γ c K V ps = .ok (ps', c')) : Elab Γ (.pairs K V ps ps') :=
  (checkPairs_post (.inr trivial) ps c K V).of_ok h
theorem checkFields_elab {Γ : TEnv} (fs : FieldEList) {c : Nat} {Fs : FieldList} {fs' : FieldEList}
    {c' : Nat} (h : checkFields Γ c fs = .ok (Fs, fs', c')) : Elab Γ (.fields fs Fs fs') :=
  (checkFields_post (.inr trivial) fs c).of_ok h
theorem checkArgs_elab {Γ : TEnv} (es : ExprList) {c : Nat} {Ts : TyList} {es' : ExprList}
    {c' : Nat} (h : checkArgs Γ c es = .ok (Ts, es', c')) : Elab Γ (.args es Ts es') :=
  (checkArgs_post (.inr trivial) es c).of_ok h

end Yae
