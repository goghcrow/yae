/-
  C11, the compiler side: every program `compile` emits from a tree carrying the checker's annotations is
  accepted by `VmVerify.verify`.  By induction over the layout (`VmSim.compile_inv`) a fragment laid out
  at `[o, o')` verifies as a +1 fragment (`Frag`).  Every deferred body is itself such a layout against the
  constants allocated before it (`VmSim.Bodies`, kept by the compiler's `Step`), so it verifies against exactly those.
-/
import Yae.Proofs.VmVerify
import Yae.Proofs.VmSimCompile
namespace Yae.VmCV
open Yae Yae.Vm Yae.VmVerify Yae.VmSim

/-- a verifier pass that succeeds from `o'` with `τ` succeeds from `o` with `σ`, whatever is
promised to offsets from `o'` on; one unit of fuel per byte of `[o, o')` suffices -/
def Frag (P : Pool) (C : Code) (o o' : Nat) (σ τ : AStack) : Prop :=
  ∀ (pending : List (Nat × AStack)) (fuel : Nat), (∀ p ∈ pending, o' ≤ p.1) →
    verifyFrom fuel P C o' (some τ) pending = true →
    verifyFrom (fuel + (o' - o)) P C o (some σ) pending = true

theorem Frag.refl {P : Pool} {C : Code} {o : Nat} {σ : AStack} : Frag P C o o σ σ := by
  intro pending fuel _ h
  simpa using h

theorem Frag.trans {P : Pool} {C : Code} {o o1 o' : Nat} {σ τ υ : AStack}
    (h1 : Frag P C o o1 σ τ) (h2 : Frag P C o1 o' τ υ) (l1 : o ≤ o1) (l2 : o1 ≤ o') :
    Frag P C o o' σ υ := by
  intro pending fuel hf h
  have a := h2 pending fuel hf h
  have b := h1 pending _ (fun p hp => Nat.le_trans l2 (hf p hp)) a
  exact verifyFrom_fuel_le (by omega) b

theorem replicate_snoc (n : Nat) (a : Bool) (σ : AStack) :
    List.replicate n a ++ (a :: σ) = List.replicate (n + 1) a ++ σ := by
  rw [List.append_cons, ← List.replicate_succ']

section
variable {P : Pool} {C : Code}

theorem Frag.ins {o o' n : Nat} {ins : Instr} {σ : AStack}
    (hd : decodeAt C o = some (ins, o')) (he : effect P ins = some (n, 1)) :
    Frag P C o o' (List.replicate n (popKind ins) ++ σ) (pushKind P ins :: σ) := by
  intro pending fuel hf h
  have hs : stepA P ins (List.replicate n (popKind ins) ++ σ) = some (pushKind P ins :: σ) := by
    unfold stepA; rw [he]; simp
  have hlt := (decodeAt_next hd).1
  have hfresh : ∀ p ∈ pending, p.1 ≠ o := fun p hp => by have := hf p hp; omega
  have hj := (effect_push_one he).2
  have e : fuel + (o' - o) = (fuel + (o' - o - 1)) + 1 := by omega
  rw [e]
  refine verifyFrom_fresh hd hs (effect_push_one he).1 hfresh (fun op t h => absurd h (hj op t)) ?_
  rw [fallThrough_of (fun t => hj _ t), promise_of hj]
  exact verifyFrom_fuel_le (by omega) h

theorem Frag.snoc {o o1 o' n : Nat} {ins : Instr} {σ τ : AStack} (l1 : o ≤ o1)
    (h1 : Frag P C o o1 σ (List.replicate n (popKind ins) ++ τ))
    (hd : decodeAt C o1 = some (ins, o')) (he : effect P ins = some (n, 1)) :
    Frag P C o o' σ (pushKind P ins :: τ) :=
  h1.trans (Frag.ins hd he) l1 (Nat.le_of_lt (decodeAt_next hd).1)

theorem Frag.constVal {o o' i : Nat} {v : Val} {σ : AStack}
    (hd : decodeAt C o = some (.const .CONST i, o')) (hp : P[i]? = some (.val v)) :
    Frag P C o o' σ (false :: σ) := by
  simpa [pushKind, hp] using Frag.ins (σ := σ) hd (Eff.constVal hp).effect

theorem Frag.constThunk {o o' i : Nat} {b : Code} {r : Ty} {σ : AStack}
    (hd : decodeAt C o = some (.const .CONST i, o')) (hp : P[i]? = some (.thunk b r)) :
    Frag P C o o' σ (true :: σ) := by
  simpa [pushKind, hp] using Frag.ins (σ := σ) hd (Eff.constThunk hp).effect

theorem Frag.load {o o' i : Nat} {x : String} {σ : AStack}
    (hd : decodeAt C o = some (.const .LOAD i, o')) (hp : P[i]? = some (.name x)) :
    Frag P C o o' σ (false :: σ) :=
  Frag.ins hd (Eff.load hp).effect

/-- values for a strict callee, deferred bodies for a lazy one -/
theorem Frag.tail {d : FunDecl} {n o1 o' : Nat} {σ : AStack}
    (ht : CallTail P C d n o1 o') (hok : callOk d n = true) :
    Frag P C o1 o' (List.replicate n d.isLazy ++ σ) (false :: σ) := by
  unfold CallTail at ht
  split at ht
  · rename_i op hop
    obtain ⟨id, hid, hiv⟩ := Option.bind_eq_some_iff.mp hop
    obtain ⟨idx, b, hr, hb, rfl⟩ := bidOf_inv hid
    obtain ⟨rfl, hlz⟩ := callOk_inv hok hr hb
    have hl : b.isLazy = false := by
      cases hl : b.isLazy
      · rfl
      · rw [isLazy_iff hb] at hl
        simp only [Bool.or_eq_true, beq_iff_eq] at hl
        rcases hl with (h | h) | h <;> rw [h] at hiv <;> cases hiv
    rw [hlz, hl]
    exact Frag.ins ht (Eff.intrinsic (builtin?_of_intrinsic hb hiv)).effect
  · obtain ⟨i, hd, hp⟩ := ht
    cases hl : d.isLazy <;> rw [hl] at hd
    · exact Frag.ins hd (Eff.callVal hp hl).effect
    · exact Frag.ins hd (Eff.callNeed hp hl).effect

end

/-- after `JUMP end`, the promise `IF_TRUE` made for the current offset becomes the state -/
theorem verifyFrom_land2 {P : Pool} {C : Code} {pc t fuel : Nat} {σ τ : AStack}
    {pending : List (Nat × AStack)} (hne : t ≠ pc) :
    verifyFrom fuel P C pc none ((t, τ) :: (pc, σ) :: pending) =
      verifyFrom fuel P C pc (some σ) ((t, τ) :: pending) :=
  verifyFrom_congr (by simp only [mergeAt, List.find?_cons, List.all_cons, bne_self_eq_false, beq_self_eq_true,
    Bool.false_or, Bool.true_and, beq_eq_false_iff_ne.mpr hne, bne_iff_ne.mpr hne, Bool.true_or]) (by simp [hne])

theorem stepA_if (P : Pool) (t : Nat) (σ : AStack) :
    stepA P (.jump .IF_TRUE t) (false :: σ) = some σ :=
  by simp [stepA, effect, popKind]

theorem stepA_jump (P : Pool) (t : Nat) (σ : AStack) :
    stepA P (.jump .JUMP t) σ = some σ :=
  by simp [stepA, effect]

/-- `c; IF_TRUE else; t; JUMP end; else: f; end:` -/
theorem Frag.cond {P : Pool} {C : Code} {o o1 o2 o3 o4 o' : Nat} {σ : AStack}
    (hc : Frag P C o o1 σ (false :: σ)) (l1 : o ≤ o1)
    (d1 : decodeAt C o1 = some (.jump .IF_TRUE o4, o2))
    (ht : Frag P C o2 o3 σ (false :: σ)) (l2 : o2 ≤ o3)
    (d2 : decodeAt C o3 = some (.jump .JUMP o', o4))
    (hf : Frag P C o4 o' σ (false :: σ)) (l3 : o4 < o') :
    Frag P C o o' σ (false :: σ) := by
  intro pending fuel hfr h
  have hsz := verifyFrom_lt h
  have n1 := (decodeAt_next d1).1
  have n2 := (decodeAt_next d2).1
  -- backwards from `end`: first the else branch, with the promise of `JUMP` pending; then `JUMP`, the then branch,
  -- `IF_TRUE`, the condition
  have a := hf ((o', false :: σ) :: pending) fuel
    (by intro p hp
        rcases List.mem_cons.mp hp with rfl | hp
        · exact Nat.le_refl _
        · exact hfr p hp)
    (by rw [verifyFrom_absorb]; exact h)
  rw [← verifyFrom_land2 (by omega)] at a
  have fr3 : ∀ p ∈ (o4, σ) :: pending, p.1 ≠ o3 := by
    intro p hp
    rcases List.mem_cons.mp hp with rfl | hp
    · show o4 ≠ o3; omega
    · have := hfr p hp; omega
  have b : verifyFrom (fuel + (o' - o4) + 1) P C o3 (some (false :: σ)) ((o4, σ) :: pending) = true :=
    verifyFrom_fresh d2 (stepA_jump P o' _) nofun fr3 (fun _ _ h => by cases h; exact ⟨by omega, hsz⟩) a
  have c := ht ((o4, σ) :: pending) _
    (by intro p hp
        rcases List.mem_cons.mp hp with rfl | hp
        · show o3 ≤ o4; omega
        · have := hfr p hp; omega) b
  have fr1 : ∀ p ∈ pending, p.1 ≠ o1 := fun p hp => by have := hfr p hp; omega
  have d : verifyFrom (fuel + (o' - o4) + 1 + (o3 - o2) + 1) P C o1 (some (false :: σ)) pending = true :=
    verifyFrom_fresh d1 (stepA_if P o4 σ) nofun fr1 (fun _ _ h => by cases h; exact ⟨by omega, by omega⟩) c
  have e := hc pending _ (fun p hp => by have := hfr p hp; omega) d
  exact verifyFrom_fuel_le (by omega) e

/-! Each layout covers a range that grows (strictly, for an expression), and on a tree with the annotations
the range verifies as a fragment: one induction for both. -/

theorem callTail_lt {P C d n o1 o2} (h : CallTail P C d n o1 o2) : o1 < o2 := by
  unfold CallTail at h; split at h
  · exact (decodeAt_next h).1
  · obtain ⟨i, h, _⟩ := h; exact (decodeAt_next h).1

theorem listShape_inv {ty} (h : listShape ty = true) : ∃ t, ty = some (.list t) := by
  unfold listShape at h; split at h
  · exact ⟨_, rfl⟩
  · cases h
theorem mapShape_inv {ty} (h : mapShape ty = true) : ∃ k v, ty = some (.map k v) := by
  unfold mapShape at h; split at h
  · exact ⟨_, _, rfl⟩
  · cases h

section
variable (funs : List FunDecl) (P : Pool) (C : Code)

abbrev OkE (e : Expr) (o o' : Nat) : Prop :=
  o < o' ∧ (Annotated funs e → ∀ σ, Frag P C o o' σ (false :: σ))
abbrev OkL (es : ExprList) (o o' : Nat) : Prop :=
  o ≤ o' ∧ (AnnotatedL funs es → ∀ σ, Frag P C o o' σ (List.replicate es.length false ++ σ))
abbrev OkP (ps : PairList) (o o' : Nat) : Prop :=
  o ≤ o' ∧ (AnnotatedP funs ps → ∀ σ, Frag P C o o' σ (List.replicate (2 * ps.length) false ++ σ))
abbrev OkF (fs : FieldEList) (o o' : Nat) : Prop :=
  o ≤ o' ∧ (AnnotatedF funs fs → ∀ σ, Frag P C o o' σ (List.replicate fs.length false ++ σ))
abbrev OkC (c t f : Expr) (o o' : Nat) : Prop :=
  o < o' ∧ (Annotated funs c → Annotated funs t → Annotated funs f → ∀ σ, Frag P C o o' σ (false :: σ))
abbrev OkT (es : ExprList) (o o' : Nat) : Prop :=
  o ≤ o' ∧ ∀ σ, Frag P C o o' σ (List.replicate es.length true ++ σ)

end

section
variable {funs : List FunDecl} {P : Pool} {C : Code}

theorem okL_cons {e es o o1 o'} : OkE funs P C e o o1 → OkL funs P C es o1 o' →
    OkL funs P C (.cons e es) o o'
  | ⟨l1, f1⟩, ⟨l2, f2⟩ =>
    ⟨by omega, fun h σ => by
      have b := f2 h.cons.2 (false :: σ)
      rw [replicate_snoc] at b
      exact (f1 h.cons.1 σ).trans b (Nat.le_of_lt l1) l2⟩

theorem okP_cons {k v ps o o1 o2 o'} : OkE funs P C k o o1 → OkE funs P C v o1 o2 →
    OkP funs P C ps o2 o' → OkP funs P C (.cons k v ps) o o'
  | ⟨l1, f1⟩, ⟨l2, f2⟩, ⟨l3, f3⟩ =>
    ⟨by omega, fun h σ => by
      obtain ⟨hk, hv, hps⟩ := h.cons
      have c := f3 hps (false :: false :: σ)
      rw [replicate_snoc, replicate_snoc] at c
      have e : 2 * (PairList.cons k v ps).length = 2 * ps.length + 1 + 1 := by
        simp only [PairList.length]; omega
      rw [e]
      exact ((f1 hk σ).trans (f2 hv _) (Nat.le_of_lt l1) (Nat.le_of_lt l2)).trans c (by omega) l3⟩

theorem okF_cons {n e fs o o1 o'} : OkE funs P C e o o1 → OkF funs P C fs o1 o' →
    OkF funs P C (.cons n e fs) o o'
  | ⟨l1, f1⟩, ⟨l2, f2⟩ =>
    ⟨by omega, fun h σ => by
      have b := f2 h.cons.2 (false :: σ)
      rw [replicate_snoc] at b
      exact (f1 h.cons.1 σ).trans b (Nat.le_of_lt l1) l2⟩

theorem okC_mk {c t f o o1 o2 o3 o4 o'} (d1 : decodeAt C o1 = some (.jump .IF_TRUE o4, o2))
    (d2 : decodeAt C o3 = some (.jump .JUMP o', o4)) : OkE funs P C c o o1 → OkE funs P C t o2 o3 →
    OkE funs P C f o4 o' → OkC funs P C c t f o o'
  | ⟨l1, f1⟩, ⟨l2, f2⟩, ⟨l3, f3⟩ =>
    have n1 := (decodeAt_next d1).1
    have n2 := (decodeAt_next d2).1
    ⟨by omega, fun hc ht hf σ =>
      Frag.cond (f1 hc σ) (Nat.le_of_lt l1) d1 (f2 ht σ) (Nat.le_of_lt l2) d2 (f3 hf σ) l3⟩

theorem okT_cons {e es o o1 o' i body pt} (hd : decodeAt C o = some (.const .CONST i, o1))
    (hp : P[i]? = some (.thunk body pt)) : OkT P C es o1 o' → OkT P C (.cons e es) o o'
  | ⟨l2, f2⟩ =>
    have n1 := (decodeAt_next hd).1
    ⟨by omega, fun σ => by
      have b := f2 (true :: σ)
      rw [replicate_snoc] at b
      exact (Frag.constThunk hd hp).trans b (Nat.le_of_lt n1) l2⟩

/- The induction goes through the recursor of the layout relations: a recursion written by
pattern matching on the derivations elaborates far more slowly.  The constructors of the four
list relations share the names `nil` / `cons`: `case` takes the first open goal of that name, in
the order `LayL`, `LayP`, `LayF`, `LayT`. -/
theorem layE_ok {e o o'} (h : LayE funs P C e o o') : OkE funs P C e o o' := by
  induction h using LayE.rec (motive_2 := fun C es o o' _ => OkL funs P C es o o')
    (motive_3 := fun C ps o o' _ => OkP funs P C ps o o')
    (motive_4 := fun C fs o o' _ => OkF funs P C fs o o')
    (motive_5 := fun C c t f o o' _ => OkC funs P C c t f o o')
    (motive_6 := fun C es _ o o' _ => OkT P C es o o')
  case str hd hp | num hd hp | time hd hp | bool hd hp =>
    exact ⟨(decodeAt_next hd).1, fun _ _ => Frag.constVal hd hp⟩
  case ident hd hp => exact ⟨(decodeAt_next hd).1, fun _ _ => Frag.load hd hp⟩
  case list hl hd hp ih1 =>
    obtain ⟨l1, f1⟩ := ih1
    exact ⟨Nat.lt_of_le_of_lt l1 (decodeAt_next hd).1, fun h σ => by
      obtain ⟨t, rfl⟩ := listShape_inv (by simpa only [lit, Bool.and_eq_true] using h.2 : _ ∧ _).1
      exact Frag.snoc l1 (f1 h.list σ) hd (Eff.newList hp).effect⟩
  case map hl hd hp ih1 =>
    obtain ⟨l1, f1⟩ := ih1
    exact ⟨Nat.lt_of_le_of_lt l1 (decodeAt_next hd).1, fun h σ => by
      obtain ⟨k, v, rfl⟩ := mapShape_inv (by simpa only [lit, Bool.and_eq_true] using h.2 : _ ∧ _).1
      exact Frag.snoc l1 (f1 h.map σ) hd (Eff.newMap hp).effect⟩
  case obj hl hd hp ih1 =>
    obtain ⟨l1, f1⟩ := ih1
    exact ⟨Nat.lt_of_le_of_lt l1 (decodeAt_next hd).1, fun h σ => by
      obtain ⟨tfs, rfl, hlen⟩ := objTyOk_inv (by simpa only [wa, Bool.and_eq_true] using h.1 : _ ∧ _).1
      exact Frag.snoc l1 (hlen ▸ f1 h.obj σ) hd (Eff.newObj hp).effect⟩
  case dyn hres h1 h2 hd ih1 ih2 =>
    obtain ⟨l1, f1⟩ := ih1
    obtain ⟨l2, f2⟩ := ih2
    exact ⟨by have := (decodeAt_next hd).1; omega, fun h σ => by
      have b := f2 (h.dyn hres).2 (false :: σ)
      rw [replicate_snoc] at b
      exact Frag.snoc (by omega) ((f1 (h.dyn hres).1 σ).trans b (Nat.le_of_lt l1) l2) hd rfl⟩
  case condIf hres hrs _ hc ih1 =>
    obtain ⟨l, f⟩ := ih1
    exact ⟨l, fun h σ =>
      let ⟨a, b⟩ := (h.static hres).cons
      f a b.cons.1 b.cons.2.cons.1 σ⟩
  case condAnd hres hrs _ hc ih1 =>
    obtain ⟨l, f⟩ := ih1
    exact ⟨l, fun h σ =>
      let ⟨a, b⟩ := (h.static hres).cons
      f a b.cons.1 ⟨rfl, rfl⟩ σ⟩
  case condOr hres hrs _ hc ih1 =>
    obtain ⟨l, f⟩ := ih1
    exact ⟨l, fun h σ =>
      let ⟨a, b⟩ := (h.static hres).cons
      f a ⟨rfl, rfl⟩ b.cons.1 σ⟩
  case not hres hrs _ h1 hd ih1 =>
    obtain ⟨l1, f1⟩ := ih1
    exact ⟨Nat.lt_trans l1 (decodeAt_next hd).1, fun h σ =>
      Frag.snoc (n := 1) (Nat.le_of_lt l1) (f1 (h.static hres).cons.1 σ) hd rfl⟩
  case strict hres hrs _ hlazy h1 ht ih1 =>
    obtain ⟨l1, f1⟩ := ih1
    have n1 := callTail_lt ht
    exact ⟨Nat.lt_of_le_of_lt l1 n1, fun h σ =>
      (f1 (h.static hres) σ).trans (by
        have t := Frag.tail (σ := σ) ht (wa_static hres hrs h.1).1; rwa [hlazy] at t) l1 (Nat.le_of_lt n1)⟩
  case byNeed hres hrs _ hlazy h1 ht ih1 =>
    obtain ⟨l1, f1⟩ := ih1
    have n1 := callTail_lt ht
    exact ⟨Nat.lt_of_le_of_lt l1 n1, fun h σ =>
      (f1 σ).trans (by
        have t := Frag.tail (σ := σ) ht (wa_static hres hrs h.1).1; rwa [hlazy] at t) l1 (Nat.le_of_lt n1)⟩
  case subList h1 h2 hd ih1 ih2 | subMap h1 h2 hd ih1 ih2 =>
    obtain ⟨l1, f1⟩ := ih1
    obtain ⟨l2, f2⟩ := ih2
    exact ⟨Nat.lt_trans l1 (Nat.lt_trans l2 (decodeAt_next hd).1), fun h σ =>
      Frag.snoc (n := 2) (Nat.le_of_lt (Nat.lt_trans l1 l2))
        ((f1 h.sub.1 σ).trans (f2 h.sub.2 _) (Nat.le_of_lt l1) (Nat.le_of_lt l2)) hd rfl⟩
  case member h1 hd hp ih1 =>
    obtain ⟨l1, f1⟩ := ih1
    exact ⟨Nat.lt_trans l1 (decodeAt_next hd).1, fun h σ =>
      Frag.snoc (Nat.le_of_lt l1) (f1 h.member σ) hd (Eff.objLoad hp).effect⟩

  case nil | nil | nil => exact ⟨Nat.le_refl _, fun _ _ => Frag.refl⟩
  case cons => intros; exact okL_cons ‹_› ‹_›
  case cons => intros; exact okP_cons ‹_› ‹_› ‹_›
  case cons => intros; exact okF_cons ‹_› ‹_›
  case mk => intros; exact okC_mk ‹_› ‹_› ‹_› ‹_› ‹_›
  case nil => exact ⟨Nat.le_refl _, fun _ => Frag.refl⟩
  case cons => intros; exact okT_cons ‹_› ‹_› ‹_›

theorem layL_ok {es o o'} : LayL funs P C es o o' → OkL funs P C es o o'
  | .nil => ⟨Nat.le_refl _, fun _ _ => Frag.refl⟩
  | .cons h1 h2 => okL_cons (layE_ok h1) (layL_ok h2)
theorem layP_ok {ps o o'} : LayP funs P C ps o o' → OkP funs P C ps o o'
  | .nil => ⟨Nat.le_refl _, fun _ _ => Frag.refl⟩
  | .cons h1 h2 h3 => okP_cons (layE_ok h1) (layE_ok h2) (layP_ok h3)
theorem layF_ok {fs o o'} : LayF funs P C fs o o' → OkF funs P C fs o o'
  | .nil => ⟨Nat.le_refl _, fun _ _ => Frag.refl⟩
  | .cons h1 h2 => okF_cons (layE_ok h1) (layF_ok h2)
theorem layC_ok {c t f o o'} : LayC funs P C c t f o o' → OkC funs P C c t f o o'
  | .mk h1 d1 h2 d2 h3 => okC_mk d1 d2 (layE_ok h1) (layE_ok h2) (layE_ok h3)

end

theorem layC_lt {funs P C c t f o o'} : LayC funs P C c t f o o' → o < o' :=
  fun h => (layC_ok h).1

theorem fragL {funs P C es o o'} : LayL funs P C es o o' → waL funs es = true → litL es = true →
    o' < C.size → ∀ σ, Frag P C o o' σ (List.replicate es.length false ++ σ) :=
  fun h hw hl _ => (layL_ok h).2 ⟨hw, hl⟩
theorem fragP {funs P C ps o o'} : LayP funs P C ps o o' → waP funs ps = true → litP ps = true →
    o' < C.size → ∀ σ, Frag P C o o' σ (List.replicate (2 * ps.length) false ++ σ) :=
  fun h hw hl _ => (layP_ok h).2 ⟨hw, hl⟩
theorem fragF {funs P C fs o o'} : LayF funs P C fs o o' → waF funs fs = true → litF fs = true →
    o' < C.size → ∀ σ, Frag P C o o' σ (List.replicate fs.length false ++ σ) :=
  fun h hw hl _ => (layF_ok h).2 ⟨hw, hl⟩
theorem fragC {funs P C c t f o o'} : LayC funs P C c t f o o' → wa funs c = true →
    wa funs t = true → wa funs f = true → lit c = true → lit t = true → lit f = true →
    o' < C.size → ∀ σ, Frag P C o o' σ (false :: σ) :=
  fun h wc wt wf lc lt lf _ => (layC_ok h).2 ⟨wc, lc⟩ ⟨wt, lt⟩ ⟨wf, lf⟩

theorem unit_verified {funs : List FunDecl} {P : Pool} {C : Code} {e : Expr}
    (hu : LayU funs P C e) (ha : Annotated funs e) : VmVerify.verifyUnit P C = true := by
  obtain ⟨ob, hl, hret⟩ := hu
  -- the fragment from the empty stack (`σ := []`), with nothing pending and fuel 1 for the `RETURN` after it
  have h := (layE_ok hl).2 ha [] [] 1 (fun _ h => by cases h) (verifyFrom_return (fuel := 0) hret)
  unfold VmVerify.verifyUnit
  exact verifyFrom_fuel_le (by have := (decodeAt_next hret).1; omega) h

theorem thunksOK_of_bodies {funs : List FunDecl} {p : Pool} (h : Bodies funs p) : ThunksOK p := fun i b r hp =>
  let ⟨_, ha, hu⟩ := h i b r hp
  unit_verified hu ha

theorem compile_verified {funs : List FunDecl} {e : Expr} {code : Code} {pool : Pool}
    (h : compile funs e = .ok (code, pool)) (hw : wa funs e = true) (hl : lit e = true) :
    VmVerify.verify code pool = true := by
  obtain ⟨hu, hb⟩ := compile_inv h
  exact verify_iff.mpr ⟨unit_verified hu ⟨hw, hl⟩, thunksOK_of_bodies (hb ⟨hw, hl⟩)⟩

end Yae.VmCV
