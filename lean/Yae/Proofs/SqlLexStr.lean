/-
  The reader's tokenizer (`Yae.Sql.tokenize`) reads the Go-quoted form of ANY string back as the
  single token `.str s`, whatever follows (`Yae.SqlLex.tokenize_quote`).
-/
import Yae.Model.SqlRead
import Yae.Proofs.NumLemmas
import Yae.Proofs.ListLemmas
namespace Yae.SqlLex
open Yae Yae.Sql

theorem byteArray_toList_loop (bs : ByteArray) : ∀ (k i : Nat) (r : List UInt8), bs.size - i = k → i ≤ bs.size →
    ByteArray.toList.loop bs i r = r.reverse ++ bs.data.toList.drop i := by
  have hs : bs.data.toList.length = bs.size := by cases bs; rfl
  intro k
  induction k with
  | zero =>
    intro i r hk hi
    unfold ByteArray.toList.loop
    rw [if_neg (by omega), List.drop_eq_nil_of_le (by omega)]
    simp
  | succ k ih =>
    intro i r hk hi
    unfold ByteArray.toList.loop
    rw [if_pos (by omega), ih (i + 1) _ (by omega) (by omega)]
    have hlt : i < bs.data.toList.length := by omega
    rw [List.drop_eq_getElem_cons hlt]
    have hg : bs.get! i = bs.data.toList[i] := by
      cases bs with
      | mk d =>
        simp only [ByteArray.get!]
        have : i < d.size := by simpa using hlt
        simp [this]
    simp [hg]

theorem byteArray_toList (bs : ByteArray) : bs.toList = bs.data.toList := by
  unfold ByteArray.toList
  rw [byteArray_toList_loop bs _ 0 [] rfl (Nat.zero_le _)]
  simp

theorem byteArray_mk_toList (bs : ByteArray) : ByteArray.mk bs.toList.toArray = bs := by
  rw [byteArray_toList]

theorem singleton_bytes (c : Char) : (String.singleton c).toUTF8.toList = String.utf8EncodeChar c := by
  rw [byteArray_toList, String.toUTF8_eq_toByteArray, String.toByteArray_singleton,
    List.utf8Encode_singleton, List.toList_data_toByteArray]

theorem string_bytes (s : String) :
    s.toUTF8.toList = s.toList.flatMap fun c => (String.singleton c).toUTF8.toList := by
  rw [String.toUTF8_eq_toByteArray, ← String.utf8Encode_toList, byteArray_toList, List.utf8Encode,
    List.toList_data_toByteArray]
  simp only [singleton_bytes]

theorem fromUTF8_bytes (s : String) : String.fromUTF8? (ByteArray.mk s.toUTF8.toList.toArray) = some s := by
  rw [byteArray_mk_toList, String.toUTF8_eq_toByteArray, fromUTF8?_toByteArray]

theorem hexv_hexLower (d : Nat) (h : d < 16) : hexv (Num.hexLower d) = some d := by
  have : ∀ d : Fin 16, hexv (Num.hexLower d.val) = some d.val := by decide
  exact this ⟨d, h⟩

theorem hexFixed_length (w : Nat) : ∀ n, (Num.hexFixed w n).length = w := by
  induction w with
  | zero => intro n; simp [Num.hexFixed]
  | succ w ih => intro n; simp [Num.hexFixed, ih]

theorem hexN_eq (cs : List Char) :
    hexN cs = cs.foldlM (fun acc c => do let v ← hexv c; pure (acc * 16 + v)) 0 := by
  cases cs with
  | nil => rfl
  | cons c cs => rfl

theorem foldlM_hexFixed (w : Nat) : ∀ (m acc : Nat),
    (Num.hexFixed w m).foldlM (fun acc c => do let v ← hexv c; pure (acc * 16 + v)) acc
      = some (acc * 16 ^ w + m % 16 ^ w) := by
  induction w with
  | zero => intro m acc; simp [Num.hexFixed, Nat.mod_one]
  | succ w ih =>
    intro m acc
    simp only [Num.hexFixed, List.foldlM_append, ih]
    simp only [List.foldlM_cons, List.foldlM_nil, hexv_hexLower (m % 16) (Nat.mod_lt _ (by decide))]
    exact congrArg some (Num.hex_snoc acc w m)

theorem hexN_hexFixed (w n : Nat) (h : n < 16 ^ w) : hexN (Num.hexFixed w n) = some n := by
  rw [hexN_eq, foldlM_hexFixed, Nat.mod_eq_of_lt h]
  simp

theorem ascii_bytes (c : Char) (h : c.toNat < 128) :
    (String.singleton c).toUTF8.toList = [UInt8.ofNat c.toNat] := by
  rw [singleton_bytes, String.utf8EncodeChar_eq_singleton]
  · rfl
  · rw [Char.utf8Size_eq_one_iff, UInt32.le_iff_toNat_le]
    show c.toNat ≤ 127; omega

theorem scalarBytes_char (c : Char) :
    scalarBytes c.toNat = some (String.singleton c).toUTF8.toList := by
  exact (if_pos (Num.validRune_toNat c)).trans (by rw [Char.ofNat_toNat])

theorem strBody_named {e : Char} {k : Nat} (h : (e, k) ∈ Num.escapes) (f : Nat) (tail : List Char)
    (acc : List UInt8) :
    strBody (f + 1) ('\\' :: e :: tail) acc = strBody f tail (UInt8.ofNat k :: acc) := by
  simp only [Num.escapes, List.mem_cons, Prod.mk.injEq, List.not_mem_nil, or_false] at h
  rcases h with ⟨rfl, rfl⟩ | ⟨rfl, rfl⟩ | ⟨rfl, rfl⟩ | ⟨rfl, rfl⟩ | ⟨rfl, rfl⟩ | ⟨rfl, rfl⟩ |
    ⟨rfl, rfl⟩ | ⟨rfl, rfl⟩ | ⟨rfl, rfl⟩
  -- `strBody.eq_5 … eq_13` are the nine single-letter arms of `strBody` in the order written
  -- there (`a b f n r t v \ "`); `Num.escapes` has `"` and `\` in front
  · exact strBody.eq_13 ..
  · exact strBody.eq_12 ..
  · exact strBody.eq_5 ..
  · exact strBody.eq_6 ..
  · exact strBody.eq_7 ..
  · exact strBody.eq_8 ..
  · exact strBody.eq_9 ..
  · exact strBody.eq_10 ..
  · exact strBody.eq_11 ..

theorem strBody_shape {c : Char} {l : List Char} (h : Num.QuoteShape c l) (f : Nat)
    (tail : List Char) (acc : List UInt8) :
    strBody (f + 1) (l ++ tail) acc
      = strBody f tail ((String.singleton c).toUTF8.toList.reverse ++ acc) := by
  have hlt := Num.char_toNat_lt c
  -- equations of `strBody` used: `eq_14` the `\x` arm on two more characters, `eq_16` the `\u`
  -- arm, `eq_17` the `\U` arm, `eq_21` the last arm (a character taken as it stands)
  cases h with
  | verbatim hp h1 h2 =>
    exact strBody.eq_21 acc f c tail h1 (Num.isPrint_ne_newline hp)
      (fun _ _ h _ => h2 h) (fun h _ => h2 h)
  | named e hm =>
    rw [ascii_bytes c (Num.escapes_lt hm)]
    exact strBody_named hm f tail acc
  | hex2 hx =>
    have e : Num.hexFixed 2 c.toNat = [Num.hexLower (c.toNat / 16 % 16), Num.hexLower (c.toNat % 16)] := by
      simp [Num.hexFixed]
    rw [e, ascii_bytes c hx]
    show strBody (f + 1) ('\\' :: 'x' :: Num.hexLower (c.toNat / 16 % 16) :: Num.hexLower (c.toNat % 16) :: tail) acc = _
    rw [strBody.eq_14, hexv_hexLower _ (Nat.mod_lt _ (by decide)), hexv_hexLower _ (Nat.mod_lt _ (by decide))]
    have : c.toNat / 16 % 16 * 16 + c.toNat % 16 = c.toNat := by omega
    simp only [this]
    rfl
  | hex4 hu =>
    show strBody (f + 1) ('\\' :: 'u' :: (Num.hexFixed 4 c.toNat ++ tail)) acc = _
    rw [strBody.eq_16, if_neg (by simp [hexFixed_length]),
      List.take_left' (hexFixed_length 4 _), List.drop_left' (hexFixed_length 4 _),
      hexN_hexFixed 4 _ (by omega)]
    simp only [Option.bind_some, scalarBytes_char]
  | hex8 =>
    show strBody (f + 1) ('\\' :: 'U' :: (Num.hexFixed 8 c.toNat ++ tail)) acc = _
    rw [strBody.eq_17, if_neg (by simp [hexFixed_length]),
      List.take_left' (hexFixed_length 8 _), List.drop_left' (hexFixed_length 8 _),
      hexN_hexFixed 8 _ (by omega)]
    simp only [Option.bind_some, scalarBytes_char]

theorem strBody_quoteChar (c : Char) (f : Nat) (tail : List Char) (acc : List UInt8) :
    strBody (f + 1) (Num.quoteChar c ++ tail) acc
      = strBody f tail ((String.singleton c).toUTF8.toList.reverse ++ acc) :=
  strBody_shape (Num.quoteChar_shape c) f tail acc

/-- Scanning the quoted form of `l` followed by ANY text `rest` stops exactly at the closing quote
`quote` wrote: the decoded bytes are the UTF-8 encoding of `l`, the remaining input is `rest`. -/
theorem strBody_quoted (l rest : List Char) : ∀ (fuel : Nat) (acc : List UInt8), l.length + 1 ≤ fuel →
    strBody fuel (l.flatMap Num.quoteChar ++ '"' :: rest) acc
      = some (acc.reverse ++ (l.flatMap fun c => (String.singleton c).toUTF8.toList), rest) := by
  induction l with
  | nil =>
    intro fuel acc h
    obtain ⟨f, rfl⟩ : ∃ f, fuel = f + 1 := ⟨fuel - 1, by omega⟩
    simp [strBody]
  | cons c l ih =>
    intro fuel acc h
    obtain ⟨f, rfl⟩ : ∃ f, fuel = f + 1 := ⟨fuel - 1, by omega⟩
    simp only [List.flatMap_cons, List.append_assoc]
    rw [strBody_quoteChar, ih f _ (by simpa using h)]
    simp

theorem tokenize_quote (s : String) (fuel : Nat) (rest : List Char) (acc : List Tok) :
    tokenize (fuel + 1) ((Num.quote s).toList ++ rest) acc = tokenize fuel rest (Tok.str s :: acc) := by
  rw [Num.quote_toList]
  show tokenize (fuel + 1) ('"' :: (s.toList.flatMap Num.quoteChar ++ ['"'] ++ rest)) acc = _
  rw [tokenize.eq_def]
  have e1 : isSpace '"' = false := by decide
  have e2 : ('"' == '"') = true := by decide
  have hlen := Num.length_le_flatMap_quoteChar s.toList
  simp only [e1, e2, if_true, Bool.false_eq_true, if_false, List.append_assoc, List.singleton_append]
  rw [strBody_quoted s.toList rest _ [] (by simp only [List.length_append, List.length_cons]; omega)]
  simp only [List.reverse_nil, List.nil_append, ← string_bytes, fromUTF8_bytes]

end Yae.SqlLex

#print axioms Yae.SqlLex.tokenize_quote
