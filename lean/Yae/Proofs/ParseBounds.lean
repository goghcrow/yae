/-
  The two bounds of C12 that are linear in the number of tokens.

  Work.  Cost unit (`Yae/Spec/ParseCost.lean`): one call of any of the seven parser functions.  The
  bound is that of `RunAt` (`Yae/Proofs/ParseFuel.lean`) read at `pExprC`, for every cursor; it
  holds AT EVERY FUEL, so it is not an artefact of the fuel.

  Size.  The tree the parser returns has at most as many nodes as tokens were consumed (this ties
  the size of the tree, which bounds the work of the structural passes after the parser, to the
  length of the input).  Every node of a tree
  that yields a token range owns a token of the range: a leaf its token, a group / list / map /
  object its opening bracket, a unary or binary or ternary node its operator, a call its `(`, a
  subscript its `[`, a member its `.`.
-/
import Yae.Spec.DesugarCost
import Yae.Proofs.ParseFuel
import Yae.Proofs.ParseYieldSpan
namespace Yae

theorem pExprC_calls {env : PEnv} (hE : env.NoEOF) (f : Nat) (rbp : BP) (i : Nat) :
    (pExprC env f rbp i).2 ≤ 2 * (env.toks.size - i) + 1 ∧
    ∀ x j, (pExprC env f rbp i).1 = .ok (x, j) →
      i < j ∧ j ≤ env.toks.size ∧ (pExprC env f rbp i).2 ≤ 2 * (j - i) := by
  by_cases hi : i ≤ env.toks.size
  · have h := (run_all hE f).exprR rbp i
    generalize pExprC env f rbp i = r at h
    obtain ⟨e | ⟨x, j⟩, c⟩ := r
    · have := h.2 hi
      exact ⟨by simp only; omega, nofun⟩
    · have := h hi
      refine ⟨by simp only; omega, fun x' j' h' => ?_⟩
      cases h'
      simp only
      omega
  · obtain ⟨e, he⟩ := pExprC_eof hE f rbp (Nat.le_of_not_le hi)
    rw [he]
    exact ⟨by simp only; omega, nofun⟩

theorem Yields.nodes_le {env : PEnv} {t : Expr} {i j : Nat} (h : Yields env t i j) :
    t.nodes + i ≤ j := by
  induction h using Yields.rec
    (motive_2 := fun as i j _ => nodesList (ExprList.ofList as) + i ≤ j)
    (motive_3 := fun as i j _ => nodesList (ExprList.ofList as) + i ≤ j)
    (motive_4 := fun as i j _ => nodesList (ExprList.ofList as) + i ≤ j)
    (motive_5 := fun ps i j _ => nodesPairs (PairList.ofList ps) + i ≤ j)
    (motive_6 := fun fs i j _ => nodesFields (FieldEList.ofList fs) + i ≤ j) with
  | time _ he =>
    obtain ⟨v, rfl⟩ := timeLit_ok he
    simp only [Expr.nodes]; omega
  | some _ ih => exact ih
  | _ =>
    -- the node counts one more than its children, which the induction hypotheses bound
    simp only [Expr.nodes, nodesList, nodesPairs, nodesFields, ExprList.ofList, PairList.ofList,
      FieldEList.ofList] at *
    omega

theorem parseWith_nodes {ops : List Operator} (hops : ∀ o ∈ ops, o.kind ≠ tkEOF)
    (times : List (String × Int)) (toks : List Token) (fuel : Nat) {e : Expr}
    (h : parseWith fuel ops times toks = .ok e) : e.nodes ≤ toks.length := by
  obtain ⟨j, hy, _⟩ := parseWith_yields (newGrammar_noEOF hops : PEnv.NoEOF (mkEnv ops times toks)) h
  have := hy.nodes_le
  have := hy.bounds.2
  simp only [mkEnv, List.size_toArray] at this
  omega

end Yae
