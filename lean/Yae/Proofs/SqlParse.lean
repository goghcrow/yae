/-
  C20, the parser half: the reference reader's precedence-climbing parser reads the tokens of a
  well-formed `Doc` as `ptree d`, provided what follows cannot continue the phrase
  (`StopP`/`StopA`/`StopO`): `all`, by induction on `d`, five statements per phrase (`All`), each under the
  grammar level it needs.  Statements are "for every sufficiently large fuel" (`Ev`); `parseOr_fuel_ok` (module
  `SqlParseFuel`) turns that into one about the fuel `readSql` uses: `Yae.SqlParse.parse_doc`, the whole token
  sequence is consumed and the tree is `ptree d`.
-/
import Yae.Proofs.SqlDoc
import Yae.Proofs.SqlParseFuel
namespace Yae.SqlParse
open Yae Yae.Sql Yae.SqlDoc

def Ev {α : Type} (g : Nat → Option α) (r : α) : Prop := ∃ f0, ∀ f, f0 ≤ f → g f = some r

theorem Ev.const {α : Type} {g : Nat → Option α} {r : α} (h : ∀ f, g (f + 1) = some r) : Ev g r :=
  ⟨1, fun f hf => by obtain ⟨k, rfl⟩ : ∃ k, f = k + 1 := ⟨f - 1, by omega⟩; exact h k⟩

theorem Ev.of_step {α : Type} {g q : Nat → Option α} {r : α} (hq : Ev q r) {f1 : Nat}
    (h : ∀ f, f1 ≤ f → g (f + 1) = q f) : Ev g r := by
  obtain ⟨f0, hq⟩ := hq
  refine ⟨max f0 f1 + 1, fun f hf => ?_⟩
  obtain ⟨k, rfl⟩ : ∃ k, f = k + 1 := ⟨f - 1, by omega⟩
  rw [h k (by omega), hq k (by omega)]

theorem Ev.comp {α β : Type} {g q : Nat → Option α} {p : Nat → Option β} {a : β} {r : α}
    (hp : Ev p a) (hq : Ev q r) (h : ∀ f, p f = some a → g (f + 1) = q f) : Ev g r :=
  let ⟨_, hp⟩ := hp
  hq.of_step fun f hf => h f (hp f hf)

theorem Ev.comp2 {α β γ : Type} {g q : Nat → Option α} {p1 : Nat → Option β} {p2 : Nat → Option γ}
    {a1 : β} {a2 : γ} {r : α} (hp1 : Ev p1 a1) (hp2 : Ev p2 a2) (hq : Ev q r)
    (h : ∀ f, p1 f = some a1 → p2 f = some a2 → g (f + 1) = q f) : Ev g r :=
  let ⟨f1, hp1⟩ := hp1
  let ⟨f2, hp2⟩ := hp2
  hq.of_step (f1 := max f1 f2) fun f hf => h f (hp1 f (by omega)) (hp2 f (by omega))

theorem Ev.last {α β : Type} {g : Nat → Option α} {p : Nat → Option β} {a : β} {r : α}
    (hp : Ev p a) (h : ∀ f, p f = some a → g (f + 1) = some r) : Ev g r :=
  Ev.comp hp (Ev.const (g := fun _ => some r) fun _ => rfl) h

theorem parseOr_step {f ts x ts1} (h : parseAnd f ts = some (x, ts1)) :
    parseOr (f+1) ts = parseOrRest f x ts1 := by
  rw [parseOr]; simp [h]

theorem parseOrRest_or {f x ts y ts1} (h : parseAnd f ts = some (y, ts1)) :
    parseOrRest (f+1) x (.word "OR" :: ts) = parseOrRest f (.or (.cons x (.cons y .nil))) ts1 := by
  rw [parseOrRest]; simp [h]

theorem parseOrRest_other {f x ts} (h : ∀ ts', ts ≠ .word "OR" :: ts') :
    parseOrRest (f+1) x ts = some (x, ts) := by
  rw [parseOrRest]; exact h

theorem parseAnd_step {f ts x ts1} (h : parseNot f ts = some (x, ts1)) :
    parseAnd (f+1) ts = parseAndRest f x ts1 := by
  rw [parseAnd]; simp [h]

theorem parseAndRest_and {f x ts y ts1} (h : parseNot f ts = some (y, ts1)) :
    parseAndRest (f+1) x (.word "AND" :: ts) = parseAndRest f (.and (.cons x (.cons y .nil))) ts1 := by
  rw [parseAndRest]; simp [h]

theorem parseAndRest_other {f x ts} (h : ∀ ts', ts ≠ .word "AND" :: ts') :
    parseAndRest (f+1) x ts = some (x, ts) := by
  rw [parseAndRest]; exact h

theorem parseNot_not {f ts x ts1} (h : parseNot f ts = some (x, ts1)) :
    parseNot (f+1) (.word "NOT" :: ts) = some (.not x, ts1) := by
  rw [parseNot]; simp [h]

/-- no primary begins with `NOT`, so where `parsePrimary` succeeds `parseNot` is in its second branch -/
theorem parseNot_prim {f ts x ts1} (hp : parsePrimary f ts = some (x, ts1)) :
    parseNot (f+1) ts = parsePredRest f x ts1 := by
  rw [parseNot]
  · simp [hp]
  · rintro ts' rfl
    cases f <;> simp [parsePrimary] at hp

theorem parsePredRest_cmp {f x op ts y ts1} (hop : op ∈ cmpOps)
    (h : parsePrimary f ts = some (y, ts1)) :
    parsePredRest (f+1) x (.sym op :: ts) = parsePredRest f (.cond op (.cons x (.cons y .nil))) ts1 := by
  rw [parsePredRest]; simp [hop, h]

theorem parsePredRest_like {f x ts y ts1} (h : parsePrimary f ts = some (y, ts1)) :
    parsePredRest (f+1) x (.word "LIKE" :: ts) =
      parsePredRest f (.cond "LIKE" (.cons x (.cons y .nil))) ts1 := by
  rw [parsePredRest]; simp [h]

theorem parsePredRest_in {f x ts ys ts1} (h : parseItems f ts = some (ys, ts1)) :
    parsePredRest (f+1) x (.word "IN" :: .sym "(" :: ts) =
      parsePredRest f (.cond "IN" (.cons x (.cons (.list ys) .nil))) ts1 := by
  rw [parsePredRest]; simp [h]

theorem parsePredRest_between {f x ts lo ts1 hi ts2}
    (h : parsePrimary f ts = some (lo, .word "AND" :: ts1))
    (h2 : parsePrimary f ts1 = some (hi, ts2)) :
    parsePredRest (f+1) x (.word "BETWEEN" :: ts) =
      parsePredRest f (.cond "BETWEEN" (.cons x (.cons lo (.cons hi .nil)))) ts2 := by
  rw [parsePredRest]; simp [h, h2]

theorem parsePredRest_isnull {f x ts} :
    parsePredRest (f+1) x (.word "IS" :: .word "NULL" :: ts) =
      parsePredRest f (.cond "IS NULL" (.cons x .nil)) ts := by
  rw [parsePredRest]

theorem parsePrimary_str {f s ts} : parsePrimary (f+1) (.str s :: ts) = some (.str s, ts) := by
  rw [parsePrimary]
theorem parsePrimary_num {f s ts} : parsePrimary (f+1) (.num s :: ts) = some (.num s, ts) := by
  rw [parsePrimary]
theorem parsePrimary_bq {f s ts} : parsePrimary (f+1) (.bq s :: ts) = some (.col s, ts) := by
  rw [parsePrimary]
theorem parsePrimary_time {f s ts} :
    parsePrimary (f+1) (.word "from_unixtime" :: .sym "(" :: .num s :: .sym ")" :: ts) =
      some (.time s, ts) := by
  rw [parsePrimary]

theorem parsePrimary_paren1 {f ts x ts1} (h : parseItems f ts = some (.cons x .nil, ts1)) :
    parsePrimary (f+1) (.sym "(" :: ts) = some (x, ts1) := by
  rw [parsePrimary]; simp only [h]; rfl

theorem parsePrimary_paren2 {f ts x y ys ts1}
    (h : parseItems f ts = some (.cons x (.cons y ys), ts1)) :
    parsePrimary (f+1) (.sym "(" :: ts) = some (.list (.cons x (.cons y ys)), ts1) := by
  rw [parsePrimary]; simp only [h]; rfl

theorem parseItems_last {f ts x ts1} (h : parseOr f ts = some (x, .sym ")" :: ts1)) :
    parseItems (f+1) ts = some (.cons x .nil, ts1) := by
  rw [parseItems]; simp [h]

theorem parseItems_more {f ts x ts1 xs ts2} (h : parseOr f ts = some (x, .sym "," :: ts1))
    (h2 : parseItems f ts1 = some (xs, ts2)) : parseItems (f+1) ts = some (.cons x xs, ts2) := by
  rw [parseItems]; simp [h, h2]

/-- what follows cannot continue a predicate -/
def StopP (rest : List Tok) : Prop :=
  ∀ t r, rest = t :: r → t = .sym ")" ∨ t = .sym "," ∨ t = .word "OR" ∨ t = .word "AND"
/-- what follows cannot continue an and-expression -/
def StopA (rest : List Tok) : Prop :=
  ∀ t r, rest = t :: r → t = .sym ")" ∨ t = .sym "," ∨ t = .word "OR"
/-- what follows cannot continue an or-expression -/
def StopO (rest : List Tok) : Prop :=
  ∀ t r, rest = t :: r → t = .sym ")" ∨ t = .sym ","

theorem StopO.toA {rest} (h : StopO rest) : StopA rest := fun t r e => by
  rcases h t r e with h | h <;> simp [h]
theorem StopA.toP {rest} (h : StopA rest) : StopP rest := fun t r e => by
  rcases h t r e with h | h | h <;> simp [h]
theorem StopO.nil : StopO [] := fun _ _ e => by cases e
theorem StopO.close (r) : StopO (.sym ")" :: r) := fun _ _ e => by cases e; simp
theorem StopO.comma (r) : StopO (.sym "," :: r) := fun _ _ e => by cases e; simp
theorem StopA.or (r) : StopA (.word "OR" :: r) := fun _ _ e => by cases e; simp
theorem StopP.and (r) : StopP (.word "AND" :: r) := fun _ _ e => by cases e; simp

theorem parsePredRest_stop {f x} {rest : List Tok} (h : StopP rest) :
    parsePredRest (f+1) x rest = some (x, rest) := by
  cases rest with
  | nil => rw [parsePredRest] <;> simp
  | cons t r => rcases h t r rfl with h | h | h | h <;> subst h <;> rw [parsePredRest] <;> simp [cmpOps]

theorem predRest_stop {rest : List Tok} (h : StopP rest) (x : SqlTree) :
    Ev (fun f => parsePredRest f x rest) (x, rest) :=
  Ev.const fun _ => parsePredRest_stop h

theorem andRest_stop {rest : List Tok} (h : StopA rest) (x : SqlTree) :
    Ev (fun f => parseAndRest f x rest) (x, rest) :=
  Ev.const fun f => parseAndRest_other fun ts' e => by
    rcases h _ _ e with h | h | h <;> exact absurd h (by decide)

theorem orRest_stop {rest : List Tok} (h : StopO rest) (x : SqlTree) :
    Ev (fun f => parseOrRest f x rest) (x, rest) :=
  Ev.const fun f => parseOrRest_other fun ts' e => by
    rcases h _ _ e with h | h <;> exact absurd h (by decide)

theorem pk_andAcc {d : Doc} (h : ∀ u v, d ≠ .and u v) (x : SqlTree) :
    pk (.andAcc x) d = .and (.cons x (.cons (ptree d) .nil)) := by
  cases d <;> first
    | rfl
    | exact absurd rfl (h _ _)

theorem pk_orAcc {d : Doc} (h : ∀ u v, d ≠ .or u v) (x : SqlTree) :
    pk (.orAcc x) d = .or (.cons x (.cons (ptree d) .nil)) := by
  cases d <;> first
    | rfl
    | exact absurd rfl (h _ _)

def PPrim (d : Doc) : Prop :=
  ∀ rest, Ev (fun f => parsePrimary f (dtoks d ++ rest)) (ptree d, rest)
def PNot (d : Doc) : Prop :=
  ∀ rest, StopP rest → Ev (fun f => parseNot f (dtoks d ++ rest)) (ptree d, rest)
/-- where the AND loop stands when about to read a phrase: at its start (`none`), or with the
tree `x` read so far and `AND` next (`some x`); likewise for OR -/
def accA : Option SqlTree → Mode
  | none => .plain
  | some x => .andAcc x
def accO : Option SqlTree → Mode
  | none => .plain
  | some x => .orAcc x
def enterA : Option SqlTree → Nat → List Tok → P
  | none, f, ts => parseAnd f ts
  | some x, f, ts => parseAndRest f x (.word "AND" :: ts)
def enterO : Option SqlTree → Nat → List Tok → P
  | none, f, ts => parseOr f ts
  | some x, f, ts => parseOrRest f x (.word "OR" :: ts)

/-- whatever the AND loop goes on to do with the tree accumulated after `d`, it does when entered in
front of the tokens of `d` -/
def PAnd (d : Doc) : Prop :=
  ∀ a rest r, StopP rest → Ev (fun f => parseAndRest f (pk (accA a) d) rest) r →
    Ev (fun f => enterA a f (dtoks d ++ rest)) r
def POr (d : Doc) : Prop :=
  ∀ a rest r, StopA rest → Ev (fun f => parseOrRest f (pk (accO a) d) rest) r →
    Ev (fun f => enterO a f (dtoks d ++ rest)) r
def PItems (ds : DocList) : Prop :=
  ds ≠ .nil → ∀ rest, Ev (fun f => parseItems f (itemsToks ds ++ (.sym ")" :: rest))) (pks ds, rest)

/-- a predicate: a primary followed by a left-nested chain; whatever `parsePredRest` goes on to do
with the tree of `d`, `parseNot` does on the tokens of `d` -/
def PChain (d : Doc) : Prop :=
  ∀ rest r, Ev (fun f => parsePredRest f (ptree d) rest) r → Ev (fun f => parseNot f (dtoks d ++ rest)) r

structure All (d : Doc) : Prop where
  prim : WF 4 d → PPrim d
  chain : WF 3 d → PChain d
  not_ : WF 2 d → PNot d
  and_ : WF 1 d → PAnd d
  or_ : WF 0 d → POr d

theorem POr.final {d : Doc} (h : POr d) (rest : List Tok) (hs : StopO rest) :
    Ev (fun f => parseOr f (dtoks d ++ rest)) (ptree d, rest) :=
  h none rest _ hs.toA (orRest_stop hs _)

theorem chain_of_prim {d : Doc} (hp : PPrim d) : PChain d :=
  fun rest _ hq => Ev.comp (hp rest) hq fun _ hf => parseNot_prim hf

/-- a predicate `a` followed by one more link of the chain: `d` is `a` and then the tokens `suf` -/
theorem PChain.snoc {a d : Doc} {suf : List Tok → List Tok} (ha : PChain a)
    (e : ∀ rest, dtoks d ++ rest = dtoks a ++ suf rest)
    (h : ∀ rest r, Ev (fun f => parsePredRest f (ptree d) rest) r →
      Ev (fun f => parsePredRest f (ptree a) (suf rest)) r) : PChain d :=
  fun rest r hq => by rw [e]; exact ha _ r (h rest r hq)

theorem not_of_chain {d : Doc} (hc : PChain d) : PNot d :=
  fun rest hs => hc rest _ (predRest_stop hs _)

theorem and_of_not {d : Doc} (hn : PNot d)
    (hk : ∀ x, pk (.andAcc x) d = .and (.cons x (.cons (ptree d) .nil))) : PAnd d := by
  intro a rest r hs hq
  cases a with
  | none => exact Ev.comp (hn rest hs) hq (fun f hf => parseAnd_step hf)
  | some x =>
    rw [show pk (accA (some x)) d = _ from hk x] at hq
    exact Ev.comp (hn rest hs) hq (fun f hf => parseAndRest_and hf)

theorem or_of_and {d : Doc} (ha : PAnd d)
    (hk : ∀ x, pk (.orAcc x) d = .or (.cons x (.cons (ptree d) .nil))) : POr d := by
  intro a rest r hs hq
  have h1 := ha none rest _ hs.toP (andRest_stop hs _)
  cases a with
  | none => exact Ev.comp h1 hq (fun f hf => parseOr_step hf)
  | some x =>
    rw [show pk (accO (some x)) d = _ from hk x] at hq
    exact Ev.comp h1 hq (fun f hf => parseOrRest_or hf)

/-- everything about a phrase that is not an `AND`/`OR` chain follows from its reading as a
NOT-expression, which does not depend on the level asked for -/
theorem All.ofNot {d : Doc} (h1 : ∀ u v, d ≠ .and u v) (h2 : ∀ u v, d ≠ .or u v)
    (hp : WF 4 d → PPrim d) (hc : WF 3 d → PChain d) (hn : ∀ l, WF l d → PNot d) : All d where
  prim := hp
  chain := hc
  not_ := hn 2
  and_ := fun w => and_of_not (hn 1 w) (pk_andAcc h1)
  or_ := fun w => or_of_and (and_of_not (hn 0 w) (pk_andAcc h1)) (pk_orAcc h2)

theorem All.ofPrim {d : Doc} (h1 : ∀ u v, d ≠ .and u v) (h2 : ∀ u v, d ≠ .or u v)
    (h3 : ∀ l, WF l d → WF 4 d) (hp : WF 4 d → PPrim d) : All d :=
  have hc : ∀ l, WF l d → PChain d := fun l w => chain_of_prim (hp (h3 l w))
  All.ofNot h1 h2 hp (hc 3) fun l w => not_of_chain (hc l w)

/-- a primary followed by a non-empty chain -/
theorem All.ofCond {d : Doc} (h1 : ∀ u v, d ≠ .and u v) (h2 : ∀ u v, d ≠ .or u v)
    (h4 : ¬ WF 4 d) (hc : ∀ l, WF l d → PChain d) : All d :=
  All.ofNot h1 h2 (fun w => absurd w h4) (hc 3) fun l w => not_of_chain (hc l w)

theorem items_single {d : Doc} (h : POr d) (rest : List Tok) :
    Ev (fun f => parseItems f (dtoks d ++ (.sym ")" :: rest))) (.cons (ptree d) .nil, rest) :=
  Ev.last (h.final _ (StopO.close rest)) fun f hf => parseItems_last hf

mutual
theorem all : (d : Doc) → All d
  | .str s => All.ofPrim (by simp) (by simp) (by simp [WF]) fun _ rest =>
      Ev.const fun f => parsePrimary_str
  | .num s => All.ofPrim (by simp) (by simp) (by simp [WF]) fun _ rest =>
      Ev.const fun f => parsePrimary_num
  | .col s => All.ofPrim (by simp) (by simp) (by simp [WF]) fun _ rest =>
      Ev.const fun f => parsePrimary_bq
  | .time s => All.ofPrim (by simp) (by simp) (by simp [WF]) fun _ rest =>
      Ev.const fun f => parsePrimary_time
  | .list ds => All.ofPrim (by simp) (by simp) (fun l w => by simpa [WF] using w) fun w rest => by
      simp only [WF] at w
      have e : dtoks (.list ds) ++ rest = .sym "(" :: (itemsToks ds ++ (.sym ")" :: rest)) := by
        simp [dtoks]
      rw [e]
      match ds, w with
      | .cons d1 (.cons d2 ds'), w =>
        exact Ev.last (items _ w.2 (by simp) rest) (fun f hf => parsePrimary_paren2 hf)
      | .cons d1 .nil, w => simp [DocList.length] at w
      | .nil, w => simp [DocList.length] at w
  | .paren d => All.ofPrim (by simp) (by simp) (fun l w => by simpa [WF] using w) fun w rest => by
      simp only [WF] at w
      have e : dtoks (.paren d) ++ rest = .sym "(" :: (dtoks d ++ (.sym ")" :: rest)) := by
        simp [dtoks]
      rw [e]
      exact Ev.last (items_single ((all d).or_ w) rest) (fun f hf => parsePrimary_paren1 hf)
  | .bin op a b => All.ofCond (by simp) (by simp) (fun w => by simp only [WF] at w; omega) fun l w => by
      simp only [WF] at w
      obtain ⟨_, hop, wa, wb⟩ := w
      refine ((all a).chain wa).snoc (suf := fun rest => opTok op :: (dtoks b ++ rest))
        (fun rest => by simp [dtoks]) fun rest r hq => ?_
      have hb := (all b).prim wb rest
      have hop' : op ∈ cmpOps ∨ op = "LIKE" := by simpa [binOps, cmpOps, or_assoc] using hop
      rcases hop' with ho | rfl
      · have : opTok op = .sym op := by simp [opTok, ho]
        rw [this]
        exact Ev.comp hb hq (fun f hf => parsePredRest_cmp ho hf)
      · rw [show opTok "LIKE" = .word "LIKE" by decide]
        exact Ev.comp hb hq (fun f hf => parsePredRest_like hf)
  | .inn a ds => All.ofCond (by simp) (by simp) (fun w => by simp only [WF] at w; omega) fun l w => by
      simp only [WF] at w
      obtain ⟨_, wa, hlen, wds⟩ := w
      refine ((all a).chain wa).snoc (suf := fun rest => .word "IN" :: .sym "(" :: (itemsToks ds ++ (.sym ")" :: rest)))
        (fun rest => by simp [dtoks]) fun rest r hq => ?_
      have hi := items ds wds (by intro h; rw [h] at hlen; simp [DocList.length] at hlen) rest
      exact Ev.comp hi hq (fun f hf => parsePredRest_in hf)
  | .between a lo hi => All.ofCond (by simp) (by simp) (fun w => by simp only [WF] at w; omega) fun l w => by
      simp only [WF] at w
      obtain ⟨_, wa, wlo, whi⟩ := w
      refine ((all a).chain wa).snoc (suf := fun rest => .word "BETWEEN" :: (dtoks lo ++ (.word "AND" :: (dtoks hi ++ rest))))
        (fun rest => by simp [dtoks]) fun rest r hq => ?_
      exact Ev.comp2 ((all lo).prim wlo (.word "AND" :: (dtoks hi ++ rest))) ((all hi).prim whi rest)
        hq (fun f h1 h2 => parsePredRest_between h1 h2)
  | .isnull a => All.ofCond (by simp) (by simp) (fun w => by simp only [WF] at w; omega) fun l w => by
      simp only [WF] at w
      refine ((all a).chain w.2).snoc (suf := fun rest => .word "IS" :: .word "NULL" :: rest)
        (fun rest => by simp [dtoks]) fun rest r hq => ?_
      exact hq.of_step (f1 := 0) fun f _ => parsePredRest_isnull
  | .not d => All.ofNot (by simp) (by simp) (fun w => by simp only [WF] at w; omega)
      (fun w => by simp only [WF] at w; omega) fun l w rest hs => by
      simp only [WF] at w
      exact Ev.last ((all d).not_ w.2 rest hs) (fun f hf => parseNot_not hf)
  | .and u v =>
    have hA : ∀ l, WF l (.and u v) → PAnd (.and u v) := fun l w a rest r hs hq => by
      simp only [WF] at w
      have e : dtoks (.and u v) ++ rest = dtoks u ++ (.word "AND" :: (dtoks v ++ rest)) := by
        simp [dtoks]
      have k : pk (accA a) (.and u v) = pk (.andAcc (pk (accA a) u)) v := by cases a <;> rfl
      rw [e]
      rw [k] at hq
      exact (all u).and_ w.2.1 a _ r (StopP.and _) ((all v).and_ w.2.2 (some _) rest r hs hq)
    { prim := fun w => by simp only [WF] at w; omega
      chain := fun w => by simp only [WF] at w; omega
      not_ := fun w => by simp only [WF] at w; omega
      and_ := hA 1
      or_ := fun w => or_of_and (hA 0 w) (pk_orAcc (by simp)) }
  | .or u v =>
    { prim := fun w => by simp only [WF] at w; omega
      chain := fun w => by simp only [WF] at w; omega
      not_ := fun w => by simp only [WF] at w; omega
      and_ := fun w => by simp only [WF] at w; omega
      or_ := fun w a rest r hs hq => by
        simp only [WF] at w
        have e : dtoks (.or u v) ++ rest = dtoks u ++ (.word "OR" :: (dtoks v ++ rest)) := by
          simp [dtoks]
        have k : pk (accO a) (.or u v) = pk (.orAcc (pk (accO a) u)) v := by cases a <;> rfl
        rw [e]
        rw [k] at hq
        exact (all u).or_ w.2.1 a _ r (StopA.or _) ((all v).or_ w.2.2 (some _) rest r hs hq) }
theorem items : (ds : DocList) → WFs ds → PItems ds
  | .nil, _ => fun h => absurd rfl h
  | .cons d .nil, w => fun _ rest => by
    simp only [WFs] at w
    exact items_single ((all d).or_ w.1) rest
  | .cons d (.cons d2 ds), w => fun _ rest => by
    simp only [WFs] at w
    have hi := items (.cons d2 ds) (by simp only [WFs]; exact w.2) (by simp) rest
    have e : itemsToks (.cons d (.cons d2 ds)) ++ (.sym ")" :: rest) =
        dtoks d ++ (.sym "," :: (itemsToks (.cons d2 ds) ++ (.sym ")" :: rest))) := by
      simp [itemsToks]
    rw [e]
    exact Ev.comp2 (((all d).or_ w.1).final (.sym "," :: (itemsToks (.cons d2 ds) ++ (.sym ")" :: rest)))
        (StopO.comma _)) hi
      (Ev.const (g := fun _ => some (pks (.cons d (.cons d2 ds)), rest)) (fun _ => rfl))
      (fun f h1 h2 => parseItems_more h1 h2)
end

theorem parse_doc (d : Doc) (w : WF 0 d) :
    parseOr (parseFuel (dtoks d)) (dtoks d) = some (ptree d, []) := by
  apply parseOr_fuel_ok
  have := ((all d).or_ w).final [] StopO.nil
  simpa [Ev] using this

end Yae.SqlParse

#print axioms Yae.SqlParse.parse_doc
