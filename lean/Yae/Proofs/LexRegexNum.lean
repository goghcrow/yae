/-
  The numeric patterns of the lexer: each hand-written recogniser of `Yae.Model.Lexer` is the scanner composed along
  its regular expression (`LexScan`).  Several prefixes of the input are in the language of a numeric pattern, so
  it is the condition on what follows (`numCont`) that makes the greedy choice the leftmost-first one.
-/
import Yae.Proofs.LexScan
namespace Yae
namespace Re

theorem clsTest_ch2 (a b c : Char) : clsTest false [.ch a, .ch b] c = (c == a || c == b) := by
  simp [clsTest, CItem.test]

theorem clsTest_digit (c : Char) : clsTest false [.range '0' '9'] c = isDigit c := by
  simp [clsTest, CItem.test, isDigit]

theorem isChar_digit : IsChar digit09 isDigit := (isChar_cls _ _).congr clsTest_digit

theorem reDigits1_nil : reDigits1 [] = none := by simp [reDigits1, skipWhile]

theorem not_digit_of {c : Char} {l : List Char} (hl : l.all (fun x => !isDigit x) = true)
    (hc : c ∈ l) : isDigit c = false := by
  have := List.all_eq_true.mp hl c hc
  simpa using this

theorem digit_not_dot {c : Char} (h : isDigit c = true) : (c == '.') = false := by
  rw [beq_eq_false_iff_ne]; rintro rfl; revert h; decide

theorem digit_not_exp {c : Char} (h : isDigit c = true) : (c == 'e' || c == 'E') = false := by
  rw [Bool.or_eq_false_iff, beq_eq_false_iff_ne, beq_eq_false_iff_ne]
  constructor <;> (rintro rfl; revert h; decide)

def numCont (c : Char) : Bool := isIdentCont c || c == '.'

theorem numCont_of {c : Char} (h : isDigit c = true ∨ c = '.' ∨ c = 'e' ∨ c = 'E') :
    numCont c = true := by
  rcases h with h | rfl | rfl | rfl
  · simp [numCont, isIdentCont, h]
  · decide
  · decide
  · decide

/-- `[0-9]+` -/
theorem scans_digits1 : Scans (plus digit09) reDigits1 isDigit :=
  (Scans.plusChar isChar_digit).congr fun _ => rfl

theorem starts_digits1 : Starts reDigits1 isDigit := (starts_plus isDigit).congr fun _ => rfl

/-- `(?:0|[1-9][0-9]*)` -/
theorem scans_intPart : Scans intPart reIntPart isDigit :=
  (((Scans.char (isChar_chr '0')).alt
      (Scans.cons (isChar_cls false [.range '1' '9']) (Scans.starChar isChar_digit))
      (starts_char _) ((starts_char _).cat _)
      (fun c h => by rw [beq_iff_eq.mp h]; rfl)).grp).congr fun s => by
    cases s with
    | nil => rfl
    | cons c t =>
      by_cases h0 : c = '0'
      · subst h0; rfl
      · simp only [reIntPart, sAlt, sChar, sCat, sStar, beq_iff_eq, h0, if_false, clsTest, CItem.test,
          List.any_cons, List.any_nil, Bool.or_false, Bool.false_eq_true]
        split <;> simp [Nat.add_comm]

theorem starts_frac : Starts reFrac (· == '.') := fun l h => by
  cases l with
  | nil => rfl
  | cons c t => simp [reFrac, h c t rfl]

theorem starts_exp : Starts reExp (fun c => c == 'e' || c == 'E') := fun l h => by
  cases l with
  | nil => rfl
  | cons c t => simp [reExp, h c t rfl]

/-- `(?:[.][0-9]+)` -/
theorem scans_frac : Scans fracG reFrac isDigit :=
  ((Scans.cons (isChar_cls false [.ch '.']) scans_digits1).grp).congr fun s => by
    cases s with
    | nil => rfl
    | cons c t =>
      by_cases hc : c = '.'
      · subst hc
        rcases h : reDigits1 t with _ | ⟨n, r⟩ <;>
          simp [reFrac, sCat, sChar, clsTest, CItem.test, h, Nat.add_comm]
      · simp [reFrac, sCat, sChar, clsTest, CItem.test, hc]

/-- `(?:[eE][-+]?[0-9]+)`: after a sign, `[0-9]+` needs a digit. -/
theorem scans_exp : Scans expG reExp isDigit :=
  ((Scans.cons (isChar_cls false [.ch 'e', .ch 'E'])
      (((Scans.char (q := fun _ => false) (isChar_cls false [.ch '-', .ch '+'])).opt (starts_char _)).cat scans_digits1
        fun c t h => starts_digits1.fails (by
          have h : c = '-' ∨ c = '+' := by simpa [clsTest, CItem.test] using h
          rcases h with rfl | rfl <;> rfl) t)).grp).congr fun s => by
    cases s with
    | nil => rfl
    | cons e t =>
      cases he : (e == 'e' || e == 'E')
      · simp [reExp, sCat, sChar, clsTest_ch2, he]
      · cases t with
        | nil => simp [reExp, sCat, sChar, sOpt, clsTest_ch2, he, reDigits1_nil]
        | cons sg t' =>
          cases hs : (sg == '-' || sg == '+')
          · rcases h : reDigits1 (sg :: t') with _ | ⟨n, r⟩ <;>
              simp [reExp, sCat, sChar, sOpt, clsTest_ch2, he, hs, h, Nat.add_comm]
          · rcases h : reDigits1 t' with _ | ⟨n, r⟩ <;>
              simp [reExp, sCat, sChar, sOpt, clsTest_ch2, he, hs, h]
            omega

theorem digit_or_dot_not_exp {c : Char} (h : (isDigit c || c == '.') = true) :
    (c == 'e' || c == 'E') = false := by
  rcases Bool.or_eq_true_iff.mp h with h | h
  · exact digit_not_exp h
  · rw [beq_iff_eq.mp h]; rfl

/-- `(?:0|[1-9][0-9]*)(?:[.][0-9]+)+(?:[eE][-+]?[0-9]+)?` -/
theorem floatA_reads : Reads (reOf .floatA) reFloatA numCont :=
  ⟨_, scans_intPart.cat
      (((scans_frac.plus starts_frac @digit_not_dot).catSkip
        (scans_exp.opt starts_exp) (fun s => by simp only [sOpt]; cases reExp s <;> simp)
        (fun c t h => by simp [sOpt, starts_exp.fails (digit_or_dot_not_exp h) t])
        (fun c h => numCont_of ((Bool.or_eq_true_iff.mp h).imp id fun h => .inl (beq_iff_eq.mp h)))
        (fun c h => numCont_of ((Bool.or_eq_true_iff.mp h).imp id fun h => .inr (by simpa using h)))))
      fun c t h => (starts_frac.iter1.cat _).fails (digit_not_dot h) t, fun s => by
    rcases h1 : reIntPart s with _ | ⟨a, r1⟩
    · simp [reFloatA, sCat, h1]
    rcases h2 : reFrac r1 with _ | ⟨b, r2⟩
    · simp [reFloatA, sCat, sIter1, h1, h2]
    rcases h3 : reExp (reStar reFrac r2.length r2).2 with _ | ⟨d, r3⟩ <;>
      simp [reFloatA, sCat, sIter1, sOpt, h1, h2, h3, Nat.add_assoc]⟩

/-- `(?:[eE][-+]?[0-9]+)+` -/
theorem scans_exps : Scans (plus expG) (sIter1 reExp) (fun c => isDigit c || (c == 'e' || c == 'E')) :=
  scans_exp.plus starts_exp @digit_not_exp

/-- `(?:0|[1-9][0-9]*)(?:[.][0-9]+)?(?:[eE][-+]?[0-9]+)+`: the retry without the fraction, which `reFloatB`
spells out, starts at the `.` and fails. -/
theorem floatB_reads : Reads (reOf .floatB) reFloatB numCont :=
  ⟨_, ((scans_intPart.cat
      ((scans_frac.opt starts_frac).cat scans_exps
        fun c t h => starts_exp.iter1.fails (digit_or_dot_not_exp h) t)
      fun c t h => (starts_frac.optCat starts_exp.iter1).fails
        (by simp [digit_not_dot h, digit_not_exp h]) t).mono
      fun c h => numCont_of ((Bool.or_eq_true_iff.mp h).imp id fun h => .inr (by simpa using h))),
    fun s => by
    rcases h1 : reIntPart s with _ | ⟨a, r1⟩
    · simp [reFloatB, sCat, h1]
    rcases h2 : reFrac r1 with _ | ⟨b, r2⟩
    · rcases h3 : reExp r1 with _ | ⟨d, r3⟩ <;> simp [reFloatB, reExps1, sCat, sIter1, sOpt, h1, h2, h3]
    · obtain ⟨c, t, rfl, hc⟩ := starts_frac.head (s := r1) (by simp [h2])
      have h4 : reExp (c :: t) = none := starts_exp.fails (by rw [beq_iff_eq.mp hc]; rfl) t
      rcases h3 : reExp r2 with _ | ⟨d, r3⟩ <;>
        simp [reFloatB, reExps1, sCat, sIter1, sOpt, h1, h2, h3, h4, Nat.add_assoc]⟩

/-- `(?:0|[1-9][0-9]*)` -/
theorem int_reads : Reads (reOf .int) reInt isDigit := ⟨_, scans_intPart, fun _ => rfl⟩

/-- `0<letter>(?:0|<first><rest>*)` -/
theorem radix_reads {letter : Char} {F R : Re} {first rest : Char → Bool}
    (hF : IsChar F first) (hR : IsChar R rest) (h0 : first '0' = false) :
    Reads (cat (chr '0') (cat (chr letter) (grp (alt (chr '0') (cat F (star R))))))
      (reRadix letter first rest) rest :=
  ⟨_, Scans.cons (isChar_chr '0') (Scans.cons (isChar_chr letter)
      (((Scans.char (isChar_chr '0')).alt (Scans.cons hF (Scans.starChar hR))
        (starts_char _) ((starts_char _).cat _) (fun c h => by rw [beq_iff_eq.mp h]; exact h0)).grp)),
    fun s => by
    match s with
    | [] => rfl
    | [z] => by_cases hz : z = '0' <;> simp [reRadix, sCat, sChar, hz]
    | [z, l] => by_cases hz : z = '0' <;> by_cases hl : l = letter <;> simp [reRadix, sCat, sChar, sAlt, hz, hl]
    | z :: l :: c :: cs =>
      by_cases hz : z = '0' <;> by_cases hl : l = letter <;> simp [reRadix, sCat, sChar, sAlt, sStar, hz, hl]
      by_cases hc : c = '0'
      · simp [hc]
      · cases first c <;> simp [hc]
        omega⟩

theorem char_01 (c : Char) : ('0' ≤ c ∧ c ≤ '1') ↔ (c = '0' ∨ c = '1') := by
  constructor
  · rintro ⟨h1, h2⟩
    have h1 : 48 ≤ c.toNat := (char_le_toNat _ _).1 h1
    have h2 : c.toNat ≤ 49 := (char_le_toNat _ _).1 h2
    have : c.toNat = 48 ∨ c.toNat = 49 := by omega
    rcases this with h | h
    · left; exact Char.ext (UInt32.toNat_inj.mp h)
    · right; exact Char.ext (UInt32.toNat_inj.mp h)
  · rintro (rfl | rfl) <;> decide

theorem clsTest_bin (c : Char) : clsTest false [.range '0' '1'] c = isBin c := by
  have := char_01 c
  simp only [clsTest, CItem.test, isBin, List.any_cons, List.any_nil, Bool.or_false,
    Bool.false_eq_true, if_false]
  rw [Bool.eq_iff_iff]
  simpa using this

theorem isChar_bin : IsChar (cls false [.range '0' '1']) isBin :=
  (isChar_cls _ _).congr clsTest_bin

theorem isChar_hex1 : IsChar (cls false [.range '1' '9', .range 'a' 'f', .range 'A' 'F']) isHex1 :=
  (isChar_cls _ _).congr (by intro c; simp [clsTest, CItem.test, isHex1, Bool.or_assoc])

theorem isChar_hex : IsChar hexDigit isHex :=
  (isChar_cls _ _).congr (by intro c; simp [clsTest, CItem.test, isHex, isDigit, Bool.or_assoc])

theorem isChar_oct1 : IsChar (cls false [.range '1' '7']) isOct1 :=
  (isChar_cls _ _).congr (by intro c; simp [clsTest, CItem.test, isOct1])

theorem isChar_oct : IsChar (cls false [.range '0' '7']) isOct :=
  (isChar_cls _ _).congr (by intro c; simp [clsTest, CItem.test, isOct])

theorem bin_reads : Reads (reOf .bin) reBin isBin :=
  radix_reads (isChar_chr '1') isChar_bin (by decide)

theorem hex_reads : Reads (reOf .hex) reHex isHex := radix_reads isChar_hex1 isChar_hex (by decide)

theorem oct_reads : Reads (reOf .oct) reOct isOct := radix_reads isChar_oct1 isChar_oct (by decide)

end Re
end Yae
