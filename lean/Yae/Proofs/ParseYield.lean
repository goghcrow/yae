/-
  C08: the YIELD of a tree.

  The tree forgets tokens (parentheses, commas, colons, the lexeme of a number), so "the tree was
  read off these tokens" is a relation `Yields env t i j` between a tree and the token range
  `env.toks[i..j)`.  It is the ambiguous context-free grammar of the language: which token may
  start / continue an expression is taken from the two tables of the grammar (`env.g`), but NO
  binding power is ever compared.  The constructors build the node exactly as the model does
  (`pExpr` / `pInfix` / `pCall`), the `Pos.range` checks included.

  The model's peculiarities are followed exactly:
  * a trailing comma is accepted in lists, maps and objects, not in call arguments;
  * `[:]` is the only empty map, `[]` the empty list;
  * after `.` ANY token is the member name (finding D28), even the end of the input
    (`memberEOF`: the name is then `lexer.EOF`, nothing is consumed for it);
  * a member expression directly followed by a `(` token is a method call whatever the tables
    say about `(` (`methodCall`).
-/
import Yae.Model.Parser
namespace Yae

namespace PEnv

/-- the token at `i` exists and starts an expression through the `nud` function `nud` -/
def nudAt (env : PEnv) (i : Nat) (bp : BP) (nud : Nud) : Prop :=
  i < env.toks.size ∧ tableLookup (env.peek i).kind env.g.prefixs = some (bp, nud)

/-- the token at `i` exists and continues an expression through the `led` function `led` -/
def ledAt (env : PEnv) (i : Nat) (bp : BP) (led : Led) : Prop :=
  i < env.toks.size ∧ tableLookup (env.peek i).kind env.g.infixs = some (bp, led)

/-- the token at `i` exists and has kind `k` -/
def kindAt (env : PEnv) (i : Nat) (k : String) : Prop :=
  i < env.toks.size ∧ (env.peek i).kind = k

end PEnv

/-- the fixity recorded in a `Binary` node by the three binary `led` functions -/
def Led.binFix : Led → Option Nat
  | .binaryL => some fixInfixL
  | .binaryR => some fixInfixR
  | .binaryN => some fixInfixN
  | _ => none

mutual

/-- `Yields env t i j`: the tree `t` is read off the tokens `i, …, j-1`. -/
inductive Yields (env : PEnv) : Expr → Nat → Nat → Prop
  | ident {i bp} : env.nudAt i bp .ident →
      Yields env (.ident (env.peek i).pos (env.peek i).lexeme) i (i + 1)
  | true_ {i bp} : env.nudAt i bp .true_ → Yields env (.bool (env.peek i).pos true) i (i + 1)
  | false_ {i bp} : env.nudAt i bp .false_ → Yields env (.bool (env.peek i).pos false) i (i + 1)
  | num {i bp v} : env.nudAt i bp .num → Num.parseNumLit (env.peek i).lexeme = some v →
      Yields env (.num (env.peek i).pos v) i (i + 1)
  | str {i bp v} : env.nudAt i bp .str → Num.unquote (env.peek i).lexeme = some v →
      Yields env (.str (env.peek i).pos v) i (i + 1)
  | time {i bp e} : env.nudAt i bp .time → env.timeLit (env.peek i) = .ok e →
      Yields env e i (i + 1)
  /-- `( e )` -/
  | group {i j bp e rg} : env.nudAt i bp .group → Yields env e (i + 1) j → env.kindAt j ")" →
      Pos.range (env.peek i).pos (env.peek j).pos = .ok rg → Yields env (.group rg e) i (j + 1)
  /-- `op e` -/
  | pre {i j bp e rg} : env.nudAt i bp .unaryPrefix → Yields env e (i + 1) j →
      Pos.range (env.peek i).pos e.pos = .ok rg →
      Yields env (.unary rg (env.peek i).lexeme (env.peek i).pos e true) i j
  /-- `[:]` -/
  | emptyMap {i bp rg} : env.nudAt i bp .listMap → env.kindAt (i + 1) ":" →
      env.kindAt (i + 2) "]" → Pos.range (env.peek i).pos (env.peek (i + 2)).pos = .ok rg →
      Yields env (.map rg .nil none) i (i + 3)
  /-- `[ e, … ]` (possibly empty, possibly with a trailing comma) -/
  | list {i j bp es rg} : env.nudAt i bp .listMap → YElems env es (i + 1) j → env.kindAt j "]" →
      Pos.range (env.peek i).pos (env.peek j).pos = .ok rg →
      Yields env (.list rg (ExprList.ofList es) none) i (j + 1)
  /-- `[ k : v, … ]` (not empty, possibly with a trailing comma) -/
  | map {i j bp ps rg} : env.nudAt i bp .listMap → YPairs env ps (i + 1) j → ps ≠ [] →
      env.kindAt j "]" → Pos.range (env.peek i).pos (env.peek j).pos = .ok rg →
      Yields env (.map rg (PairList.ofList ps) none) i (j + 1)
  /-- `{ name : v, … }` (possibly empty, possibly with a trailing comma) -/
  | obj {i j bp fs rg} : env.nudAt i bp .obj → YFields env fs (i + 1) j → env.kindAt j "}" →
      Pos.range (env.peek i).pos (env.peek j).pos = .ok rg →
      Yields env (.obj rg (FieldEList.ofList fs) none) i (j + 1)
  /-- `l op r` -/
  | binary {i j k bp led fx l r rg} : Yields env l i j → env.ledAt j bp led → led.binFix = some fx →
      Yields env r (j + 1) k → Pos.range l.pos r.pos = .ok rg →
      Yields env (.binary rg (env.peek j).lexeme (env.peek j).pos fx l r) i k
  /-- `l op` -/
  | post {i j bp l rg} : Yields env l i j → env.ledAt j bp .unaryPostfix →
      Pos.range l.pos (env.peek j).pos = .ok rg →
      Yields env (.unary rg (env.peek j).lexeme (env.peek j).pos l false) i (j + 1)
  /-- `l ? m : r` -/
  | ternary {i j k n bp l m r rg} : Yields env l i j → env.ledAt j bp .question →
      Yields env m (j + 1) k → env.kindAt k ":" → Yields env r (k + 1) n →
      Pos.range l.pos r.pos = .ok rg →
      Yields env (.ternary rg (env.peek j).lexeme (env.peek j).pos l m r) i n
  /-- `c ( args )` -/
  | call {i j k bp c as rg} : Yields env c i j → env.ledAt j bp .call → YArgs env as (j + 1) k →
      env.kindAt k ")" → Pos.range c.pos (env.peek k).pos = .ok rg →
      Yields env (.call rg (env.peek j).pos.col c (ExprList.ofList as) none "" (-1)) i (k + 1)
  /-- `o . name ( args )`: `( args )` directly after a member expression -/
  | methodCall {i j k c as rg} : Yields env c i j → c.isMember = true → env.kindAt j "(" →
      YArgs env as (j + 1) k → env.kindAt k ")" → Pos.range c.pos (env.peek k).pos = .ok rg →
      Yields env (.call rg (env.peek j).pos.col c (ExprList.ofList as) none "" (-1)) i (k + 1)
  /-- `o . name`, any token as the name -/
  | member {i j bp o rg} : Yields env o i j → env.ledAt j bp .dot → j + 1 < env.toks.size →
      Pos.range o.pos (env.peek (j + 1)).pos = .ok rg →
      Yields env (.member rg (env.peek j).pos.col o (env.peek (j + 1)).lexeme
        (env.peek (j + 1)).pos none (-1)) i (j + 2)
  /-- `o .` at the very end of the input: the name is `lexer.EOF` -/
  | memberEOF {i j bp o rg} : Yields env o i j → env.ledAt j bp .dot → j + 1 = env.toks.size →
      Pos.range o.pos eofToken.pos = .ok rg →
      Yields env (.member rg (env.peek j).pos.col o eofToken.lexeme eofToken.pos none (-1)) i (j + 1)
  /-- `v [ ix ]` -/
  | subscript {i j k bp v ix rg} : Yields env v i j → env.ledAt j bp .subscript →
      Yields env ix (j + 1) k → env.kindAt k "]" → Pos.range v.pos (env.peek k).pos = .ok rg →
      Yields env (.subscript rg (env.peek j).pos.col v ix none) i (k + 1)

/-- call arguments: empty, or expressions separated by commas (no trailing comma) -/
inductive YArgs (env : PEnv) : List Expr → Nat → Nat → Prop
  | nil {i} : YArgs env [] i i
  | some {as i j} : YSeq env as i j → YArgs env as i j

/-- `e , e , … , e`, at least one -/
inductive YSeq (env : PEnv) : List Expr → Nat → Nat → Prop
  | one {e i j} : Yields env e i j → YSeq env [e] i j
  | cons {e es i j k} : Yields env e i j → env.kindAt j "," → YSeq env es (j + 1) k →
      YSeq env (e :: es) i k

/-- list elements: empty, or expressions separated by commas with an optional trailing comma -/
inductive YElems (env : PEnv) : List Expr → Nat → Nat → Prop
  | nil {i} : YElems env [] i i
  | one {e i j} : Yields env e i j → YElems env [e] i j
  | cons {e es i j k} : Yields env e i j → env.kindAt j "," → YElems env es (j + 1) k →
      YElems env (e :: es) i k

/-- map entries `k : v`, separated by commas, optional trailing comma -/
inductive YPairs (env : PEnv) : List (Expr × Expr) → Nat → Nat → Prop
  | nil {i} : YPairs env [] i i
  | one {k v i j m} : Yields env k i j → env.kindAt j ":" → Yields env v (j + 1) m →
      YPairs env [(k, v)] i m
  | cons {k v ps i j m n} : Yields env k i j → env.kindAt j ":" → Yields env v (j + 1) m →
      env.kindAt m "," → YPairs env ps (m + 1) n → YPairs env ((k, v) :: ps) i n

/-- object fields `name : v` (the name is a `<sym>` token), commas, optional trailing comma -/
inductive YFields (env : PEnv) : List (String × Expr) → Nat → Nat → Prop
  | nil {i} : YFields env [] i i
  | one {v i j} : env.kindAt i "<sym>" → env.kindAt (i + 1) ":" → Yields env v (i + 2) j →
      YFields env [((env.peek i).lexeme, v)] i j
  | cons {v fs i j k} : env.kindAt i "<sym>" → env.kindAt (i + 1) ":" → Yields env v (i + 2) j →
      env.kindAt j "," → YFields env fs (j + 1) k →
      YFields env (((env.peek i).lexeme, v) :: fs) i k

end

end Yae
