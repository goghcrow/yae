/-
  C20: facts about `flatten` (the associativity of AND and of OR) and about the left-nested chains
  the reference reader builds (`pk (.andAcc x) d`, `pk (.orAcc x) d`): up to `flatten`, the reading of `a AND b` is
  the `.and` of the meanings of `a` and `b` (`flatten_ptree_and`), and likewise for OR (`flatten_ptree_or`).
-/
import Yae.Proofs.SqlDoc
namespace Yae.SqlStruct
open Yae Yae.Sql Yae.SqlDoc

theorem append_nil : ∀ xs : SqlTreeList, xs.append .nil = xs
  | .nil => rfl
  | .cons x xs => by simp [SqlTreeList.append, append_nil xs]

theorem append_assoc : ∀ xs ys zs : SqlTreeList, (xs.append ys).append zs = xs.append (ys.append zs)
  | .nil, _, _ => rfl
  | .cons x xs, ys, zs => by simp [SqlTreeList.append, append_assoc xs ys zs]

mutual
theorem beq_refl : ∀ t : SqlTree, SqlTree.beq t t = true
  | .col _ | .str _ | .num _ | .time _ => by simp [SqlTree.beq]
  | .list xs | .and xs | .or xs | .cond _ xs => by simp [SqlTree.beq, beqList_refl xs]
  | .not x => by simp [SqlTree.beq, beq_refl x]
theorem beqList_refl : ∀ ts : SqlTreeList, SqlTreeList.beq ts ts = true
  | .nil => by simp [SqlTreeList.beq]
  | .cons x xs => by simp [SqlTreeList.beq, beq_refl x, beqList_refl xs]
end

theorem beq_self (t : SqlTree) : (t == t) = true := beq_refl t

/-! AND and OR alike: `node true` is `.and`, `node false` is `.or` -/

def node : Bool → SqlTreeList → SqlTree
  | true, xs => .and xs
  | false, xs => .or xs

def acc : Bool → SqlTree → Mode
  | true, x => .andAcc x
  | false, x => .orAcc x

def conj : Bool → SqlTree → SqlTreeList
  | true, t =>
    match flatten t with
    | .and ys => ys
    | y => .cons y .nil
  | false, t =>
    match flatten t with
    | .or ys => ys
    | y => .cons y .nil

theorem flatten_node2 (b : Bool) (x y : SqlTree) :
    flatten (node b (.cons x (.cons y .nil))) = node b ((conj b x).append (conj b y)) := by
  cases b <;> simp only [node, flatten, spliceAnd, spliceOr, conj] <;> split <;> split <;>
    simp_all [SqlTreeList.append, append_nil]

theorem conj_congr (b : Bool) {t t' : SqlTree} (h : flatten t = flatten t') : conj b t = conj b t' := by
  cases b <;> simp only [conj, h]

theorem conj_node2 (b : Bool) (x y : SqlTree) :
    conj b (node b (.cons x (.cons y .nil))) = (conj b x).append (conj b y) := by
  have h := flatten_node2 b x y
  cases b <;> simp only [node] at h ⊢ <;> simp only [conj, h]

theorem flatten_node2_congr (b : Bool) {x x' y y' : SqlTree} (hx : flatten x = flatten x')
    (hy : flatten y = flatten y') :
    flatten (node b (.cons x (.cons y .nil))) = flatten (node b (.cons x' (.cons y' .nil))) := by
  rw [flatten_node2, flatten_node2, conj_congr b hx, conj_congr b hy]

/-- associativity up to `flatten`: if `r ≈ a ∘ v`, `a ≈ x ∘ u` and `p ≈ u ∘ v` then `r ≈ x ∘ p` -/
theorem flatten_assoc (b : Bool) {x u v a r p : SqlTree}
    (hr : flatten r = flatten (node b (.cons a (.cons v .nil))))
    (ha : flatten a = flatten (node b (.cons x (.cons u .nil))))
    (hp : flatten p = flatten (node b (.cons u (.cons v .nil)))) :
    flatten r = flatten (node b (.cons x (.cons p .nil))) := by
  rw [hr, flatten_node2, flatten_node2, conj_congr b ha, conj_node2, conj_congr b hp, conj_node2,
    append_assoc]

theorem flatten_pk_acc : ∀ (b : Bool) (d : Doc) (x : SqlTree),
    flatten (pk (acc b x) d) = flatten (node b (.cons x (.cons (ptree d) .nil)))
  | true, .and u v, x =>
    flatten_assoc true (flatten_pk_acc true v (pk (.andAcc x) u)) (flatten_pk_acc true u x)
      (flatten_pk_acc true v (ptree u))
  | false, .or u v, x =>
    flatten_assoc false (flatten_pk_acc false v (pk (.orAcc x) u)) (flatten_pk_acc false u x)
      (flatten_pk_acc false v (ptree u))
  | b, .str _, _ | b, .num _, _ | b, .col _, _ | b, .time _, _ | b, .list _, _ | b, .paren _, _
  | b, .bin .., _ | b, .inn .., _ | b, .between .., _ | b, .isnull _, _ | b, .not _, _ => by cases b <;> rfl
  | true, .or .., _ | false, .and .., _ => rfl

theorem flatten_ptree_and {a b : Doc} {wa wb : SqlTree} (ha : flatten (ptree a) = flatten wa)
    (hb : flatten (ptree b) = flatten wb) :
    flatten (ptree (.and a b)) = flatten (.and (.cons wa (.cons wb .nil))) :=
  (flatten_pk_acc true b (ptree a)).trans (flatten_node2_congr true ha hb)

theorem flatten_ptree_or {a b : Doc} {wa wb : SqlTree} (ha : flatten (ptree a) = flatten wa)
    (hb : flatten (ptree b) = flatten wb) :
    flatten (ptree (.or a b)) = flatten (.or (.cons wa (.cons wb .nil))) :=
  (flatten_pk_acc false b (ptree a)).trans (flatten_node2_congr false ha hb)

end Yae.SqlStruct
