/-
  Soundness of `inferFun` (the instantiation of a possibly polymorphic signature against ground
  argument types): when `inferFun` succeeds and the unified parameter types pass the checker's
  `tyEq` assertion against the argument types, the result type is an instance of the signature
  (`Inst`): `Yae.Sound.inferFun_inst`.

  `inferFun` runs the second `unify` under a substitution that is not ground: it still contains
  the bindings `s<i> ↦ param_i`, `t<n> ↦ ret` of the first `unify`.  Signature variables never
  start with `s` or `t` (`okVars`), so these "junk" bindings are never consulted: the matching
  lemmas of `Proofs/TyUnify` are used with the name predicate `okVarName` (`OkG m` is
  `m.GroundOn okVarName`).
-/
import Yae.Spec.WF
import Yae.Proofs.TyUnify
import Std.Data.String.ToNat
namespace Yae.Sound

theorem freshName_inj (pre : String) {a b : Nat} (h : freshName pre a = freshName pre b) :
    a = b :=
  Nat.repr_injective ((String.append_right_inj pre).1 h)

theorem okVarName_s (n : Nat) : okVarName (freshName "s" n) = false := by
  unfold okVarName freshName
  simp [String.toList_append]

theorem okVarName_t (n : Nat) : okVarName (freshName "t" n) = false := by
  unfold okVarName freshName
  simp [String.toList_append]

theorem s_ne_t (a b : Nat) : freshName "s" a ≠ freshName "t" b := by
  intro h
  have := congrArg String.toList h
  simp [freshName, String.toList_append] at this

theorem ne_of_ok {a b : String} (ha : okVarName a = true) (hb : okVarName b = false) : a ≠ b := by
  rintro rfl; rw [ha] at hb; cases hb

def OkG (m : Subst) : Prop :=
  ∀ n k, okVarName n = true → m.get? n = some k → slotFree k = true ∧ k.wf = true

def NoOk (m : Subst) : Prop := ∀ n, okVarName n = true → m.get? n = none

theorem NoOk.okG {m : Subst} (h : NoOk m) : OkG m := by
  intro n k hn hk; rw [h n hn] at hk; cases hk

theorem NoOk.set {m : Subst} {n : String} {t : Ty} (hm : NoOk m) (hn : okVarName n = false) :
    NoOk (m.set n t) := by
  intro n' hok
  rw [Subst.get?_set_ne _ _ _ _ (ne_of_ok hok hn).symm]; exact hm n' hok

theorem okVarsFields_find : ∀ (fs : FieldList) (n : String) (t : Ty),
    okVarsFields fs = true → fs.find? n = some t → okVars t = true
  | .nil, n, t, _, h => by simp [FieldList.find?] at h
  | .cons m t' fs, n, t, hw, h => by
    simp only [okVarsFields, Bool.and_eq_true] at hw
    simp only [FieldList.find?] at h
    split at h
    · cases h; exact hw.1
    · exact okVarsFields_find fs n t hw.2 h

mutual
theorem okVars_freeFrom {s : String} (hs : okVarName s = false) : ∀ t, okVars t = true →
    freeFrom s t = true
  | .var n, h => by
    simp only [okVars] at h
    simp only [freeFrom, bne_iff_ne]
    exact ne_of_ok h hs
  | .top, _ | .bot, _ | .num, _ | .str, _ | .bool, _ | .time, _ => by simp [freeFrom]
  | .tuple ts, h => okVarsList_freeFrom hs ts h
  | .list a, h | .maybe a, h => okVars_freeFrom hs a h
  | .map k v, h => by
    simp only [okVars, Bool.and_eq_true] at h
    simp [freeFrom, okVars_freeFrom hs k h.1, okVars_freeFrom hs v h.2]
  | .obj fs, h => okVarsFields_freeFrom hs fs h
  | .fn _ ps r, h => by
    simp only [okVars, Bool.and_eq_true] at h
    simp [freeFrom, okVarsList_freeFrom hs ps h.1, okVars_freeFrom hs r h.2]
theorem okVarsList_freeFrom {s : String} (hs : okVarName s = false) : ∀ ts,
    okVarsList ts = true → freeFromList s ts = true
  | .nil, _ => by simp [freeFromList]
  | .cons t ts, h => by
    simp only [okVarsList, Bool.and_eq_true] at h
    simp [freeFromList, okVars_freeFrom hs t h.1, okVarsList_freeFrom hs ts h.2]
theorem okVarsFields_freeFrom {s : String} (hs : okVarName s = false) : ∀ fs,
    okVarsFields fs = true → freeFromFields s fs = true
  | .nil, _ => by simp [freeFromFields]
  | .cons _ t fs, h => by
    simp only [okVarsFields, Bool.and_eq_true] at h
    simp [freeFromFields, okVars_freeFrom hs t h.1, okVarsFields_freeFrom hs fs h.2]
end

theorem okName_of {b : Bool} {n : String} (h : okVarName n = false → b = true) (hn : b = false) :
    okVarName n = true := by
  cases ho : okVarName n with
  | true => rfl
  | false => rw [h ho] at hn; cases hn

theorem okVars_varsIn {t : Ty} (h : okVars t = true) : t.VarsIn (okVarName · = true) :=
  fun _ => okName_of fun ho => okVars_freeFrom ho t h
theorem okVarsList_varsIn {ts : TyList} (h : okVarsList ts = true) :
    ts.VarsIn (okVarName · = true) :=
  fun _ => okName_of fun ho => okVarsList_freeFrom ho ts h
theorem okVarsFields_varsIn {fs : FieldList} (h : okVarsFields fs = true) :
    fs.VarsIn (okVarName · = true) :=
  fun _ => okName_of fun ho => okVarsFields_freeFrom ho fs h

mutual
theorem okVars_of_varsIn : ∀ t, t.VarsIn (okVarName · = true) → okVars t = true
  | .var n, h => h.var
  | .top, _ | .bot, _ | .num, _ | .str, _ | .bool, _ | .time, _ => rfl
  | .tuple ts, h => okVarsList_of_varsIn ts h
  | .list a, h | .maybe a, h => okVars_of_varsIn a h
  | .map k v, h => by
    simp only [okVars, Bool.and_eq_true]
    exact ⟨okVars_of_varsIn k h.map.1, okVars_of_varsIn v h.map.2⟩
  | .obj fs, h => okVarsFields_of_varsIn fs h
  | .fn _ ps r, h => by
    simp only [okVars, Bool.and_eq_true]
    exact ⟨okVarsList_of_varsIn ps h.fn.1, okVars_of_varsIn r h.fn.2⟩
theorem okVarsList_of_varsIn : ∀ ts, ts.VarsIn (okVarName · = true) → okVarsList ts = true
  | .nil, _ => rfl
  | .cons t ts, h => by
    simp only [okVarsList, Bool.and_eq_true]
    exact ⟨okVars_of_varsIn t h.cons.1, okVarsList_of_varsIn ts h.cons.2⟩
theorem okVarsFields_of_varsIn : ∀ fs, fs.VarsIn (okVarName · = true) → okVarsFields fs = true
  | .nil, _ => rfl
  | .cons _ t fs, h => by
    simp only [okVarsFields, Bool.and_eq_true]
    exact ⟨okVars_of_varsIn t h.cons.1, okVarsFields_of_varsIn fs h.cons.2⟩
end

theorem slotFreeList_okVars : ∀ ts, slotFreeList ts = true → okVarsList ts = true :=
  fun ts h => okVarsList_of_varsIn ts (slotFreeList_varsIn h)
theorem slotFreeFields_okVars : ∀ fs, slotFreeFields fs = true → okVarsFields fs = true :=
  fun fs h => okVarsFields_of_varsIn fs (slotFreeFields_varsIn h)

theorem okVarsList_substG {m : Subst} (hm : OkG m) : ∀ ts, okVarsList ts = true →
    okVarsList (substGList m ts) = true :=
  fun ts h => okVarsList_of_varsIn _ (varsIn_substGList hm ts (okVarsList_varsIn h))
theorem okVarsFields_substG {m : Subst} (hm : OkG m) : ∀ fs, okVarsFields fs = true →
    okVarsFields (substGFields m fs) = true :=
  fun fs h => okVarsFields_of_varsIn _ (varsIn_substGFields hm fs (okVarsFields_varsIn h))

mutual
theorem substG_agree {σ m : Subst} (hag : ∀ n, okVarName n = true → σ.get? n = m.get? n) :
    ∀ t, okVars t = true → substG σ t = substG m t
  | .var n, h => by
    simp only [okVars] at h
    simp only [substG, hag n h]
  | .top, _ | .bot, _ | .num, _ | .str, _ | .bool, _ | .time, _ => rfl
  | .tuple ts, h => congrArg Ty.tuple (substGList_agree hag ts h)
  | .list a, h => congrArg Ty.list (substG_agree hag a h)
  | .map k v, h => by
    simp only [okVars, Bool.and_eq_true] at h
    simp only [substG, substG_agree hag k h.1, substG_agree hag v h.2]
  | .obj fs, h => congrArg Ty.obj (substGFields_agree hag fs h)
  | .fn _ ps r, h => by
    simp only [okVars, Bool.and_eq_true] at h
    simp only [substG, substGList_agree hag ps h.1, substG_agree hag r h.2]
  | .maybe a, h => congrArg Ty.maybe (substG_agree hag a h)
theorem substGList_agree {σ m : Subst} (hag : ∀ n, okVarName n = true → σ.get? n = m.get? n) :
    ∀ ts, okVarsList ts = true → substGList σ ts = substGList m ts
  | .nil, _ => rfl
  | .cons t ts, h => by
    simp only [okVarsList, Bool.and_eq_true] at h
    simp only [substGList, substG_agree hag t h.1, substGList_agree hag ts h.2]
theorem substGFields_agree {σ m : Subst} (hag : ∀ n, okVarName n = true → σ.get? n = m.get? n) :
    ∀ fs, okVarsFields fs = true → substGFields σ fs = substGFields m fs
  | .nil, _ => rfl
  | .cons n t fs, h => by
    simp only [okVarsFields, Bool.and_eq_true] at h
    simp only [substGFields, substG_agree hag t h.1, substGFields_agree hag fs h.2]
end

theorem substG_nil : ∀ t, substG [] t = t := fun t => substG_unbound [] t fun _ _ => rfl
theorem substGList_nil : ∀ ts, substGList [] ts = ts :=
  fun ts => substGList_unbound [] ts fun _ _ => rfl
theorem substGFields_nil : ∀ fs, substGFields [] fs = fs :=
  fun fs => substGFields_unbound [] fs fun _ _ => rfl

theorem substGList_noOk {m : Subst} (hm : NoOk m) (ts : TyList) (ht : okVarsList ts = true) :
    substGList m ts = ts :=
  substGList_unbound m ts fun n hn => hm n (okVarsList_varsIn ht n hn)

theorem applySubst_eq_substG' (m : Subst) (hm : OkG m) : ∀ (f : Nat) t t', okVars t = true →
    applySubst f m t = .ok t' → t' = substG m t :=
  fun f t _ ho h => ((applySubst_post f m t (Subst.GroundOn.at hm (okVars_varsIn ho) f)).of_ok h).1
theorem applySubstList_eq_substG' (m : Subst) (hm : OkG m) : ∀ (f : Nat) ts ts',
    okVarsList ts = true → applySubstList f m ts = .ok ts' → ts' = substGList m ts :=
  fun f ts _ ho h => ((applySubstList_post f m ts (Subst.GroundOn.at hm (okVarsList_varsIn ho) f)).of_ok h).1
theorem applySubst_wf (m : Subst) (hm : OkG m) : ∀ (f : Nat) t t', okVars t = true →
    t.wf = true → applySubst f m t = .ok t' → t'.wf = true :=
  fun f t _ ho hw h => ((applySubst_post f m t (Subst.GroundOn.at hm (okVars_varsIn ho) f)).of_ok h).2 hw
theorem applySubstList_wf (m : Subst) (hm : OkG m) : ∀ (f : Nat) ts ts',
    okVarsList ts = true → wfList ts = true → applySubstList f m ts = .ok ts' →
    wfList ts' = true :=
  fun f ts _ ho hw h => ((applySubstList_post f m ts (Subst.GroundOn.at hm (okVarsList_varsIn ho) f)).of_ok h).2 hw
theorem applySubstFields_wf (m : Subst) (hm : OkG m) : ∀ (f : Nat) fs fs',
    okVarsFields fs = true → wfFields fs = true → applySubstFields f m fs = .ok fs' →
    wfFields fs' = true :=
  fun f fs _ ho hw h => ((applySubstFields_post f m fs (Subst.GroundOn.at hm (okVarsFields_varsIn ho) f)).of_ok h).2 hw

theorem substG_substGList' {m m1 : Subst} (hm : OkG m) (hle : m.le m1) : ∀ ps,
    okVarsList ps = true → StructEqList (substGList m1 (substGList m ps)) (substGList m1 ps) :=
  fun ps ho => substGList_substG_on hm hle ps (okVarsList_varsIn ho)
theorem substG_substGFields' {m m1 : Subst} (hm : OkG m) (hle : m.le m1) :
    ∀ (fs : FieldList), okVarsFields fs = true → ∀ n t, fs.find? n = some t →
      StructEq (substG m1 (substG m t)) (substG m1 t) :=
  fun fs ho => substGFields_substG_on hm hle fs (okVarsFields_varsIn ho)

def JunkEq (m m' : Subst) : Prop := ∀ n, okVarName n = false → m'.get? n = m.get? n

theorem JunkEq.refl (m : Subst) : JunkEq m m := fun _ _ => rfl

theorem JunkEq.trans {a b c : Subst} (h1 : JunkEq a b) (h2 : JunkEq b c) : JunkEq a c :=
  fun n hn => (h2 n hn).trans (h1 n hn)

theorem applySubst_var_none {f : Nat} {m : Subst} {n : String} (h : m.get? n = none) :
    applySubst f m (.var n) = .ok (.var n) := by
  rw [applySubst.eq_1]; simp only [h]; rfl

theorem applySubst_noOk_ok {f : Nat} {m : Subst} (hm : NoOk m) {t : Ty} (ht : okVars t = true)
    (hw : t.wf = true) : applySubst f m t = .ok t :=
  applySubst_unbound f m t (fun n hn => hm n (okVars_varsIn ht n hn)) hw

theorem applySubst_nil_ok {f : Nat} {t : Ty} (hw : t.wf = true) : applySubst f [] t = .ok t :=
  applySubst_unbound f [] t (fun _ _ => rfl) hw

theorem applySubst_chase {f : Nat} {m : Subst} {n : String} {ret : Ty}
    (hn : m.get? n = some ret) (hne : okVarName n = false) (hro : okVars ret = true) :
    applySubst (f+1) m (.var n) = applySubst f m ret := by
  rw [applySubst.eq_1]
  simp only [hn]
  split
  · next n' =>
    have hn' : okVarName n' = true := by simpa [okVars] using hro
    rw [if_neg (ne_of_ok hn' hne)]
  · rfl

theorem unify_bind_junk (f : Nat) (x : String) (p : Ty) (m : Subst)
    (hx : okVarName x = false) (hp : okVars p = true) (hw : p.wf = true) (hm : NoOk m)
    (hxm : m.get? x = none) : unify (f+1) (.var x) p m = .ok (p, m.set x p) := by
  by_cases hk : p.kind = .tyvar
  · cases p <;> simp [Ty.kind] at hk
    rename_i b
    simp only [okVars] at hp
    have hne : b ≠ x := ne_of_ok hp hx
    simp only [unify, applySubst_var_none hxm, applySubst_var_none (hm b hp), Except.ok_bind]
    have hxb : (x == b) = false := by simp [Ne.symm hne]
    simp only [pure_bind, tyEq, hxb, Ty.isPrimitive, Ty.isComposite, Ty.kind, Kind.isPrimitive,
      Kind.isComposite, freeFrom, hxm, Bool.false_eq_true, if_false, Bool.and_false,
      Bool.false_and, bne_iff_ne, ne_eq, hne, not_false_eq_true, if_true]
    rfl
  · rw [unify_var_left f x p m hk, applySubst_noOk_ok hm hp hw]
    simp only [Except.ok_bind, okVars_freeFrom hx _ hp, hxm, if_true]
    rfl

def Bound (m : Subst) : Nat → TyList → Prop
  | _, .nil => True
  | s, .cons p ps => m.get? (freshName "s" s) = some p ∧ Bound m (s+1) ps

theorem Bound.congr {m m' : Subst} (h : ∀ j, m'.get? (freshName "s" j) = m.get? (freshName "s" j)) :
    ∀ (start : Nat) (ps : TyList), Bound m start ps → Bound m' start ps
  | _, .nil, _ => trivial
  | s, .cons p ps, hb => ⟨by rw [h s]; exact hb.1, Bound.congr h (s+1) ps hb.2⟩

theorem phase1_list (f : Nat) : ∀ (ps : TyList) (start : Nat) (m : Subst),
    okVarsList ps = true → wfList ps = true → NoOk m →
    (∀ j, start ≤ j → m.get? (freshName "s" j) = none) →
    ∃ ts m', unifyList (f+1) (freshVars "s" start ps.length) ps m = .ok (ts, m') ∧
      NoOk m' ∧ Bound m' start ps ∧
      (∀ n, (∀ j, start ≤ j → n ≠ freshName "s" j) → m'.get? n = m.get? n)
  | .nil, start, m, _, _, hm, _ => by
    simp only [TyList.length, freshVars, unifyList]
    exact ⟨_, _, rfl, hm, trivial, fun _ _ => rfl⟩
  | .cons p ps, start, m, hpo, hpw, hm, hfree => by
    simp only [okVarsList, Bool.and_eq_true] at hpo
    simp only [wfList, Bool.and_eq_true] at hpw
    simp only [TyList.length, freshVars, unifyList]
    rw [unify_bind_junk f _ p m (okVarName_s start) hpo.1 hpw.1 hm (hfree start (Nat.le_refl _))]
    simp only [Except.ok_bind]
    have hfree1 : ∀ j, start + 1 ≤ j →
        (m.set (freshName "s" start) p).get? (freshName "s" j) = none := by
      intro j hj
      rw [Subst.get?_set_ne _ _ _ _ (fun e => by have := freshName_inj "s" e; omega)]
      exact hfree j (by omega)
    obtain ⟨ts, m', h, hm2, hb2, hfr2⟩ :=
      phase1_list f ps (start+1) _ hpo.2 hpw.2 (hm.set (okVarName_s start)) hfree1
    rw [h]
    refine ⟨_, _, rfl, hm2, ⟨?_, hb2⟩, fun n hn => ?_⟩
    · rw [hfr2 _ (fun j hj e => by have := freshName_inj "s" e; omega), Subst.get?_set_self]
    · rw [hfr2 n (fun j hj => hn j (by omega)),
        Subst.get?_set_ne _ _ _ _ (Ne.symm (hn start (Nat.le_refl _)))]

theorem length_freshVars (pre : String) : ∀ (k start : Nat), (freshVars pre start k).length = k
  | 0, _ => rfl
  | k+1, start => by simp [freshVars, TyList.length, length_freshVars pre k (start+1)]

theorem unify_fn_fn (f : Nat) (n n' : String) (ps qs : TyList) (r s : Ty) (m : Subst) :
    unify (f+1) (.fn n ps r) (.fn n' qs s) m = unifyComposite f (.fn n ps r) (.fn n' qs s) m :=
  unify_comp f (.fn n ps r) (.fn n' qs s) m rfl rfl

theorem unify_tuple_tuple (f : Nat) (xs ys : TyList) (m : Subst) :
    unify (f+1) (.tuple xs) (.tuple ys) m = unifyComposite f (.tuple xs) (.tuple ys) m :=
  unify_comp f (.tuple xs) (.tuple ys) m rfl rfl

theorem wfList_freshVars (pre : String) : ∀ (k start : Nat), wfList (freshVars pre start k) = true
  | 0, _ => rfl
  | k+1, start => by simp [freshVars, wfList, Ty.wf, wfList_freshVars pre k (start+1)]

/-- The first `unify` of `inferFun` binds `s<i> ↦ param_i` and `t<n> ↦ ret`, nothing else, when
the number of arguments is the number of parameters, and fails (`nil`) otherwise. -/
theorem phase1 (f : Nat) (name : String) (start tn : Nat) (ps : TyList) (k : Nat) (ret : Ty)
    (hpo : okVarsList ps = true) (hro : okVars ret = true) (hpw : wfList ps = true)
    (hrw : ret.wf = true) :
    (k = ps.length → ∃ x m, unify (f+3)
          (.fn name (.cons (.tuple (freshVars "s" start k)) .nil) (.var (freshName "t" tn)))
          (.fn name (.cons (.tuple ps) .nil) ret) [] = .ok (x, m) ∧
        NoOk m ∧ Bound m start ps ∧ m.get? (freshName "t" tn) = some ret) ∧
    (k ≠ ps.length → unify (f+3)
          (.fn name (.cons (.tuple (freshVars "s" start k)) .nil) (.var (freshName "t" tn)))
          (.fn name (.cons (.tuple ps) .nil) ret) [] = .error .fail) := by
  have e3 : f + 3 = (f + 2) + 1 := rfl
  have e2 : f + 2 = (f + 1) + 1 := rfl
  rw [e3, unify_fn_fn]
  simp only [unifyComposite, TyList.length, bne_self_eq_false, Bool.false_eq_true, if_false,
    unifyParams]
  rw [applySubst_nil_ok (t := .tuple (freshVars "s" start k))
      (by simpa [Ty.wf] using wfList_freshVars "s" k start),
    applySubst_nil_ok (t := .tuple ps) (by simpa [Ty.wf] using hpw)]
  simp only [Except.ok_bind]
  rw [e2, unify_tuple_tuple]
  simp only [unifyComposite, length_freshVars]
  constructor
  · rintro rfl
    simp only [bne_self_eq_false, Bool.false_eq_true, if_false]
    obtain ⟨ts, m3, h3, hm3, hb3, hfr3⟩ :=
      phase1_list f ps start [] hpo hpw (fun _ _ => rfl) (fun _ _ => rfl)
    have ht0 : m3.get? (freshName "t" tn) = none := by
      rw [hfr3 _ (fun j _ e => s_ne_t j tn e.symm)]; rfl
    rw [h3]
    simp only [Except.ok_bind, pure_bind]
    rw [unify_bind_junk (f+1) _ ret m3 (okVarName_t tn) hro hrw hm3 ht0]
    exact ⟨_, _, rfl, hm3.set (okVarName_t tn),
      Bound.congr (fun j => Subst.get?_set_ne _ _ _ _ (Ne.symm (s_ne_t j tn))) start ps hb3,
      Subst.get?_set_self _ _ _⟩
  · intro hne
    have : (k != ps.length) = true := by simpa using hne
    simp only [this, if_true]
    rfl

theorem phase1_inv {f : Nat} {name : String} {start tn : Nat} {ps : TyList} {k : Nat} {ret x : Ty}
    {m : Subst} (hpo : okVarsList ps = true) (hro : okVars ret = true) (hpw : wfList ps = true)
    (hrw : ret.wf = true)
    (h : unify (f+3)
          (.fn name (.cons (.tuple (freshVars "s" start k)) .nil) (.var (freshName "t" tn)))
          (.fn name (.cons (.tuple ps) .nil) ret) [] = .ok (x, m)) :
    k = ps.length ∧ NoOk m ∧ Bound m start ps ∧ m.get? (freshName "t" tn) = some ret := by
  obtain ⟨h1, h2⟩ := phase1 f name start tn ps k ret hpo hro hpw hrw
  by_cases hk : k = ps.length
  · obtain ⟨x', m', e, hp⟩ := h1 hk
    rw [e] at h; cases h
    exact ⟨hk, hp⟩
  · rw [h2 hk] at h; cases h

theorem phase2 (f : Nat) (m : Subst) (hm : NoOk m) : ∀ (ps : TyList) (start : Nat),
    okVarsList ps = true → wfList ps = true → Bound m start ps →
    applySubstList (f+1) m (freshVars "s" start ps.length) = .ok ps
  | .nil, _, _, _, _ => by simp [TyList.length, freshVars, applySubstList]
  | .cons p ps, start, hpo, hpw, hb => by
    simp only [okVarsList, Bool.and_eq_true] at hpo
    simp only [wfList, Bool.and_eq_true] at hpw
    simp only [TyList.length, freshVars, applySubstList]
    rw [applySubst_chase hb.1 (okVarName_s start) hpo.1, applySubst_noOk_ok hm hpo.1 hpw.1,
      phase2 f m hm ps (start+1) hpo.2 hpw.2 hb.2]
    rfl

def okPart (m : Subst) : Subst := m.filter (fun e => okVarName e.1)

theorem get?_okPart : ∀ (m : Subst) (n : String),
    (okPart m).get? n = if okVarName n = true then m.get? n else none
  | [], n => by simp [okPart, Subst.get?]
  | (k, v) :: rest, n => by
    have ih := get?_okPart rest n
    unfold okPart at ih ⊢
    simp only [List.filter]
    by_cases hk : okVarName k = true
    · simp only [hk, Subst.get?]
      by_cases hkn : k = n
      · subst hkn; simp [hk]
      · simp only [hkn, if_false]; exact ih
    · simp only [hk]
      rw [ih]
      by_cases hn : okVarName n = true
      · have hkn : k ≠ n := by rintro rfl; exact hk hn
        simp [hn, Subst.get?, hkn]
      · simp [hn]

theorem okPart_ground {m : Subst} (hm : OkG m) : (okPart m).Ground := by
  intro n k hk
  rw [get?_okPart] at hk
  split at hk
  · next hn => exact hm n k hn hk
  · cases hk

theorem okPart_agree (m : Subst) : ∀ n, okVarName n = true → (okPart m).get? n = m.get? n := by
  intro n hn; rw [get?_okPart, if_pos hn]

theorem inferFun_inst {ctr : Nat} {name : String} {ps : TyList} {ret : Ty}
    {args ps' : TyList} {ret' : Ty}
    (hps : wfList ps = true) (hret : ret.wf = true)
    (hokp : okVarsList ps = true) (hokr : okVars ret = true)
    (hargs : slotFreeList args = true) (hargsw : wfList args = true)
    (h : inferFun ctr name ps ret args = .ok (ps', ret'))
    (hass : tyEqList ps' args = true) :
    Inst ps ret args ret' := by
  unfold inferFun at h
  simp only [Except.bind_eq_ok] at h
  obtain ⟨⟨x1, m1⟩, h1, targ1, h2, ⟨targ2, m2⟩, h3, h4⟩ := h
  simp only at h2 h3 h4
  -- first `unify`: the junk bindings.  `phase1` is stated at fuel `f+3`; `99997 + 3` is `defaultFuel`
  -- (`100000`, Model/Unify.lean)
  obtain ⟨hlen, hm1, hb1, ht1⟩ := phase1_inv (f := 99997) hokp hokr hps hret h1
  -- `applySubst` of the fresh tuple: the parameters (`phase2` is stated at fuel `f+1`: `99999 + 1`)
  simp only [applySubst, Except.bind_eq_ok, Except.pure_eq_ok] at h2
  obtain ⟨r, hr, rfl⟩ := h2
  rw [hlen] at hr
  cases hr.symm.trans (phase2 99999 m1 hm1 ps (ctr+1) hokp hps hb1)
  obtain ⟨⟨hm2, _, hj2⟩, _, hb2⟩ := usound okVarName defaultFuel (.tuple ps) (.tuple args) m1 targ2 m2
    hargs hargsw (okVarsList_varsIn hokp) hm1.okG h3
  split at h4
  · next ps0 =>
    simp only [Except.bind_eq_ok] at h4
    obtain ⟨tres, h5, h6⟩ := h4
    split at h6
    · rw [Except.throw_eq, Except.error_bind] at h6
      cases h6
    · next hsf =>
      cases Except.pure_eq_ok.1 h6
      have hsf : slotFree ret' = true := by simpa using hsf
      -- the result type: chase `t ↦ ret`, which takes one unit of `defaultFuel`, leaving `99999`
      have ht2 : m2.get? (freshName "t" (ctr + args.length + 1)) = some ret := by
        rw [hj2 _ (okVarName_t _)]; exact ht1
      have hf' : applySubst 99999 m2 ret = .ok ret' :=
        (applySubst_chase ht2 (okVarName_t _) hokr).symm.trans h5
      have hse := hb2 hps hass
      simp only [substG] at hse
      cases hse with
      | tuple hse =>
        refine ⟨okPart m2, okPart_ground hm2, ?_, ?_, applySubst_wf m2 hm2 _ ret ret' hokr hret hf',
          hsf⟩
        · rw [substGList_agree (okPart_agree m2) ps hokp]; exact hse
        · rw [substG_agree (okPart_agree m2) ret hokr]
          exact applySubst_eq_substG' m2 hm2 _ ret ret' hokr hf'
  · exact absurd h4 Except.throw_ne_ok

end Yae.Sound

#print axioms Yae.Sound.inferFun_inst
