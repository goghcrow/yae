/-
  C08, deleting a pair of parentheses.  `UG p e t t'`: the tree `t'` is the tree `t` with
  one occurrence of the node `Group p e` replaced by its body `e`; the spans recorded at the
  ancestors of that node may differ (a span that started with the `(` or ended with the `)` starts / ends with
  the body instead), everything else is the same.
-/
import Yae.Proofs.ParseYieldSpan
namespace Yae

mutual
inductive UG (p : Pos) (e : Expr) : Expr → Expr → Prop
  | here : UG p e (.group p e) e
  | group {q q' x x'} : UG p e x x' → UG p e (.group q x) (.group q' x')
  | unary {q q' n np x x' pre} : UG p e x x' → UG p e (.unary q n np x pre) (.unary q' n np x' pre)
  | binL {q q' n np fx l l' r} : UG p e l l' →
      UG p e (.binary q n np fx l r) (.binary q' n np fx l' r)
  | binR {q q' n np fx l r r'} : UG p e r r' →
      UG p e (.binary q n np fx l r) (.binary q' n np fx l r')
  | ternL {q q' n np l l' m r} : UG p e l l' →
      UG p e (.ternary q n np l m r) (.ternary q' n np l' m r)
  | ternM {q q' n np l m m' r} : UG p e m m' →
      UG p e (.ternary q n np l m r) (.ternary q' n np l m' r)
  | ternR {q q' n np l m r r'} : UG p e r r' →
      UG p e (.ternary q n np l m r) (.ternary q' n np l m r')
  | callee {q q' col c c' as a b d} : UG p e c c' →
      UG p e (.call q col c as a b d) (.call q' col c' as a b d)
  | args {q q' col c as as' a b d} : UGL p e as as' →
      UG p e (.call q col c as a b d) (.call q' col c as' a b d)
  | member {q q' col o o' f fp a b} : UG p e o o' →
      UG p e (.member q col o f fp a b) (.member q' col o' f fp a b)
  | subV {q q' col v v' ix a} : UG p e v v' →
      UG p e (.subscript q col v ix a) (.subscript q' col v' ix a)
  | subI {q q' col v ix ix' a} : UG p e ix ix' →
      UG p e (.subscript q col v ix a) (.subscript q' col v ix' a)
  | list {q q' es es' ty} : UGL p e es es' → UG p e (.list q es ty) (.list q' es' ty)
  | map {q q' ps ps' ty} : UGP p e ps ps' → UG p e (.map q ps ty) (.map q' ps' ty)
  | obj {q q' fs fs' ty} : UGF p e fs fs' → UG p e (.obj q fs ty) (.obj q' fs' ty)
inductive UGL (p : Pos) (e : Expr) : ExprList → ExprList → Prop
  | head {x x' xs} : UG p e x x' → UGL p e (.cons x xs) (.cons x' xs)
  | tail {x xs xs'} : UGL p e xs xs' → UGL p e (.cons x xs) (.cons x xs')
inductive UGP (p : Pos) (e : Expr) : PairList → PairList → Prop
  | key {k k' v ps} : UG p e k k' → UGP p e (.cons k v ps) (.cons k' v ps)
  | val {k v v' ps} : UG p e v v' → UGP p e (.cons k v ps) (.cons k v' ps)
  | tail {k v ps ps'} : UGP p e ps ps' → UGP p e (.cons k v ps) (.cons k v ps')
inductive UGF (p : Pos) (e : Expr) : FieldEList → FieldEList → Prop
  | head {n x x' fs} : UG p e x x' → UGF p e (.cons n x fs) (.cons n x' fs)
  | tail {n x fs fs'} : UGF p e fs fs' → UGF p e (.cons n x fs) (.cons n x fs')
end

theorem UG.isMember {p e c c'} (h : UG p e c c') (hm : c.isMember = true) : c'.isMember = true := by
  cases h <;> first | rfl | (simp [Expr.isMember] at hm)

theorem PEnv.Span.inj {env : PEnv} (ho : env.Ordered) {q : Pos} {i j a b : Nat}
    (h1 : env.Span q i j) (h2 : env.Span q a b) : i = a ∧ j = b := by
  obtain ⟨f1, f2, f3⟩ := h1.facts ho
  obtain ⟨g1, g2, g3⟩ := h2.facts ho
  have hi := h1.1; have hj := h1.2.1; have ha := h2.1; have hb := h2.2.1
  have lt {x y : Nat} (h : x < y) (hy : y < env.toks.size) :
      (env.peek x).pos.idx < (env.peek y).pos.idx ∧
        (env.peek x).pos.idxEnd < (env.peek y).pos.idxEnd := by
    have := ho.apart x y h hy; have := ho.nonempty x (by omega); have := ho.nonempty y hy; omega
  constructor
  · rcases Nat.lt_trichotomy i a with h | h | h
    · have := lt h (by omega); omega
    · exact h
    · have := lt h (by omega); omega
  · rcases Nat.lt_trichotomy (j - 1) (b - 1) with h | h | h
    · have := lt h (by omega); omega
    · omega
    · have := lt h (by omega); omega

theorem range_ex {env : PEnv} (ho : env.Ordered) {q1 q2 : Pos} {i j i' k : Nat}
    (h1 : env.Span q1 i j) (h2 : env.Span q2 i' k) (h : i ≤ i') : ∃ rg, Pos.range q1 q2 = .ok rg := by
  obtain ⟨f1, _, _⟩ := h1.facts ho
  obtain ⟨g1, _, _⟩ := h2.facts ho
  have := ho.start_mono h (show i' < env.toks.size by have := h2.1; have := h2.2.1; omega)
  unfold Pos.range
  rw [if_pos (by omega)]
  exact ⟨_, rfl⟩

end Yae
