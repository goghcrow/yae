/-
  C08, deleting a pair of parentheses, for `parse` itself (`parse_ungroup`): the tree returned yields all the tokens,
  so the tree without the group node yields the list without the two parentheses (`Yields.ungroup` at the environments
  of `toks` and of `dropTwo toks a b`, which `del_of` relates), and `parse_complete` on that list returns it.
-/
import Yae.Proofs.ParseUngroupPath
import Yae.Proofs.ParseCompleteTop
namespace Yae

theorem Yields.group_body {env : PEnv} {p : Pos} {e : Expr} {i j : Nat}
    (h : Yields env (.group p e) i j) : ∃ j0, j = j0 + 1 ∧ Yields env e (i + 1) j0 := by
  cases h with
  | time hn he => obtain ⟨v, hv⟩ := timeLit_ok he; cases hv
  | group hn he hk hr => exact ⟨_, rfl, he⟩

theorem mkEnv_peek_getD (ops : List Operator) (times : List (String × Int)) (toks : List Token)
    (x : Nat) : (mkEnv ops times toks).peek x = (toks[x]?).getD eofToken := by
  unfold PEnv.peek mkEnv
  by_cases h : x < toks.length
  · simp [h]
  · simp [h]

/-- the token list without the tokens `a` and `b` (`a < b`) -/
def dropTwo (toks : List Token) (a b : Nat) : List Token := (toks.eraseIdx b).eraseIdx a

theorem dropTwo_getElem? (toks : List Token) {a b : Nat} (hab : a < b) (x : Nat) :
    (dropTwo toks a b)[x]? =
      if x < a then toks[x]? else if x + 1 < b then toks[x + 1]? else toks[x + 2]? := by
  unfold dropTwo
  rw [List.getElem?_eraseIdx]
  split
  · rw [List.getElem?_eraseIdx, if_pos (by omega)]
  · rw [List.getElem?_eraseIdx]

theorem dropTwo_length (toks : List Token) {a b : Nat} (hab : a < b) (hb : b < toks.length) :
    (dropTwo toks a b).length + 2 = toks.length := by
  unfold dropTwo
  rw [List.length_eraseIdx, List.length_eraseIdx]
  simp only [hb, if_true]
  rw [if_pos (by omega)]
  omega

theorem dropTwo_sublist (toks : List Token) (a b : Nat) : (dropTwo toks a b).Sublist toks :=
  (List.eraseIdx_sublist _ _).trans (List.eraseIdx_sublist _ _)

theorem TokensOrdered.sublist {l l' : List Token} (h : TokensOrdered l) (hs : l'.Sublist l) :
    TokensOrdered l' :=
  ⟨fun t ht => h.1 t (hs.subset ht), h.2.sublist hs⟩

theorem OpLexemes.sublist {ops : List Operator} {l l' : List Token} (h : OpLexemes ops l)
    (hs : l'.Sublist l) : OpLexemes ops l' := fun t ht => h t (hs.subset ht)

theorem del_of {ops : List Operator} {times : List (String × Int)} {toks : List Token} {a b : Nat}
    (hord : TokensOrdered toks) (hab : a + 2 ≤ b) (hb : b < toks.length) :
    Del (mkEnv ops times toks) (mkEnv ops times (dropTwo toks a b)) a b := by
  have hlen := dropTwo_length toks (a := a) (b := b) (by omega) hb
  have hsz := mkEnv_size ops times toks
  have hsz' := mkEnv_size ops times (dropTwo toks a b)
  have hget := dropTwo_getElem? toks (a := a) (b := b) (by omega)
  refine ⟨hord.env, (hord.sublist (dropTwo_sublist toks a b)).env, ⟨rfl, rfl, ?_, ?_, ?_⟩,
    ⟨rfl, rfl, ?_, ?_, ?_⟩, ⟨rfl, rfl, ?_, ?_, ?_⟩, hab, by omega, by omega⟩
  · intro x _ hx
    rw [mkEnv_peek_getD, mkEnv_peek_getD, hget, if_pos hx]; rfl
  · intro x _ hx _; omega
  · intro x _ hx _; omega
  · intro x h1 hx
    rw [mkEnv_peek_getD, mkEnv_peek_getD, hget, if_neg (by omega), if_pos (by omega)]
  · intro x _ hx _; omega
  · intro x _ hx _; omega
  · intro x h1 hx
    rw [mkEnv_peek_getD, mkEnv_peek_getD, hget, if_neg (by omega), if_neg (by omega)]
  · intro x _ hx _; omega
  · intro x _ hx _; omega

/-- **Redundant parentheses never change the tree.**  Let `parse` return `t` on `toks`, let the
node `Group p e` of `t` be read from the tokens `[a, b]` (`a` the `(`, `b` the `)`), and suppose
every tree obtained from `t` by deleting that node (`UG p e t ·`: the spans of its ancestors
aside, there is only one) still respects the declarations.  Then on the token list without the two
parentheses `parse` returns `t` without that node. -/
theorem parse_ungroup {ops : List Operator} {times : List (String × Int)} {toks : List Token}
    {t : Expr} {p : Pos} {e : Expr} {a b : Nat}
    (W : WFGrammar (newGrammar ops)) (hL : OpLexemes ops toks) (hord : TokensOrdered toks)
    (htk : ∀ t ∈ toks, t.kind ≠ tkEOF) (h : parse ops times toks = .ok t)
    (hG : Yields (mkEnv ops times toks) (.group p e) a (b + 1))
    (hsub : ∃ t0, UG p e t t0)
    (hR : ∀ t', UG p e t t' → Respects (newGrammar ops) t') :
    ∃ t', UG p e t t' ∧ parse ops times (dropTwo toks a b) = .ok t' := by
  have hy := parseWith_yields_all W.noEOF htk h
  obtain ⟨j0, ej0, hbody⟩ := hG.group_body
  have hbb := hbody.bounds
  have hGb := hG.bounds
  have hsz := mkEnv_size ops times toks
  have hab : a + 2 ≤ b := by omega
  have hb : b < toks.length := by omega
  have D := del_of (ops := ops) (times := times) hord hab hb
  obtain ⟨t0, hU⟩ := hsub
  obtain ⟨_, _, j', t', ej, hUG, hy'⟩ := Yields.ungroup D hG hy t0 hU
  have hlen := dropTwo_length toks (a := a) (b := b) (by omega) hb
  obtain rfl : j' = (dropTwo toks a b).length := by omega
  exact ⟨t', hUG, parse_complete W (hL.sublist (dropTwo_sublist toks a b)) hy' (hR t' hUG)⟩

end Yae
