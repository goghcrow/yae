/-
  C19, the report: `renderValues`, the loop under `Yae.Debug.render`.  An entry that is not skipped and has only
  smaller columns behind it gets the pieces of its text onto consecutive lines at its column, and they stay there
  (`renderValues_places`); the entries in front of it only change the lines it starts from (`renderValues_append`).

  The argument.  `renderValues` works through the entries by descending column.  A value that has been written to
  line `i` at column `c` is protected by the invariant `Holds`: the line's `start` is at most `c`.  Every later
  entry has a smaller column `c' < c`, and whatever it does to line `i` — a `|` at `c'`, or its own text when
  `c' + length < start ≤ c` — touches only cells strictly to the left of column `c`, and leaves `start ≤ c`.
  Lines are only ever appended.
-/
import Yae.Model.Debug
namespace Yae.DebugRender
open Yae Yae.Debug

/-- `s` occupies the cells `a, a+1, …` (0-based) of `line` -/
def At (line : List Char) (a : Nat) (s : List Char) : Prop :=
  ∀ i (h : i < s.length), line[a + i]? = some s[i]

theorem at_iff {line : List Char} {a : Nat} {s : List Char} :
    At line a s ↔ (line.drop a).take s.length = s := by
  rw [eq_comm, ← List.prefix_iff_eq_take, List.prefix_iff_getElem?]
  simp only [List.getElem?_drop]
  exact Iff.rfl

theorem at_nil (line : List Char) (a : Nat) : At line a [] := by
  intro i h; simp at h

def pad (line : List Char) (col : Nat) : List Char :=
  line ++ List.replicate (col - line.length) ' '

theorem length_take_pad (line : List Char) (col : Nat) :
    ((pad line col).take (col - 1)).length = col - 1 := by
  rw [List.length_take, pad, List.length_append, List.length_replicate]; omega

/-- both branches of `placeString` at once: beyond the end of the padded line `drop` leaves nothing -/
theorem placeString_eq (line str : List Char) (col : Nat) :
    placeString line str col =
      (pad line col).take (col - 1) ++ str ++ (pad line col).drop (col - 1 + str.length) := by
  unfold placeString
  dsimp only
  split
  · rename_i h
    rw [pad, List.drop_of_length_le (Nat.le_of_lt h), List.append_nil]
  · rfl

theorem placeString_at (line str : List Char) (col : Nat) :
    At (placeString line str col) (col - 1) str := by
  rw [at_iff, placeString_eq, List.append_assoc, List.drop_left' (length_take_pad line col),
    List.take_left' rfl]

theorem At.keep {line s : List Char} {a : Nat} (h : At line a s) (str : List Char) (col : Nat)
    (hs : col - 1 + str.length ≤ a) : At (placeString line str col) a s := by
  intro i hi
  have hlt := (List.getElem?_eq_some_iff.1 (h i hi)).1
  rw [placeString_eq, List.getElem?_append_right, List.length_append, length_take_pad,
    List.getElem?_drop, Nat.add_sub_cancel' (by omega), pad, List.getElem?_append_left hlt]
  · exact h i hi
  · rw [List.length_append, length_take_pad]; omega

def NoBreak (s : List Char) : Prop := ∀ x ∈ s, x ≠ '\n' ∧ x ≠ '\r'

theorem noBreak_nil : NoBreak [] := by intro x h; simp at h

theorem NoBreak.cons {c : Char} {s : List Char} (hc : c ≠ '\n' ∧ c ≠ '\r') (h : NoBreak s) :
    NoBreak (c :: s) :=
  List.forall_mem_cons.2 ⟨hc, h⟩

theorem NoBreak.reverse {s : List Char} (h : NoBreak s) : NoBreak s.reverse := by
  intro x hx; exact h x (List.mem_reverse.1 hx)

theorem NoBreak.append {s t : List Char} (hs : NoBreak s) (ht : NoBreak t) : NoBreak (s ++ t) :=
  List.forall_mem_append.2 ⟨hs, ht⟩

theorem placeString_noBreak {line str : List Char} (col : Nat) (hl : NoBreak line)
    (hs : NoBreak str) : NoBreak (placeString line str col) := by
  have hp : NoBreak (pad line col) :=
    hl.append fun x hx => by rw [List.eq_of_mem_replicate hx]; decide
  rw [placeString_eq]
  exact NoBreak.append (NoBreak.append (fun x hx => hp x (List.mem_of_mem_take hx)) hs)
    fun x hx => hp x (List.mem_of_mem_drop hx)

theorem splitLines_pos (s cur : List Char) : 0 < (splitLines s cur).length := by
  fun_induction splitLines s cur <;> simp_all

theorem splitLines_noBreak (s cur : List Char) (hcur : NoBreak cur) :
    ∀ x ∈ splitLines s cur, NoBreak x := by
  fun_induction splitLines s cur
  -- the five equations of `splitLines`: end of text, `\r\n`, `\r`, `\n`, any other character
  case case1 cur => exact List.forall_mem_singleton.2 hcur.reverse
  case case2 ih | case3 ih | case4 ih => exact List.forall_mem_cons.2 ⟨hcur.reverse, ih noBreak_nil⟩
  case case5 c rest cur _ h2 h3 ih => exact ih (NoBreak.cons ⟨h3, h2⟩ hcur)

theorem splitLines_of_noBreak (s cur : List Char) (h : NoBreak s) :
    splitLines s cur = [cur.reverse ++ s] := by
  fun_induction splitLines s cur
  case case1 cur => simp
  case case2 | case3 => exact absurd rfl (h '\r' (by simp)).2
  case case4 rest cur ih => exact absurd rfl (h '\n' (by simp)).1
  case case5 c rest cur h1 h2 h3 ih =>
    rw [ih (fun x hx => h x (List.mem_cons_of_mem _ hx))]
    simp

theorem splitLines_length_one (s cur : List Char) (h : (splitLines s cur).length = 1) :
    NoBreak s := by
  fun_induction splitLines s cur
  case case1 cur => exact noBreak_nil
  case case2 rest _ _ | case3 rest _ _ _ | case4 rest _ _ =>
    have := splitLines_pos rest []
    simp only [List.length_cons] at h; omega
  case case5 c rest cur _ h2 h3 ih => exact NoBreak.cons ⟨h3, h2⟩ (ih h)

/-- the text ending before `ec` fits strictly left of what is on line `l` -/
def free (ec : Option Nat) (l : Line) : Bool :=
  match ec with
  | some e => decide ((e : Int) < l.start)
  | none => false

theorem scan_cons (str : List Char) (sc : Nat) (ec : Option Nat) (j : Nat) (l : Line)
    (ls : List Line) :
    scan str sc ec j (l :: ls) =
      if free ec l then ({ chars := placeString l.chars str sc, start := sc } :: ls, true)
      else ({ chars := placeString l.chars ['|'] sc,
              start := if j > 1 then (sc : Int) + 1 else l.start } ::
              (scan str sc ec (j + 1) ls).1, (scan str sc ec (j + 1) ls).2) := by
  cases ec <;> rfl

/-- the entry is not rendered: unknown column, or the next entry has the same column -/
def skip (e : Entry) (rest : List Entry) : Bool :=
  e.col < 1 || (match rest with
    | e' :: _ => e'.col == e.col
    | [] => false)

/-- `endCol`: one past the last column of a single-line text, `none` (= `math.MaxInt`) for a
text with line breaks -/
def endColOf (e : Entry) : Option Nat :=
  if (splitLines e.text.toList []).length == 1 then some (e.col.toNat + e.text.toList.length)
  else none

def freshOf (e : Entry) : List Line :=
  (splitLines e.text.toList []).map fun s =>
    ({ chars := placeString [] s e.col.toNat, start := e.col.toNat } : Line)

theorem renderValues_cons (e : Entry) (rest : List Entry) (lines : List Line) :
    renderValues (e :: rest) lines =
      if skip e rest then renderValues rest lines
      else if (scan e.text.toList e.col.toNat (endColOf e) 1 lines).2 then
        renderValues rest (scan e.text.toList e.col.toNat (endColOf e) 1 lines).1
      else renderValues rest
        ((scan e.text.toList e.col.toNat (endColOf e) 1 lines).1 ++ freshOf e) := by
  cases rest <;> rfl

theorem endColOf_ge (e : Entry) : ∀ x, endColOf e = some x → e.col.toNat + e.text.toList.length ≤ x := by
  intro x h
  unfold endColOf at h
  split at h
  · cases h; exact Nat.le_refl _
  · cases h

theorem endColOf_noBreak (e : Entry) (h : endColOf e ≠ none) : NoBreak e.text.toList := by
  unfold endColOf at h
  split at h
  · rename_i h1
    exact splitLines_length_one _ _ (by simpa using h1)
  · exact absurd rfl h

theorem scan_length (str : List Char) (sc : Nat) (ec : Option Nat) :
    ∀ (ls : List Line) (j : Nat), (scan str sc ec j ls).1.length = ls.length := by
  intro ls
  induction ls with
  | nil => intro j; rfl
  | cons l0 ls ih =>
    intro j
    rw [scan_cons]
    split
    · rfl
    · simp only [List.length_cons, ih]

/-- what `scan` does to line `i`: nothing, or a `|` at the column (and the line's start becomes the column + 1,
or stays), or — only when the text fits strictly left of the line's start — the text at the column (and the
line's start becomes the column) -/
theorem scan_get (str : List Char) (sc : Nat) (ec : Option Nat) :
    ∀ (ls : List Line) (j i : Nat) (l : Line), ls[i]? = some l →
    ∃ l', (scan str sc ec j ls).1[i]? = some l' ∧
      (l' = l ∨
       (l'.chars = placeString l.chars ['|'] sc ∧ (l'.start = (sc : Int) + 1 ∨ l'.start = l.start)) ∨
       (∃ e, ec = some e ∧ (e : Int) < l.start ∧ l' = ⟨placeString l.chars str sc, sc⟩)) := by
  intro ls
  induction ls with
  | nil => intro j i l h; simp at h
  | cons l0 ls ih =>
    intro j i l h
    rw [scan_cons]
    split
    · rename_i hfree
      cases i with
      | zero =>
        simp only [List.getElem?_cons_zero, Option.some.injEq] at h
        subst h
        refine ⟨_, rfl, Or.inr (Or.inr ?_)⟩
        cases ec with
        | none => simp [free] at hfree
        | some e => exact ⟨e, rfl, by simpa [free] using hfree, rfl⟩
      | succ i =>
        simp only [List.getElem?_cons_succ] at h
        exact ⟨l, by simpa using h, Or.inl rfl⟩
    · cases i with
      | zero =>
        simp only [List.getElem?_cons_zero, Option.some.injEq] at h
        subst h
        refine ⟨_, rfl, Or.inr (Or.inl ⟨rfl, ?_⟩)⟩
        dsimp only
        split
        · exact Or.inl rfl
        · exact Or.inr rfl
      | succ i =>
        simp only [List.getElem?_cons_succ] at h
        obtain ⟨l', h1, h2⟩ := ih (j + 1) i l h
        exact ⟨l', by simpa using h1, h2⟩

theorem scan_placed (str : List Char) (sc : Nat) (ec : Option Nat) :
    ∀ (ls : List Line) (j : Nat), (scan str sc ec j ls).2 = true →
    ∃ (i : Nat) (l : Line), ls[i]? = some l ∧ free ec l = true ∧
      (scan str sc ec j ls).1[i]? = some ({ chars := placeString l.chars str sc, start := sc } : Line) := by
  intro ls
  induction ls with
  | nil => intro j h; simp [scan] at h
  | cons l0 ls ih =>
    intro j h
    rw [scan_cons] at h ⊢
    split
    · rename_i hfree
      exact ⟨0, l0, rfl, hfree, rfl⟩
    · rename_i hfree
      rw [if_neg hfree] at h
      obtain ⟨i, l, h1, h2, h3⟩ := ih (j + 1) h
      exact ⟨i + 1, l, by simpa using h1, h2, by simpa using h3⟩

/-- line `i` carries `s` from column `c` on, and the line's start is not to the right of `c` -/
def Holds (lines : List Line) (i : Nat) (c : Int) (s : List Char) : Prop :=
  ∃ l, lines[i]? = some l ∧ l.start ≤ c ∧ At l.chars (c.toNat - 1) s

theorem Holds.intro {lines : List Line} {i : Nat} {c st : Int} {s chars : List Char}
    (hl : lines[i]? = some ⟨chars, st⟩) (hs : st ≤ c) (ha : At chars (c.toNat - 1) s) :
    Holds lines i c s :=
  ⟨_, hl, hs, ha⟩

theorem Holds.append {lines : List Line} {i : Nat} {c : Int} {s : List Char}
    (h : Holds lines i c s) (more : List Line) : Holds (lines ++ more) i c s := by
  obtain ⟨l, h1, h2⟩ := h
  refine ⟨l, ?_, h2⟩
  rw [List.getElem?_append_left (List.getElem?_eq_some_iff.1 h1).1]
  exact h1

/-- an entry with a smaller column leaves what is there alone -/
theorem scan_holds (str : List Char) (sc : Nat) (ec : Option Nat) (ls : List Line) (j : Nat)
    {i : Nat} {c : Int} {s : List Char} (hsc : (sc : Int) < c) (h1 : 1 ≤ sc)
    (hec : ∀ x, ec = some x → sc + str.length ≤ x)
    (h : Holds ls i c s) : Holds (scan str sc ec j ls).1 i c s := by
  obtain ⟨l, hl, hst, hat⟩ := h
  obtain ⟨l', hl', hcase⟩ := scan_get str sc ec ls j i l hl
  refine ⟨l', hl', ?_⟩
  rcases hcase with rfl | ⟨hch, hs⟩ | ⟨e, rfl, he, rfl⟩
  · exact ⟨hst, hat⟩
  · exact ⟨by omega, hch ▸ hat.keep _ _ (by simp only [List.length_cons, List.length_nil]; omega)⟩
  · have := hec e rfl
    exact ⟨by dsimp only; omega, hat.keep _ _ (by omega)⟩

theorem one_le_of_not_skip {e : Entry} {rest : List Entry} (h : ¬ skip e rest = true) :
    1 ≤ e.col := by
  by_cases h' : e.col < 1
  · simp [skip, h'] at h
  · omega

theorem not_skip {e : Entry} {s2 : List Entry} (hc : 1 ≤ e.col) (h : ∀ y ∈ s2, y.col < e.col) :
    ¬ skip e s2 = true := by
  unfold skip
  cases s2 with
  | nil => simp; omega
  | cons y s2 =>
    have := h y List.mem_cons_self
    simp; omega

theorem renderValues_holds {i : Nat} {c : Int} {s : List Char} :
    ∀ (rest : List Entry) (lines : List Line), (∀ x ∈ rest, x.col < c) →
    Holds lines i c s → Holds (renderValues rest lines) i c s := by
  intro rest
  induction rest with
  | nil => intro lines _ h; exact h
  | cons e rest ih =>
    intro lines hlt h
    obtain ⟨he, hrest⟩ := List.forall_mem_cons.1 hlt
    rw [renderValues_cons]
    split
    · exact ih lines hrest h
    · rename_i hskip
      have h1 := one_le_of_not_skip hskip
      have hs := scan_holds e.text.toList e.col.toNat (endColOf e) lines 1 (by omega) (by omega)
        (endColOf_ge e) h
      split
      · exact ih _ hrest hs
      · exact ih _ hrest (hs.append _)

/-- the first line below the source exists and never takes a value (`startCols[1] = 0`) -/
def HeadOK (lines : List Line) : Prop := ∃ l ls, lines = l :: ls ∧ l.start ≤ 0

theorem not_free_head (ec : Option Nat) {l : Line} (h : l.start ≤ 0) : ¬ free ec l = true := by
  cases ec with
  | none => simp [free]
  | some e => simp [free]; omega

theorem scan_headOK (str : List Char) (sc : Nat) (ec : Option Nat) {lines : List Line}
    (h : HeadOK lines) : HeadOK (scan str sc ec 1 lines).1 := by
  obtain ⟨l, ls, rfl, hl⟩ := h
  rw [scan_cons, if_neg (not_free_head ec hl)]
  exact ⟨_, _, rfl, hl⟩

theorem HeadOK.append {lines : List Line} (h : HeadOK lines) (more : List Line) :
    HeadOK (lines ++ more) := by
  obtain ⟨l, ls, rfl, hl⟩ := h
  exact ⟨l, ls ++ more, rfl, hl⟩

theorem renderValues_places (e : Entry) (rest : List Entry) (lines : List Line)
    (hhead : HeadOK lines) (h1 : 1 ≤ e.col) (hrest : ∀ x ∈ rest, x.col < e.col) :
    ∃ i, 1 ≤ i ∧ ∀ k (hk : k < (splitLines e.text.toList []).length),
      Holds (renderValues (e :: rest) lines) (i + k) e.col (splitLines e.text.toList [])[k] := by
  have hcol : ((e.col.toNat : Nat) : Int) = e.col := by omega
  rw [renderValues_cons, if_neg (not_skip h1 hrest)]
  split
  · rename_i hplaced
    obtain ⟨i, l, hl, hfree, hget⟩ := scan_placed _ _ _ lines 1 hplaced
    have hi1 : 1 ≤ i := by
      obtain ⟨l0, ls, rfl, h0⟩ := hhead
      cases i with
      | zero => cases hl; exact absurd hfree (not_free_head _ h0)
      | succ i => exact Nat.le_add_left 1 i
    have hnb := endColOf_noBreak e (by rintro h; simp [h, free] at hfree)
    have hsp : splitLines e.text.toList [] = [e.text.toList] :=
      splitLines_of_noBreak _ _ hnb
    rw [hsp]
    refine ⟨i, hi1, fun k hk => ?_⟩
    obtain rfl : k = 0 := Nat.lt_one_iff.1 hk
    exact renderValues_holds rest _ hrest
      (Holds.intro hget (Int.le_of_eq hcol) (placeString_at _ _ _))
  · refine ⟨lines.length, ?_, fun k hk => ?_⟩
    · obtain ⟨l, ls, rfl, _⟩ := hhead
      exact Nat.le_add_left 1 _
    apply renderValues_holds rest _ hrest
    have hlen := scan_length e.text.toList e.col.toNat (endColOf e) lines 1
    have hget : ((scan e.text.toList e.col.toNat (endColOf e) 1 lines).1 ++ freshOf e)[lines.length + k]?
        = some ⟨placeString [] (splitLines e.text.toList [])[k] e.col.toNat, e.col.toNat⟩ := by
      rw [List.getElem?_append_right (by omega), hlen, Nat.add_sub_cancel_left, freshOf,
        List.getElem?_map, List.getElem?_eq_getElem hk]
      rfl
    exact Holds.intro hget (Int.le_of_eq hcol) (placeString_at _ _ _)

theorem renderValues_append (s1 : List Entry) (e : Entry) (s2 : List Entry) :
    ∀ lines, HeadOK lines →
      ∃ lines', HeadOK lines' ∧ renderValues (s1 ++ e :: s2) lines = renderValues (e :: s2) lines' := by
  induction s1 with
  | nil => intro lines h; exact ⟨lines, h, rfl⟩
  | cons x s1 ih =>
    intro lines h
    rw [List.cons_append, renderValues_cons]
    have hs := scan_headOK x.text.toList x.col.toNat (endColOf x) h
    split
    · exact ih _ h
    · split
      · exact ih _ hs
      · exact ih _ (hs.append _)

end Yae.DebugRender
