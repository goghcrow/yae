/-
  The table of built-in functions, which the engine registers as `builtinDecls` and the typing specification calls
  `builtinFuns` (the soundness witnesses build it a third way, `Sound.Example.funs_eq`).  A look-up scans its ≈ 60
  entries and renders the key of each, so every entry that a concrete program of the development calls is looked up
  here, once; the witnesses rewrite with these lemmas.  So is the one sweep that checks every entry against its
  signature.
-/
import Yae.Model.Engine
import Yae.Spec.Typing
import Yae.Spec.WF
namespace Yae

theorem builtinFunsFrom_eq : ∀ i bs, builtinFunsFrom i bs = builtinDeclsFrom i bs
  | _, [] => rfl
  | i, _ :: bs => congrArg _ (builtinFunsFrom_eq (i+1) bs)

theorem builtinFuns_eq : builtinFuns = builtinDecls := builtinFunsFrom_eq 0 builtins

theorem resolveStatic_mono {funs : List FunDecl} {key : String} {d : FunDecl}
    (h : lookupMono funs key = some d) : resolveStatic funs key (-1) = some d := h

theorem resolveStatic_poly {funs : List FunDecl} {key : String} {d : FunDecl} {rest : List FunDecl}
    (h : lookupPoly funs key = d :: rest) : resolveStatic funs key 0 = some d := by
  simp [resolveStatic, h]

/-- 2 is the position of `ADD_NUM_NUM` in the table `builtins` (`builtin_plus` checks it); likewise below -/
def builtinPlus : FunDecl := ⟨.fn "+" (.cons .num (.cons .num .nil)) .num, .builtin 2, false⟩
def builtinNot : FunDecl := ⟨.fn "!" (.cons .bool .nil) .bool, .builtin 31, false⟩
def builtinString : FunDecl := ⟨.fn "string" (.cons (.var "a") .nil) .str, .builtin 50, false⟩
def builtinPrint : FunDecl := ⟨.fn "print" (.cons (.var "a") .nil) (.var "a"), .builtin 48, false⟩

theorem builtin_plus : lookupMono builtinDecls "λ + (num, num)" = some builtinPlus := by rfl

theorem builtin_not : lookupMono builtinDecls "λ ! (bool)" = some builtinNot := by rfl

theorem builtin_and : lookupMono builtinDecls "λ && (bool, bool)" =
    some ⟨.fn "&&" (.cons .bool (.cons .bool .nil)) .bool, .builtin 30, true⟩ := by rfl

theorem builtin_string : lookupPoly builtinDecls "∀.λ string 1" = [builtinString] := by rfl

theorem builtin_string_mono : lookupMono builtinDecls "λ string (bool)" = none :=
  Option.isNone_iff_eq_none.1 (by decide +kernel)

theorem builtin_print : lookupPoly builtinDecls "∀.λ print 1" = [builtinPrint] := by rfl

theorem builtin_print_mono : lookupMono builtinDecls "λ print (bool)" = none :=
  Option.isNone_iff_eq_none.1 (by decide +kernel)

theorem Api.builtinDecls_funsOK : Sound.FunsOK builtinDecls := by
  intro d hd
  have : builtinDecls.all Sound.declOK = true := by decide +kernel
  exact List.all_eq_true.1 this d hd

end Yae
