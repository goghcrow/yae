/-
  C08: what it means for a TREE to respect the binding powers and fixities of a grammar.
  Nothing here runs the parser.

  Vocabulary.  A node is LED-BUILT when it continues an expression: `l op r`, `l op`, `c ? a : b`,
  `f(args)`, `o.name`, `v[i]`; its FIRST OPERAND is `l` / `c` / `f` / `o` / `v` and its LEFT
  BINDING POWER `lbp` is the power of its operator in the infix table (for the three built-in
  forms: of `(`, `.`, `[`; a call whose callee is a member node is the method-call form
  `o.name(args)`, built by the `.` together with the member node, and has no power of its own).
  A node is OPEN ON THE RIGHT when its text ends with an operand the parser read with
  `expr(rbp)`: `op e` (`rbp` = the prefix power), `l op r` (`rbp` = the power of `op`, for a
  right-associative `op` its float32 predecessor), `c ? a : b` (the predecessor of the power of
  `?`).  The LEFT SPINE of `t` is `t`, the first operand of `t` if `t` is led-built, and so on; the
  RIGHT SPINE is `t`, the last operand of `t` if `t` is open on the right, and so on.

  Operator nodes record the operator's LEXEME as their name whereas the tables are keyed by the
  token KIND; the powers below are looked up under the recorded name, which is right when
  operator tokens have `lexeme = kind` (hypothesis `PEnv.OpLex` of the theorems; true of lexed
  input, where an operator token is the literal text of its kind).
-/
import Yae.Proofs.ParseInv
namespace Yae

/-- the power of the prefix operator `k`, `0` without an entry: the prefix twin of the model's `infixLbp` -/
def Grammar.prefixBp (g : Grammar) (k : String) : BP :=
  match tableLookup k g.prefixs with
  | some (bp, _) => bp
  | none => 0

/-- the power at which the right operand of the binary operator `n` of recorded fixity `fx` is read -/
def Grammar.binRbp (g : Grammar) (n : String) (fx : Nat) : BP :=
  if fx = fixInfixR then bpPred (g.infixLbp n) else g.infixLbp n

/-- (R1) every led-built node on the left spine of the tree binds tighter than `b`:
`b < lbp`. -/
def Expr.leftAbove (g : Grammar) (b : BP) : Expr → Prop
  | .binary _ n _ _ l _ => b < g.infixLbp n ∧ l.leftAbove g b
  | .unary _ n _ e false => b < g.infixLbp n ∧ e.leftAbove g b
  | .ternary _ n _ l _ _ => b < g.infixLbp n ∧ l.leftAbove g b
  | .call _ _ c _ _ _ _ => (c.isMember = true ∨ b < g.infixLbp "(") ∧ c.leftAbove g b
  | .member _ _ o _ _ _ _ => b < g.infixLbp "." ∧ o.leftAbove g b
  | .subscript _ _ v _ _ => b < g.infixLbp "[" ∧ v.leftAbove g b
  | _ => True

/-- (R2) no node on the right spine of the tree that is open on the right would have let an
operator of power `b` through: `¬ rbp < b`. -/
def Expr.rightOK (g : Grammar) (b : BP) : Expr → Prop
  | .unary _ n _ e true => ¬ (g.prefixBp n < b) ∧ e.rightOK g b
  | .binary _ n _ fx _ r => ¬ (g.binRbp n fx < b) ∧ r.rightOK g b
  | .ternary _ n _ _ _ r => ¬ (bpPred (g.infixLbp n) < b) ∧ r.rightOK g b
  | _ => True

/-- the right spine of the tree ends in a member node `o.name` (so that a `(` directly after the
tree belongs to that member node: method call) -/
def Expr.endsInMember : Expr → Bool
  | .member .. => true
  | .unary _ _ _ e true => e.endsInMember
  | .binary _ _ _ _ _ r => r.endsInMember
  | .ternary _ _ _ _ _ r => r.endsInMember
  | _ => false

/-- The conditions at one node.
(R1) for the last operand of a node open on the right; (R2) for the first operand of a led-built
node; (R3) `leftAbove 0` for every operand read with `expr(0)`: group body, call arguments,
subscript index, list / map / object members, the middle of `?:`.  For a call that is not the
method-call form the callee must moreover not end in a member node. -/
def Expr.respHere (g : Grammar) : Expr → Prop
  | .binary _ n _ fx l r => r.leftAbove g (g.binRbp n fx) ∧ l.rightOK g (g.infixLbp n)
  | .unary _ n _ e true => e.leftAbove g (g.prefixBp n)
  | .unary _ n _ e false => e.rightOK g (g.infixLbp n)
  | .ternary _ n _ l m r =>
    l.rightOK g (g.infixLbp n) ∧ m.leftAbove g 0 ∧ r.leftAbove g (bpPred (g.infixLbp n))
  | .call _ _ c as _ _ _ =>
    (c.isMember = true ∨ (c.rightOK g (g.infixLbp "(") ∧ c.endsInMember = false)) ∧
    ∀ a ∈ as.toList, a.leftAbove g 0
  | .member _ _ o _ _ _ _ => o.rightOK g (g.infixLbp ".")
  | .subscript _ _ v ix _ => v.rightOK g (g.infixLbp "[") ∧ ix.leftAbove g 0
  | .group _ e => e.leftAbove g 0
  | .list _ es _ => ∀ e ∈ es.toList, e.leftAbove g 0
  | .map _ ps _ => ∀ kv ∈ ps.toList, kv.1.leftAbove g 0 ∧ kv.2.leftAbove g 0
  | .obj _ fs _ => ∀ nv ∈ fs.toList, nv.2.leftAbove g 0
  | _ => True

/-- **The tree respects the declarations of `g`**: (R3) at the root, (R1)–(R3) at every node,
(R4) no non-associative operator chained with itself. -/
def Respects (g : Grammar) (t : Expr) : Prop :=
  t.leftAbove g 0 ∧ t.All (Expr.respHere g) ∧ t.All Expr.noChainHere

/-- what has to hold of a tree and the kind `k` of the token that follows it -/
def Follow (g : Grammar) (k : String) (t : Expr) : Prop :=
  t.rightOK g (g.infixLbp k) ∧ (t.endsInMember = true → k ≠ "(")

structure Grammar.LedKinds (g : Grammar) : Prop where
  call : ∀ k bp, tableLookup k g.infixs = some (bp, .call) → k = "("
  dot : ∀ k bp, tableLookup k g.infixs = some (bp, .dot) → k = "."
  subscript : ∀ k bp, tableLookup k g.infixs = some (bp, .subscript) → k = "["

/-- a token kind that may end up as the name of an operator node -/
def Grammar.isOpKind (g : Grammar) (k : String) : Prop :=
  (∃ bp, tableLookup k g.prefixs = some (bp, .unaryPrefix)) ∨
  (∃ bp led, tableLookup k g.infixs = some (bp, led))

def PEnv.OpLex (env : PEnv) : Prop :=
  ∀ i, i < env.toks.size → env.g.isOpKind (env.peek i).kind →
    (env.peek i).lexeme = (env.peek i).kind

theorem ExprList.toList_ofList (l : List Expr) : (ExprList.ofList l).toList = l := by
  induction l with
  | nil => rfl
  | cons a l ih => simp [ExprList.ofList, ExprList.toList, ih]

theorem PairList.toList_ofList (l : List (Expr × Expr)) : (PairList.ofList l).toList = l := by
  induction l with
  | nil => rfl
  | cons a l ih => obtain ⟨k, v⟩ := a; simp [PairList.ofList, PairList.toList, ih]

theorem FieldEList.toList_ofList (l : List (String × Expr)) : (FieldEList.ofList l).toList = l := by
  induction l with
  | nil => rfl
  | cons a l ih => obtain ⟨k, v⟩ := a; simp [FieldEList.ofList, FieldEList.toList, ih]

theorem Grammar.infixLbp_of {g : Grammar} {k : String} {bp : BP} {led : Led}
    (h : tableLookup k g.infixs = some (bp, led)) : g.infixLbp k = bp := by
  unfold Grammar.infixLbp; rw [h]

theorem Grammar.infixLbp_none {g : Grammar} {k : String}
    (h : tableLookup k g.infixs = none) : g.infixLbp k = 0 := by
  unfold Grammar.infixLbp; rw [h]

theorem Grammar.prefixBp_of {g : Grammar} {k : String} {bp : BP} {nud : Nud}
    (h : tableLookup k g.prefixs = some (bp, nud)) : g.prefixBp k = bp := by
  unfold Grammar.prefixBp; rw [h]

theorem binRbp_L (g : Grammar) (n : String) : g.binRbp n fixInfixL = g.infixLbp n := by
  simp [Grammar.binRbp, fixInfixL, fixInfixR]
theorem binRbp_N (g : Grammar) (n : String) : g.binRbp n fixInfixN = g.infixLbp n := by
  simp [Grammar.binRbp, fixInfixN, fixInfixR]
theorem binRbp_R (g : Grammar) (n : String) : g.binRbp n fixInfixR = bpPred (g.infixLbp n) := by
  simp [Grammar.binRbp]

theorem binRbp_led {g : Grammar} {led : Led} {fx : Nat} {n : String} {bp : BP}
    (hfx : led.binFix = some fx) (hbp : g.infixLbp n = bp) : g.binRbp n fx = led.rbp bp := by
  cases led <;> simp only [Led.binFix] at hfx <;> cases hfx
  · rw [binRbp_L, hbp]; rfl
  · rw [binRbp_R, hbp]; rfl
  · rw [binRbp_N, hbp]; rfl

/-! `Follow` goes down the right spine: the token of kind `k` may follow a node open on the right iff it stops the
loop of `expr(rbp)` that read the node's last operand and may follow that operand; it may follow a member node iff
it is not `(`; it may follow every other node. -/

theorem Follow.pre {g : Grammar} {k : String} {p n np e} :
    Follow g k (.unary p n np e true) ↔ ¬ g.prefixBp n < g.infixLbp k ∧ Follow g k e := and_assoc

theorem Follow.binary {g : Grammar} {k : String} {p n np fx l r} :
    Follow g k (.binary p n np fx l r) ↔ ¬ g.binRbp n fx < g.infixLbp k ∧ Follow g k r := and_assoc

theorem Follow.ternary {g : Grammar} {k : String} {p n np l m r} :
    Follow g k (.ternary p n np l m r) ↔ ¬ bpPred (g.infixLbp n) < g.infixLbp k ∧ Follow g k r :=
  and_assoc

theorem Follow.member {g : Grammar} {k : String} {p col o f fp a b} :
    Follow g k (.member p col o f fp a b) ↔ k ≠ "(" :=
  ⟨fun h => h.2 rfl, fun h => ⟨trivial, fun _ => h⟩⟩

theorem follow_closed {g : Grammar} {k : String} {t : Expr}
    (h1 : ∀ b, t.rightOK g b) (h2 : t.endsInMember = false) : Follow g k t :=
  ⟨h1 _, by simp [h2]⟩

/-- an operator token records, as the node's name, the key of its own table entry -/
theorem PEnv.OpLex.led {env : PEnv} (hL : env.OpLex) {j : Nat} {bp : BP} {led : Led}
    (hd : env.ledAt j bp led) :
    (env.peek j).lexeme = (env.peek j).kind ∧ env.g.infixLbp (env.peek j).lexeme = bp := by
  have h := hL j hd.1 (.inr ⟨bp, led, hd.2⟩)
  exact ⟨h, by rw [h]; exact Grammar.infixLbp_of hd.2⟩

theorem PEnv.OpLex.pre {env : PEnv} (hL : env.OpLex) {i : Nat} {bp : BP}
    (hn : env.nudAt i bp .unaryPrefix) : env.g.prefixBp (env.peek i).lexeme = bp := by
  rw [hL i hn.1 (.inl ⟨bp, hn.2⟩)]; exact Grammar.prefixBp_of hn.2

end Yae
