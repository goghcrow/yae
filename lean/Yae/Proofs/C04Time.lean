/-
  C04, "absolute date-time forms": `civilFromDays` (`Yae/Model/Val.lean`, Hinnant's closed formula, the function
  under test) and `dayNumber` (`Yae/Spec/Civil.lean`, defined by counting days) are inverse bijections between the
  days `≥ -719468` and the dates `≥ 0000-03-01` (no upper limit).

  Both sides are brought to the coordinates Hinnant's formula works in: years that begin on 1 March (`Y`), the day
  of such a year (`doy`) and its month counted from March (`mp`).  A day `Z` from 0000-03-01 lies in exactly one
  March year, `marchDays Y ≤ Z < marchDays (Y + 1)`; `civilFromDays` finds it and returns `marchDate Y doy`
  (`civil_march`); `marchDate Y doy` is a date of the calendar whose `dayNumber` is `marchDays Y + doy`
  (`marchDate_spec`), and every date is one (`marchDate_surj`).
-/
import Yae.Spec.Civil
import Yae.Model.Val
namespace Yae
open Civil

theorem isLeap_iff (y : Nat) : isLeap y = true ↔ 4 ∣ y ∧ (¬ 100 ∣ y ∨ 400 ∣ y) := by
  simp [isLeap, Nat.dvd_iff_mod_eq_zero]

def lbit (y : Nat) : Nat := if isLeap y then 1 else 0

/-- the leap rule as inclusion and exclusion of the multiples of 4, 100 and 400 -/
theorem lbit_eq (y : Nat) :
    lbit y + (if 100 ∣ y then 1 else 0) = (if 4 ∣ y then 1 else 0) + (if 400 ∣ y then 1 else 0) ∧
      (if 100 ∣ y then 1 else 0) ≤ (if 4 ∣ y then 1 else 0) := by
  have h1 : 400 ∣ y → 100 ∣ y := Nat.dvd_trans (by decide)
  have h2 : 100 ∣ y → 4 ∣ y := Nat.dvd_trans (by decide)
  simp only [lbit, isLeap_iff]
  by_cases p4 : 4 ∣ y <;> by_cases p100 : 100 ∣ y <;> by_cases p400 : 400 ∣ y <;> simp_all

theorem lbit_le (y : Nat) : lbit y ≤ 1 := by
  unfold lbit; split <;> omega

theorem daysInYear_eq (y : Nat) : daysInYear y = 365 + lbit y := by
  unfold daysInYear lbit; split <;> rfl

/-- days from 0000-03-01 to 1 March of year `Y` -/
def marchDays (Y : Nat) : Nat := 365 * Y + Y / 4 - Y / 100 + Y / 400

theorem marchDays_succ (Y : Nat) : marchDays (Y + 1) = marchDays Y + 365 + lbit (Y + 1) := by
  have hl := lbit_eq (Y + 1)
  have hq : Y / 100 ≤ Y / 4 := Nat.div_le_div_left (by decide) (by decide)
  unfold marchDays
  simp only [Nat.succ_div (b := 4), Nat.succ_div (b := 100), Nat.succ_div (b := 400)]
  -- linear once the quotients and the three indicators are atoms
  generalize (if 4 ∣ Y + 1 then 1 else 0) = d4 at *
  generalize (if 100 ∣ Y + 1 then 1 else 0) = d100 at *
  generalize (if 400 ∣ Y + 1 then 1 else 0) = d400 at *
  generalize Y / 4 = a at *
  generalize Y / 100 = b at *
  generalize Y / 400 = c at *
  omega

theorem marchDays_mono {a b : Nat} (h : a ≤ b) : marchDays a ≤ marchDays b := by
  induction h with
  | refl => exact Nat.le_refl _
  | step _ ih => rw [marchDays_succ]; omega

theorem march_unique {Y Y' doy doy' : Nat} (h : doy < 365 + lbit (Y + 1))
    (h' : doy' < 365 + lbit (Y' + 1)) (e : marchDays Y + doy = marchDays Y' + doy') :
    Y = Y' ∧ doy = doy' := by
  have s := marchDays_succ Y
  have s' := marchDays_succ Y'
  rcases Nat.lt_trichotomy Y Y' with hlt | rfl | hlt
  · have := marchDays_mono (show Y + 1 ≤ Y' from hlt); omega
  · omega
  · have := marchDays_mono (show Y' + 1 ≤ Y from hlt); omega

theorem marchDays_era (era yoe : Nat) :
    marchDays (400 * era + yoe) = 146097 * era + marchDays yoe := by
  unfold marchDays; omega

theorem daysBeforeYear_march (Y : Nat) : daysBeforeYear Y + lbit Y = marchDays Y + 1 := by
  induction Y with
  | zero => rfl
  | succ Y ih => rw [daysBeforeYear, daysInYear_eq, marchDays_succ]; omega

/-- `daysBeforeYear` (a sum over the years) in closed form -/
theorem daysBeforeYear_eq (y : Nat) : daysBeforeYear y = marchDays y + 1 - lbit y := by
  have := daysBeforeYear_march y; omega

/-- `doe / 36524` is the century of the era, except on the era's last day -/
theorem yoe_eq (doe : Nat) (h : doe ≤ 146095) :
    (doe - doe / 1460 + doe / 36524 - doe / 146096) / 365 =
      100 * (doe / 36524) +
        (doe % 36524 - (24 * (doe / 36524) + doe % 36524) / 1460) / 365 := by
  have h1 : doe / 1460 = 25 * (doe / 36524) + (24 * (doe / 36524) + doe % 36524) / 1460 := by omega
  have h2 : doe / 146096 = 0 := by omega
  have h3 : (24 * (doe / 36524) + doe % 36524) / 1460 ≤ doe % 36524 := by omega
  rw [h1, h2]
  omega

/-- inside century `e` of the era (36524 days, the fourth one day more), the year `a` computed for day `r` of the
century is the one the day lies in; `yoe_eq` brings the formula to this form -/
theorem yoc_tight (r e h a : Nat) (he : e ≤ 3) (hr : r ≤ 36523)
    (hh : h = (24 * e + r) / 1460) (ha : a = (r - h) / 365) :
    365 * a + a / 4 ≤ r ∧ r < 365 * (a + 1) + (a + 1) / 4 ∧ a ≤ 99 := by
  omega

/-- Hinnant's year of the era is the year the day lies in -/
theorem yoe_tight (doe yoe : Nat) (h : doe ≤ 146096)
    (hy : yoe = (doe - doe / 1460 + doe / 36524 - doe / 146096) / 365) :
    marchDays yoe ≤ doe ∧ doe < marchDays (yoe + 1) ∧ yoe ≤ 399 := by
  have key : 365 * yoe + yoe / 4 - yoe / 100 ≤ doe ∧
      (doe < 365 * (yoe + 1) + (yoe + 1) / 4 - (yoe + 1) / 100 ∨ yoe = 399) ∧ yoe ≤ 399 := by
    by_cases hd : doe = 146096
    · subst hd; subst hy; decide
    · have hle : doe ≤ 146095 := by omega
      rw [yoe_eq doe hle] at hy
      have he : doe / 36524 ≤ 3 := by omega
      have hr : doe % 36524 ≤ 36523 := by omega
      have hdoe : doe = 36524 * (doe / 36524) + doe % 36524 := (Nat.div_add_mod _ _).symm
      generalize doe / 36524 = e at *
      generalize doe % 36524 = r at *
      have := yoc_tight r e _ _ he hr rfl rfl
      omega
  obtain ⟨k1, k2, k3⟩ := key
  refine ⟨?_, ?_, k3⟩
  · rw [marchDays, Nat.div_eq_of_lt (Nat.lt_succ_of_le k3)]; exact k1
  · rcases k2 with k2 | rfl
    · exact Nat.lt_of_lt_of_le k2 (Nat.le_add_right _ _)
    · exact Nat.lt_succ_of_le h

/-- month `mp` of the March year (0 is March, 11 is February) as 1 to 12 -/
def monthOf (mp : Nat) : Nat := if mp < 10 then mp + 3 else mp - 9

theorem civil_eq (z : Int) (hz : 0 ≤ z + 719468) :
    ∃ (era : Int) (doe yoe doy mp : Nat), 0 ≤ era ∧ z + 719468 = era * 146097 + doe ∧
      doe ≤ 146096 ∧ yoe = (doe - doe / 1460 + doe / 36524 - doe / 146096) / 365 ∧
      doy = doe - (365 * yoe + yoe / 4 - yoe / 100) ∧ mp = (5 * doy + 2) / 153 ∧
      civilFromDays z =
        ((if monthOf mp ≤ 2 then (yoe : Int) + era * 400 + 1 else (yoe : Int) + era * 400),
          monthOf mp, doy - (153 * mp + 2) / 5 + 1) := by
  refine ⟨(z + 719468) / 146097, ((z + 719468) - (z + 719468) / 146097 * 146097).toNat, _, _, _,
    by omega, by omega, by omega, rfl, rfl, rfl, ?_⟩
  have hz' : z + 719468 ≥ 0 := hz
  unfold civilFromDays
  simp only [if_pos hz']
  rfl

theorem monthOf_range {mp : Nat} (h : mp ≤ 11) :
    1 ≤ monthOf mp ∧ monthOf mp ≤ 12 ∧ (monthOf mp ≤ 2 ↔ 10 ≤ mp) := by
  unfold monthOf; split <;> omega

/-- `(153 * mp + 2) / 5` is the first day of month `mp` in the March year -/
theorem month_iff (doy mp : Nat) :
    mp = (5 * doy + 2) / 153 ↔ (153 * mp + 2) / 5 ≤ doy ∧ doy < (153 * (mp + 1) + 2) / 5 := by
  omega

theorem monthOf_0 : monthOf 0 = 3 := rfl
theorem monthOf_1 : monthOf 1 = 4 := rfl
theorem monthOf_2 : monthOf 2 = 5 := rfl
theorem monthOf_3 : monthOf 3 = 6 := rfl
theorem monthOf_4 : monthOf 4 = 7 := rfl
theorem monthOf_5 : monthOf 5 = 8 := rfl
theorem monthOf_6 : monthOf 6 = 9 := rfl
theorem monthOf_7 : monthOf 7 = 10 := rfl
theorem monthOf_8 : monthOf 8 = 11 := rfl
theorem monthOf_9 : monthOf 9 = 12 := rfl

/-- the lengths of the months are the differences of the 153-day formula, February apart -/
theorem daysInMonth_monthOf (y : Nat) {mp : Nat} (h : mp ≤ 11) :
    daysInMonth y (monthOf mp) =
      if mp = 11 then 28 + lbit y else (153 * (mp + 1) + 2) / 5 - (153 * mp + 2) / 5 := by
  have : mp = 0 ∨ mp = 1 ∨ mp = 2 ∨ mp = 3 ∨ mp = 4 ∨ mp = 5 ∨ mp = 6 ∨ mp = 7 ∨ mp = 8 ∨
      mp = 9 ∨ mp = 10 ∨ mp = 11 := by omega
  rcases this with rfl | rfl | rfl | rfl | rfl | rfl | rfl | rfl | rfl | rfl | rfl | rfl
  -- `mp = 11`, February
  case inr.inr.inr.inr.inr.inr.inr.inr.inr.inr.inr =>
    show (if isLeap y then 29 else 28) = 28 + lbit y
    unfold lbit; split <;> rfl
  all_goals rfl

theorem daysBeforeMonth_succ (y : Nat) {m : Nat} (h : 1 ≤ m) :
    daysBeforeMonth y (m + 1) = daysBeforeMonth y m + daysInMonth y m := by
  cases m with
  | zero => omega
  | succ m => rfl

theorem daysBeforeMonth_monthOf (Y : Nat) {mp : Nat} (h : mp ≤ 9) :
    daysBeforeMonth Y (monthOf mp) = 59 + lbit Y + (153 * mp + 2) / 5 := by
  induction mp with
  | zero =>
    -- before March lie the months 10 and 11 of the March year before
    show 0 + daysInMonth Y (monthOf 10) + daysInMonth Y (monthOf 11) = _
    rw [daysInMonth_monthOf Y (by decide), daysInMonth_monthOf Y (by decide)]; simp; omega
  | succ mp ih =>
    have e : monthOf (mp + 1) = monthOf mp + 1 := by unfold monthOf; split <;> split <;> omega
    rw [e, daysBeforeMonth_succ Y (monthOf_range (by omega)).1, ih (by omega),
      daysInMonth_monthOf Y (by omega), if_neg (by omega)]
    omega

/-- the date of day `doy` of the March year `Y`, as `civilFromDays` computes it -/
def marchDate (Y doy : Nat) : Nat × Nat × Nat :=
  let mp := (5 * doy + 2) / 153
  (if monthOf mp ≤ 2 then Y + 1 else Y, monthOf mp, doy - (153 * mp + 2) / 5 + 1)

theorem dayNumber_march (Y d : Nat) {mp : Nat} (h : mp ≤ 11) :
    dayNumber (if monthOf mp ≤ 2 then Y + 1 else Y) (monthOf mp) d + 719469 =
      ((marchDays Y + (153 * mp + 2) / 5 + d : Nat) : Int) := by
  have hY := daysBeforeYear_march Y
  unfold dayNumber epochDay
  by_cases h9 : mp ≤ 9
  · rw [if_neg (by have := monthOf_range h; omega), daysBeforeMonth_monthOf Y h9]; omega
  · have hm : mp = 10 ∨ mp = 11 := by omega
    rw [if_pos (by have := monthOf_range h; omega), daysBeforeYear, daysInYear_eq]
    rcases hm with rfl | rfl
    · show ((_ + 0 + d : Nat) : Int) - 1 - _ + _ = _; omega
    · show ((_ + (0 + daysInMonth (Y + 1) (monthOf 10)) + d : Nat) : Int) - 1 - _ + _ = _
      rw [daysInMonth_monthOf _ (by decide)]; simp; omega

theorem marchDate_spec {Y doy y m d : Nat} (h : doy < 365 + lbit (Y + 1))
    (e : marchDate Y doy = (y, m, d)) :
    ValidDate y m d ∧ FromMarch0 y m ∧
      dayNumber y m d + 719468 = ((marchDays Y + doy : Nat) : Int) := by
  have hl := lbit_le (Y + 1)
  simp only [marchDate, Prod.mk.injEq] at e
  obtain ⟨rfl, rfl, rfl⟩ := e
  generalize hmp : (5 * doy + 2) / 153 = mp
  have hmp11 : mp ≤ 11 := by omega
  obtain ⟨m1, m2, m3⟩ := monthOf_range hmp11
  obtain ⟨f1, f2⟩ := (month_iff doy mp).1 hmp.symm
  clear hmp
  have hn := dayNumber_march Y (doy - (153 * mp + 2) / 5 + 1) hmp11
  have hd := daysInMonth_monthOf (if monthOf mp ≤ 2 then Y + 1 else Y) hmp11
  refine ⟨⟨m1, m2, by omega, ?_⟩, ?_, by omega⟩
  · show _ ≤ daysInMonth _ _
    rw [hd]
    split
    · rw [if_pos (by omega)]; omega
    · omega
  · show _ < _ ∨ _
    split <;> omega

theorem marchDate_surj (y m d : Nat) (hv : ValidDate y m d) (hr : FromMarch0 y m) :
    ∃ Y doy, doy < 365 + lbit (Y + 1) ∧ marchDate Y doy = (y, m, d) := by
  obtain ⟨hm1, hm2, hd1, hd2⟩ := hv
  have key : ∃ Y mp, mp ≤ 11 ∧ y = (if monthOf mp ≤ 2 then Y + 1 else Y) ∧ m = monthOf mp := by
    by_cases hm : m ≤ 2
    · have hy : 0 < y := by rcases hr with h | h <;> omega
      have e : monthOf (m + 9) = m := by unfold monthOf; split <;> omega
      exact ⟨y - 1, m + 9, by omega, by rw [e, if_pos hm]; omega, e.symm⟩
    · have e : monthOf (m - 3) = m := by unfold monthOf; split <;> omega
      exact ⟨y, m - 3, by omega, by rw [e, if_neg hm], e.symm⟩
  obtain ⟨Y, mp, hmp, rfl, rfl⟩ := key
  rw [daysInMonth_monthOf _ hmp] at hd2
  -- the day lies inside month `mp` and inside the March year
  have hb : (153 * mp + 2) / 5 + d - 1 < (153 * (mp + 1) + 2) / 5 ∧
      (153 * mp + 2) / 5 + d - 1 < 365 + lbit (Y + 1) := by
    split at hd2
    · subst mp; rw [if_pos (by decide)] at hd2; have := lbit_le (Y + 1); omega
    · omega
  have hmp' := (month_iff _ mp).2 ⟨by omega, hb.1⟩
  refine ⟨Y, (153 * mp + 2) / 5 + d - 1, hb.2, ?_⟩
  unfold marchDate
  rw [← hmp']
  refine Prod.ext rfl (Prod.ext rfl ?_)
  show _ - _ + 1 = d
  omega

theorem civil_march (z : Int) (hz : 0 ≤ z + 719468) :
    ∃ Y doy : Nat, z + 719468 = ((marchDays Y + doy : Nat) : Int) ∧ doy < 365 + lbit (Y + 1) ∧
      civilFromDays z = (((marchDate Y doy).1 : Int), (marchDate Y doy).2) := by
  obtain ⟨era, doe, yoe, doy, mp, hera, hzz, hd, hy, hdy, hmp, hc⟩ := civil_eq z hz
  obtain ⟨era, rfl⟩ := Int.eq_ofNat_of_zero_le hera
  obtain ⟨t1, t2, t3⟩ := yoe_tight doe yoe hd hy
  have e0 := marchDays_era era yoe
  have e1 : marchDays (400 * era + yoe + 1) = _ := marchDays_era era (yoe + 1)
  have s := marchDays_succ (400 * era + yoe)
  have hE : marchDays yoe = 365 * yoe + yoe / 4 - yoe / 100 := by
    rw [marchDays, Nat.div_eq_of_lt (Nat.lt_succ_of_le t3)]; rfl
  rw [← hE] at hdy
  clear hE hy
  refine ⟨400 * era + yoe, doy, by omega, by omega, ?_⟩
  rw [hc, marchDate, ← hmp]
  refine Prod.ext ?_ rfl
  show _ = ((if monthOf mp ≤ 2 then _ else _ : Nat) : Int)
  split <;> omega

theorem civilFromDays_valid (z : Int) (hz : 0 ≤ z + 719468) :
    ∃ y m d : Nat, civilFromDays z = ((y : Int), m, d) ∧ ValidDate y m d ∧ FromMarch0 y m := by
  obtain ⟨Y, doy, _, hdoy, hc⟩ := civil_march z hz
  obtain ⟨hv, hr, _⟩ := marchDate_spec hdoy rfl
  exact ⟨_, _, _, hc, hv, hr⟩

theorem dayNumber_civilFromDays (z : Int) (hz : 0 ≤ z + 719468) :
    dayNumber (civilFromDays z).1.toNat (civilFromDays z).2.1 (civilFromDays z).2.2 = z := by
  obtain ⟨Y, doy, hZ, hdoy, hc⟩ := civil_march z hz
  obtain ⟨_, _, hn⟩ := marchDate_spec hdoy rfl
  rw [hc]
  show dayNumber (Int.toNat ((marchDate Y doy).1 : Int)) _ _ = z
  rw [Int.toNat_natCast]
  exact (Int.add_left_inj _).1 (hn.trans hZ.symm)

theorem civilFromDays_dayNumber (y m d : Nat) (hv : ValidDate y m d) (hr : FromMarch0 y m) :
    civilFromDays (dayNumber y m d) = ((y : Int), m, d) := by
  obtain ⟨Y, doy, hdoy, hp⟩ := marchDate_surj y m d hv hr
  obtain ⟨_, _, hn⟩ := marchDate_spec hdoy hp
  obtain ⟨Y', doy', hZ, hdoy', hc⟩ := civil_march (dayNumber y m d) (by rw [hn]; exact Int.natCast_nonneg _)
  obtain ⟨rfl, rfl⟩ := march_unique hdoy' hdoy (by omega)
  rw [hc, hp]

end Yae

#print axioms Yae.civilFromDays_dayNumber
#print axioms Yae.civilFromDays_valid
#print axioms Yae.dayNumber_civilFromDays
