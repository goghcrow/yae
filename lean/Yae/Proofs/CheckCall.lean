/- `check` run forwards, one node at a time, for concrete programs: what a node returns given what its parts
   return.  An environment or a large table is consulted in one hypothesis, the rest does not mention it; a
   witness module puts `check` of its program together from these instead of evaluating it as a whole. -/
import Yae.Model.Check
namespace Yae

/-- Every reserved word has at least two bytes: one pass over the list serves every one-byte name. -/
theorem reserved_long : ∀ w ∈ reservedWords, 2 ≤ w.utf8ByteSize := by decide +kernel

theorem notReserved_short {x : String} (hx : x.utf8ByteSize = 1) : reservedWords.contains x = false := by
  cases h : reservedWords.contains x with
  | false => rfl
  | true =>
    have := reserved_long x (List.contains_iff_mem.1 h)
    omega

theorem check_ident {Γ : TEnv} {c : Nat} {p : Pos} {x : String} {T : Ty}
    (hr : Γ.reserved.contains x = false) (hv : Γ.lookupVar x = some T) :
    check Γ c (.ident p x) = .ok (T, .ident p x, c) := by
  simp only [check, hr, hv, bind, Except.bind, pure, Except.pure, Bool.false_eq_true, if_false]

theorem checkElems_nil {Γ : TEnv} {c : Nat} {T : Ty} : checkElems Γ c T .nil = .ok (.nil, c) := by
  simp only [checkElems, pure, Except.pure]

theorem checkElems_cons {Γ : TEnv} {c c1 c2 : Nat} {e e' : Expr} {es es' : ExprList} {T T' : Ty}
    (h1 : check Γ c e = .ok (T', e', c1)) (ht : tyEq T T' = true)
    (h2 : checkElems Γ c1 T es = .ok (es', c2)) :
    checkElems Γ c T (.cons e es) = .ok (.cons e' es', c2) := by
  simp only [checkElems, h1, typeAssert, ht, h2, bind, Except.bind, pure, Except.pure, if_true]

theorem check_list {Γ : TEnv} {c c1 c2 : Nat} {p : Pos} {e e' : Expr} {es es' : ExprList} {ty : Option Ty}
    {T : Ty} (h1 : check Γ c e = .ok (T, e', c1)) (h2 : checkElems Γ c1 T es = .ok (es', c2)) :
    check Γ c (.list p (.cons e es) ty) = .ok (.list T, .list p (.cons e' es') (some (.list T)), c2) := by
  simp only [check, h1, h2, bind, Except.bind, pure, Except.pure]

theorem checkArgs_cons {Γ : TEnv} {c c1 c2 : Nat} {e e' : Expr} {es es' : ExprList} {T : Ty} {Ts : TyList}
    (h1 : check Γ c e = .ok (T, e', c1)) (h2 : checkArgs Γ c1 es = .ok (Ts, es', c2)) :
    checkArgs Γ c (.cons e es) = .ok (.cons T Ts, .cons e' es', c2) := by
  simp only [checkArgs, h1, h2, bind, Except.bind, pure, Except.pure]

theorem checkArgs_nil {Γ : TEnv} {c : Nat} : checkArgs Γ c .nil = .ok (.nil, .nil, c) := by
  simp only [checkArgs, pure, Except.pure]

/-- resolved to the first polymorphic candidate.  The keys are computed texts: `kmono`, `kpoly` let a caller
name them by their literals. -/
theorem check_call_poly {Γ : TEnv} {ctr : Nat} {fname : String} {args : ExprList}
    {argTys : TyList} {args' : ExprList} {ctr1 : Nat}
    (hargs : checkArgs Γ ctr args = .ok (argTys, args', ctr1)) {kmono kpoly : String}
    (hk1 : (overloadKey fname argTys .bot).1 = kmono) (hmono : lookupMono Γ.funs kmono = none)
    {d : FunDecl} {rest : List FunDecl} {name : String} {ps : TyList} {ret : Ty}
    (hk2 : "∀.λ " ++ fname ++ " " ++ toString argTys.length = kpoly)
    (hpoly : lookupPoly Γ.funs kpoly = d :: rest) (hd : d.ty = .fn name ps ret)
    {ps' : TyList} {ret' : Ty}
    (hinf : inferFun (ctr1 + 1) name ps ret argTys = .ok (ps', ret'))
    (hlen : (ps'.length != argTys.length) = false)
    (hassert : assertParams ps' argTys = .ok ())
    (p : Pos) (col : Int) (cp : Pos) (cty : Option Ty) (res : String) (idx : Int) :
    check Γ ctr (.call p col (.ident cp fname) args cty res idx) =
      .ok (ret', .call p col (.ident cp fname) args' (some (.fn name ps' ret')) kpoly 0,
        ctr1 + 1 + argTys.length + 1) := by
  simp only [check, hargs, resolveOverloadedFun, hk1, hmono, hk2, hpoly, tryPoly, hd, hinf, liftU,
    hlen, hassert, bind, Except.bind, pure, Except.pure, List.isEmpty_cons, Bool.false_eq_true,
    if_false]
  rfl

theorem check_call_mono {Γ : TEnv} {ctr : Nat} {fname : String} {args : ExprList}
    {argTys : TyList} {args' : ExprList} {ctr1 : Nat}
    (hargs : checkArgs Γ ctr args = .ok (argTys, args', ctr1)) {kmono : String}
    (hk : (overloadKey fname argTys .bot).1 = kmono)
    {d : FunDecl} {name : String} {ps : TyList} {ret : Ty}
    (hmono : lookupMono Γ.funs kmono = some d) (hd : d.ty = .fn name ps ret)
    (hlen : (ps.length != argTys.length) = false)
    (hassert : assertParams ps argTys = .ok ())
    (p : Pos) (col : Int) (cp : Pos) (cty : Option Ty) (res : String) (idx : Int) :
    check Γ ctr (.call p col (.ident cp fname) args cty res idx) =
      .ok (ret, .call p col (.ident cp fname) args' (some (.fn name ps ret)) kmono (-1), ctr1) := by
  simp only [check, hargs, resolveOverloadedFun, hk, hmono, hd, hlen, hassert,
    bind, Except.bind, pure, Except.pure, Bool.false_eq_true, if_false]

end Yae

#print axioms Yae.reserved_long
#print axioms Yae.notReserved_short
#print axioms Yae.check_ident
#print axioms Yae.checkElems_nil
#print axioms Yae.checkElems_cons
#print axioms Yae.check_list
#print axioms Yae.check_call_poly
#print axioms Yae.check_call_mono
#print axioms Yae.checkArgs_cons
#print axioms Yae.checkArgs_nil
