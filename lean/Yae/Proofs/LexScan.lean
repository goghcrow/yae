/-
  Deterministic scanners against the reference matcher `Re.m`.  `Scans a f q`: the scanner `f` IS the backtracking
  matcher of `a` in front of every continuation `k` that succeeds on what `f` leaves or rejects every input starting
  with a character of `q` (what `f` could have given back); when `f` fails the matcher fails whatever `k` is.  The
  notion is closed under the constructors of `Re` (`Scans.cat`, `.alt`, `.opt`, `.plus`; `[c]*` and `[c]+` are the
  loop of the one-character scanner), each with a condition on first characters (`Starts`), so the proof for a
  pattern of the lexer is the syntax tree of its expression followed by one equation: the recogniser of the model is
  the composed scanner.  Where several prefixes of the input are in the language the PRIORITIES matter: the greedy
  choice is the leftmost-first one exactly under the condition on `k`.
-/
import Yae.Proofs.LexRegexBase
import Yae.Proofs.ListLemmas
namespace Yae
namespace Re

variable {β : Type}

/-! Rewriting with these leaves the sub-expressions folded, so that the lemmas about them apply. -/

theorem m_cat (a b : Re) (s : List Char) (k : List Char → Option β) :
    (cat a b).m s k = a.m s (fun s' => b.m s' k) := by simp only [Re.m]
theorem m_alt (a b : Re) (s : List Char) (k : List Char → Option β) :
    (alt a b).m s k = orElse (a.m s k) (fun _ => b.m s k) := by simp only [Re.m]
theorem m_grp (a : Re) (s : List Char) (k : List Char → Option β) :
    (grp a).m s k = a.m s k := by simp only [Re.m]
theorem m_opt (a : Re) (s : List Char) (k : List Char → Option β) :
    (opt a).m s k = orElse (a.m s k) (fun _ => k s) := by simp only [Re.m]
theorem m_star (a : Re) (s : List Char) (k : List Char → Option β) :
    (star a).m s k = orElse (plusM a.m s k) (fun _ => k s) := by simp only [Re.m]
theorem m_plus (a : Re) (s : List Char) (k : List Char → Option β) :
    (plus a).m s k = plusM a.m s k := by simp only [Re.m]

theorem skipWhile_pos {p : Char → Bool} {c : Char} (t : List Char) (h : p c = true) :
    skipWhile p (c :: t) = ((skipWhile p t).1 + 1, (skipWhile p t).2) := by
  simp [skipWhile, h]

theorem skipWhile_neg {p : Char → Bool} {c : Char} (t : List Char) (h : p c = false) :
    skipWhile p (c :: t) = (0, c :: t) := by
  simp [skipWhile, h]

theorem skipWhile_rest_nil (p : Char → Bool) (s : List Char) :
    (skipWhile p s).2 = [] ↔ s.all p = true := by
  induction s with
  | nil => simp [skipWhile]
  | cons c t ih =>
    cases hc : p c
    · simp [skipWhile_neg t hc, hc]
    · simp [skipWhile_pos t hc, hc, ih]

def Rejects (p : Char → Bool) (k : List Char → Option β) : Prop :=
  ∀ c t, p c = true → k (c :: t) = none

/-- The condition under which a scanner that could have given back characters of `p`, and stopped with `r` left,
made the leftmost-first choice: the continuation succeeds on `r`, or giving back cannot help. -/
def OK (p : Char → Bool) (k : List Char → Option β) (r : List Char) : Prop :=
  (k r).isSome = true ∨ Rejects p k

theorem OK.mono {p q : Char → Bool} {k : List Char → Option β} {r : List Char} (h : OK p k r)
    (hqp : ∀ c, q c = true → p c = true) : OK q k r :=
  h.imp id fun h c t hc => h c t (hqp c hc)

theorem orElse_ok {p : Char → Bool} {k : List Char → Option β} {r : List Char} (h : OK p k r)
    {c : Char} (t : List Char) (hc : p c = true) : orElse (k r) (fun _ => k (c :: t)) = k r := by
  rcases h with h | h
  · exact orElse_of_isSome _ h
  · rw [h c t hc]; exact orElse_none_right _

abbrev Scanner := List Char → Option (Nat × List Char)

def Starts (f : Scanner) (h : Char → Bool) : Prop := ∀ s, NoHead h s → f s = none

theorem Starts.fails {f : Scanner} {h : Char → Bool} (hf : Starts f h) {c : Char} (hc : h c = false)
    (t : List Char) : f (c :: t) = none := hf _ (NoHead.cons t hc)

theorem Starts.head {f : Scanner} {h : Char → Bool} (hf : Starts f h) {s : List Char} (hs : f s ≠ none) :
    ∃ c t, s = c :: t ∧ h c = true := by
  cases s with
  | nil => exact absurd (hf [] (NoHead.nil h)) hs
  | cons c t =>
    cases hc : h c
    · exact absurd (hf.fails hc t) hs
    · exact ⟨c, t, rfl, hc⟩

theorem Starts.congr {f g : Scanner} {h : Char → Bool} (hf : Starts f h) (hfg : ∀ s, g s = f s) :
    Starts g h := fun s hs => (hfg s).trans (hf s hs)

def sChar (p : Char → Bool) : Scanner
  | c :: t => if p c = true then some (1, t) else none
  | [] => none

def sCat (f g : Scanner) : Scanner := fun s =>
  match f s with
  | none => none
  | some (n, r) =>
    match g r with
    | none => none
    | some (m, r') => some (n + m, r')

def sAlt (f g : Scanner) : Scanner := fun s =>
  match f s with
  | none => g s
  | some x => some x

def sOpt (f : Scanner) : Scanner := fun s =>
  match f s with
  | none => some (0, s)
  | some x => some x

def sIter1 (f : Scanner) : Scanner := fun s =>
  match f s with
  | none => none
  | some (n, r) => some (n + (reStar f r.length r).1, (reStar f r.length r).2)

def sStar (p : Char → Bool) : Scanner := fun s => some (skipWhile p s)

def sPlus (p : Char → Bool) : Scanner := fun s =>
  match skipWhile p s with
  | (0, _) => none
  | (n, r) => some (n, r)

theorem reStar_none {f : Scanner} {s : List Char} (hf : f s = none) (fuel : Nat) :
    reStar f fuel s = (0, s) := by
  cases fuel <;> simp [reStar, hf]

theorem reStar_length {f : Scanner} (hf : ∀ s n r, f s = some (n, r) → n + r.length = s.length) :
    ∀ fuel s, (reStar f fuel s).1 + (reStar f fuel s).2.length = s.length := by
  intro fuel
  induction fuel with
  | zero => intro s; exact Nat.zero_add _
  | succ fuel ih =>
    intro s
    simp only [reStar]
    cases h : f s with
    | none => exact Nat.zero_add _
    | some x => have := hf s x.1 x.2 h; have := ih x.2; dsimp only; omega

theorem reStar_sChar (p : Char → Bool) :
    ∀ fuel s, s.length ≤ fuel → reStar (sChar p) fuel s = skipWhile p s := by
  intro fuel
  induction fuel with
  | zero =>
    intro s h
    cases s with
    | nil => rfl
    | cons c t => simp at h
  | succ fuel ih =>
    intro s h
    cases s with
    | nil => rfl
    | cons c t =>
      cases hc : p c
      · simp [reStar, sChar, hc, skipWhile_neg t hc]
      · simp [reStar, sChar, hc, skipWhile_pos t hc, ih t (by simpa using h), Nat.add_comm]

theorem sPlus_eq (p : Char → Bool) (s : List Char) : sPlus p s = sIter1 (sChar p) s := by
  cases s with
  | nil => rfl
  | cons c t =>
    cases hc : p c
    · simp [sPlus, sIter1, sChar, hc, skipWhile_neg t hc]
    · simp [sPlus, sIter1, sChar, hc, skipWhile_pos t hc, reStar_sChar p _ t (Nat.le_refl _), Nat.add_comm]

theorem starts_char (p : Char → Bool) : Starts (sChar p) p := by
  intro s hs
  cases s with
  | nil => rfl
  | cons c t => simp [sChar, hs c t rfl]

theorem Starts.cat {f : Scanner} {h : Char → Bool} (hf : Starts f h) (g : Scanner) :
    Starts (sCat f g) h := fun s hs => by simp [sCat, hf s hs]

theorem Starts.iter1 {f : Scanner} {h : Char → Bool} (hf : Starts f h) : Starts (sIter1 f) h :=
  fun s hs => by simp [sIter1, hf s hs]

theorem starts_plus (p : Char → Bool) : Starts (sPlus p) p := (starts_char p).iter1.congr (sPlus_eq p)

theorem Starts.optCat {f g : Scanner} {h h' : Char → Bool} (hf : Starts f h) (hg : Starts g h') :
    Starts (sCat (sOpt f) g) (fun c => h c || h' c) := fun s hs => by
  simp [sCat, sOpt, hf s (hs.mono fun _ h => by simp [h]), hg s (hs.mono fun _ h => by simp [h])]

def Scans (a : Re) (f : Scanner) (q : Char → Bool) : Prop :=
  ∀ (β : Type) (s : List Char) (k : List Char → Option β),
    match f s with
    | none => a.m s k = none
    | some x => x.1 + x.2.length = s.length ∧ (OK q k x.2 → a.m s k = k x.2)

namespace Scans

variable {a b : Re} {f g : Scanner} {q q' qa qb h h1 h2 : Char → Bool}

theorem m_none (ha : Scans a f q) {s : List Char} (hf : f s = none) (k : List Char → Option β) :
    a.m s k = none := by
  have := ha β s k; rw [hf] at this; exact this

theorem m_some (ha : Scans a f q) {s r : List Char} {n : Nat} (hf : f s = some (n, r))
    {k : List Char → Option β} (hk : OK q k r) : a.m s k = k r := by
  have := ha β s k; rw [hf] at this; exact this.2 hk

theorem length (ha : Scans a f q) {s r : List Char} {n : Nat} (hf : f s = some (n, r)) :
    n + r.length = s.length := by
  have := ha Unit s (fun _ => none); rw [hf] at this; exact this.1

theorem congr (ha : Scans a f q) (hfg : ∀ s, g s = f s) : Scans a g q := by
  obtain rfl : g = f := funext hfg
  exact ha

theorem mono (ha : Scans a f q) (hq : ∀ c, q c = true → q' c = true) : Scans a f q' := fun β s k => by
  cases hf : f s with
  | none => exact ha.m_none hf k
  | some x => exact ⟨ha.length hf, fun hk => ha.m_some hf (hk.mono hq)⟩

/-- For an expression with the same matcher (`(?:a)`; `a*`, which is `(?:a+)?`). -/
theorem of_m (ha : Scans a f q) (hm : ∀ (β : Type) s (k : List Char → Option β), b.m s k = a.m s k) :
    Scans b f q := fun β s k => by
  rw [hm]; exact ha β s k

theorem grp (ha : Scans a f q) : Scans (Re.grp a) f q := ha.of_m fun _ => m_grp a

theorem char {p : Char → Bool} (ha : IsChar a p) : Scans a (sChar p) q := fun β s k => by
  rw [ha]
  cases s with
  | nil => rfl
  | cons c t => cases hc : p c <;> simp [sChar, hc, Nat.add_comm]

theorem cat (ha : Scans a f qa) (hb : Scans b g q) (hd : ∀ c t, qa c = true → g (c :: t) = none) :
    Scans (Re.cat a b) (sCat f g) q := fun β s k => by
  rw [m_cat]
  simp only [sCat]
  cases hf : f s with
  | none => exact ha.m_none hf _
  | some x =>
    obtain ⟨n, r⟩ := x
    rw [ha.m_some hf (.inr fun c t hc => hb.m_none (hd c t hc) k)]
    dsimp only
    cases hg : g r with
    | none => exact hb.m_none hg k
    | some y => exact ⟨by have := ha.length hf; have := hb.length hg; dsimp only; omega, hb.m_some hg⟩

/-- `ab` where `b` is optional or a loop: it never fails and takes nothing of what `a` could give back, so
the continuation has to reject that as well. -/
theorem catSkip (ha : Scans a f qa) (hb : Scans b g qb) (hg : ∀ s, g s ≠ none)
    (hd : ∀ c t, qa c = true → g (c :: t) = some (0, c :: t)) (hqa : ∀ c, qa c = true → q c = true)
    (hqb : ∀ c, qb c = true → q c = true) : Scans (Re.cat a b) (sCat f g) q := fun β s k => by
  rw [m_cat]
  simp only [sCat]
  cases hf : f s with
  | none => exact ha.m_none hf _
  | some x =>
    obtain ⟨n, r⟩ := x
    dsimp only
    cases hg' : g r with
    | none => exact absurd hg' (hg _)
    | some y =>
      refine ⟨by have := ha.length hf; have := hb.length hg'; dsimp only; omega, fun hk => ?_⟩
      have eb : b.m r k = k y.2 := hb.m_some hg' (hk.mono hqb)
      rw [ha.m_some hf, eb]
      rcases hk with hk | hk
      · exact .inl (by dsimp only; rw [eb]; exact hk)
      · exact .inr fun c t hc =>
          (hb.m_some (hd c t hc) (.inr fun c t hc => hk c t (hqb c hc))).trans (hk c t (hqa c hc))

theorem cons {p : Char → Bool} (ha : IsChar a p) (hb : Scans b g q) :
    Scans (Re.cat a b) (sCat (sChar p) g) q :=
  (char (q := fun _ => false) ha).cat hb nofun

theorem alt (ha : Scans a f q) (hb : Scans b g q) (hf : Starts f h1) (hg : Starts g h2)
    (hd : ∀ c, h1 c = true → h2 c = false) : Scans (Re.alt a b) (sAlt f g) q := fun β s k => by
  rw [m_alt]
  simp only [sAlt]
  cases hfs : f s with
  | none => rw [ha.m_none hfs, orElse_none]; exact hb β s k
  | some x =>
    refine ⟨ha.length hfs, fun hk => ?_⟩
    obtain ⟨c, t, rfl, hc⟩ := hf.head (s := s) (by simp [hfs])
    rw [ha.m_some hfs hk, hb.m_none (hg.fails (hd c hc) t)]
    exact orElse_none_right _

/-- `a?`: the match without `a` starts with a first character of `a`. -/
theorem opt (ha : Scans a f q) (hf : Starts f h) : Scans (Re.opt a) (sOpt f) (fun c => q c || h c) :=
  fun β s k => by
    rw [m_opt]
    simp only [sOpt]
    cases hfs : f s with
    | none => rw [ha.m_none hfs]; exact ⟨Nat.zero_add _, fun _ => rfl⟩
    | some x =>
      refine ⟨ha.length hfs, fun hk => ?_⟩
      obtain ⟨c, t, rfl, hc⟩ := hf.head (s := s) (by simp [hfs])
      rw [ha.m_some hfs (hk.mono fun _ h => by simp [h])]
      exact orElse_ok hk t (by simp [hc])

/-- On a word `u` of `a` followed by a `rest` that does not start in `q`, the scanner consumes exactly `u`: the matcher
cannot fail in front of the continuation that accepts `rest` and nothing else, and `rest` is not what the scanner
could have given back. -/
theorem append (ha : Scans a f q) {u : List Char} (hu : Matches a u) {rest : List Char}
    (hr : NoHead q rest) : f (u ++ rest) = some (u.length, rest) := by
  let k : List Char → Option Unit := fun r => if r = rest then some () else none
  have hk : Rejects q k := fun c t hc => if_neg (by rintro rfl; rw [hr c t rfl] at hc; cases hc)
  have hne : a.m (u ++ rest) k ≠ none := fun h0 =>
    absurd (m_complete a _ _ h0 u rest rfl hu) (by simp [k])
  cases hf : f (u ++ rest) with
  | none => exact absurd (ha.m_none hf k) hne
  | some x =>
    obtain ⟨n, r⟩ := x
    rw [ha.m_some hf (.inr hk)] at hne
    obtain rfl : r = rest := by
      by_cases e : r = rest
      · exact e
      · exact absurd (if_neg e) hne
    have := ha.length hf
    rw [List.length_append] at this
    rw [show n = u.length by omega]

/-- a word of `a` is not empty and starts in `h` -/
theorem head (ha : Scans a f q) (hf : Starts f h) {u : List Char} (hu : Matches a u) :
    ∃ c t, u = c :: t ∧ h c = true :=
  hf.head (s := u) (by have := ha.append hu (NoHead.nil q); rw [List.append_nil] at this; simp [this])

/-- A word of `a` starts in `h` (`head`), so it is not empty: a scan that succeeds consumes something. -/
theorem pos (ha : Scans a f q) (hf : Starts f h) {s r : List Char} {n : Nat}
    (hfs : f s = some (n, r)) : 0 < n := by
  have hm : a.m s (fun r => some r) = some r := ha.m_some hfs (.inl rfl)
  obtain ⟨u, v, rfl, hu, hv⟩ := m_sound a _ _ _ hm
  obtain rfl : v = r := Option.some.inj hv
  obtain ⟨c, t, rfl, _⟩ := ha.head hf hu
  have hl := ha.length hfs
  simp only [List.length_append, List.length_cons] at hl
  omega

/-- In front of a continuation that rejects what `a` gives back and the first characters of `a`, the loop
fails on what `a` gives back: no further iteration starts there. -/
theorem loop_rejected (ha : Scans a f q) (hf : Starts f h) (hd : ∀ c, q c = true → h c = false)
    {k : List Char → Option β} (hk : Rejects (fun c => q c || h c) k) (n : Nat) {c : Char}
    (t : List Char) (hc : q c = true) : Re.loop a.m k n (c :: t) = none := by
  cases n with
  | zero => rfl
  | succ n =>
    simp only [Re.loop]
    rw [ha.m_none (hf.fails (hd c hc) t), hk c t (by simp [hc])]
    rfl

/-- The call of `a.m` that `Re.loop` and `plusM` have in common: one iteration from `s`, in front of "go on with
the loop if the rest is shorter than `s`, otherwise `e`".  `N s'` is the fuel the loop gets on the rest `s'`
(`fun _ => n` in the body of `Re.loop`, `·.length + 1` in `plusM`); `e` is what is done with a rest that is not
shorter (`none` in `Re.loop`; `k` in `plusM`, whose first iteration leaves the loop when it consumed nothing).  Of `e`
only `he` is asked: where `k` rejects, `e` rejects what `a` could give back. -/
theorem step (ha : Scans a f q) (hf : Starts f h) (hd : ∀ c, q c = true → h c = false)
    {s r R : List Char} {m : Nat} (hfs : f s = some (m, r))
    {k e : List Char → Option β} {N : List Char → Nat} (hr : Re.loop a.m k (N r) r = k R)
    (hok : OK (fun c => q c || h c) k R) (he : Rejects (fun c => q c || h c) k → Rejects q e) :
    a.m s (fun s' => if s'.length < s.length then Re.loop a.m k (N s') s' else e s') = k R := by
  have hlt : r.length < s.length := by have := ha.pos hf hfs; have := ha.length hfs; omega
  rw [ha.m_some hfs, if_pos hlt, hr]
  rcases hok with hok | hok
  · exact .inl (by dsimp only; rw [if_pos hlt, hr]; exact hok)
  · refine .inr fun c t hc => ?_
    dsimp only
    split
    · exact ha.loop_rejected hf hd hok _ t hc
    · exact he hok c t hc

/-- The loop of `(?:a)+` iterates greedily: an iteration starts in `h`, which `a` does not give back. -/
theorem loop (ha : Scans a f q) (hf : Starts f h)
    (hd : ∀ c, q c = true → h c = false) (k : List Char → Option β) :
    ∀ n fuel s, s.length < n → s.length ≤ fuel →
      OK (fun c => q c || h c) k (reStar f fuel s).2 → Re.loop a.m k n s = k (reStar f fuel s).2 := by
  intro n
  induction n with
  | zero => intro fuel s h; omega
  | succ n ih =>
    intro fuel s hlt hfuel hok
    simp only [Re.loop]
    cases hfs : f s with
    | none => rw [ha.m_none hfs, reStar_none hfs]; rfl
    | some x =>
      obtain ⟨m, r⟩ := x
      have hl := ha.pos hf hfs
      have hc := ha.length hfs
      cases fuel with
      | zero => omega
      | succ fuel =>
        simp only [reStar, hfs] at hok ⊢
        rw [ha.step hf hd hfs (N := fun _ => n) (ih fuel r (by omega) (by omega) hok) hok
          fun _ _ _ _ => rfl]
        obtain ⟨c, t, rfl, hch⟩ := hf.head (s := s) (by simp [hfs])
        exact orElse_ok hok t (by simp [hch])

theorem plus (ha : Scans a f q) (hf : Starts f h)
    (hd : ∀ c, q c = true → h c = false) : Scans (Re.plus a) (sIter1 f) (fun c => q c || h c) :=
  fun β s k => by
    rw [m_plus, plusM]
    simp only [sIter1]
    cases hfs : f s with
    | none => exact ha.m_none hfs _
    | some x =>
      obtain ⟨m, r⟩ := x
      have hc := ha.length hfs
      have hR := reStar_length (f := f) (fun _ _ _ => ha.length) r.length r
      refine ⟨show m + (reStar f r.length r).1 + (reStar f r.length r).2.length = s.length by omega,
        fun hok => ?_⟩
      exact ha.step hf hd hfs (ha.loop hf hd k _ _ r (Nat.lt_succ_self _) (Nat.le_refl _) hok) hok
        fun hk c t hc => hk c t (by simp [hc])

theorem matchLen (ha : Scans a f q) (s : List Char) : a.matchLen s = (f s).map (·.1) := by
  unfold Re.matchLen
  cases hf : f s with
  | none => exact ha.m_none hf _
  | some x =>
    have := ha.length hf
    rw [ha.m_some hf (.inl rfl), Option.map_some, Option.some.injEq]; omega

/-- With `$` after the expression the continuation rejects every rest but the empty one: no condition is left. -/
theorem matchWhole (ha : Scans a f q) (s : List Char) :
    a.matchWhole s = match f s with
      | none => false
      | some x => x.2.isEmpty := by
  unfold Re.matchWhole
  cases hf : f s with
  | none => rw [ha.m_none hf]; rfl
  | some x =>
    obtain ⟨n, r⟩ := x
    rw [ha.m_some hf (.inr fun _ _ _ => rfl)]
    cases r <;> rfl

theorem plusChar {p : Char → Bool} (ha : IsChar a p) : Scans (Re.plus a) (sPlus p) p :=
  ((char (q := fun _ => false) ha).plus (starts_char p) nofun).congr (sPlus_eq p)

theorem starChar {p : Char → Bool} (ha : IsChar a p) : Scans (star a) (sStar p) p :=
  ((((plusChar ha).opt (starts_plus p)).of_m (b := star a) fun _ _ _ => rfl).mono
    fun c h => by simpa using h).congr
    fun s => by
    cases s with
    | nil => rfl
    | cons c t => cases hc : p c <;> simp [sStar, sOpt, sPlus, skipWhile_pos t, skipWhile_neg t, hc]

end Scans

theorem IsChar.word {a : Re} {p : Char → Bool} (ha : IsChar a p) {u : List Char}
    (h : Matches a u) : ∃ c, u = [c] ∧ p c = true := by
  have := (Scans.char (q := fun _ => false) ha).append h (NoHead.nil _)
  rw [List.append_nil] at this
  cases u with
  | nil => cases this
  | cons c t =>
    simp only [sChar] at this
    split at this
    · rename_i hc
      obtain ⟨-, rfl⟩ : 1 = t.length + 1 ∧ t = [] := by simpa using this
      exact ⟨c, rfl, hc⟩
    · cases this

theorem IsChar.star_word {a : Re} {p : Char → Bool} (ha : IsChar a p) {w : List Char}
    (h : Matches (star a) w) : w.all p = true := by
  refine Matches.star_induction (P := fun w => w.all p = true) rfl ?_ h
  intro u v hu _ ih
  obtain ⟨x, rfl, hx⟩ := ha.word hu
  simp [hx, ih]

/-- `f` counts what a scanner of `a` takes: the equation of a whole pattern. -/
def Reads (a : Re) (f : List Char → Option Nat) (q : Char → Bool) : Prop :=
  ∃ g, Scans a g q ∧ ∀ s, f s = (g s).map (·.1)

theorem Reads.mono {a : Re} {f : List Char → Option Nat} {p q : Char → Bool} (h : Reads a f p)
    (hpq : ∀ c, p c = true → q c = true) : Reads a f q :=
  let ⟨g, hg, e⟩ := h; ⟨g, hg.mono hpq, e⟩

theorem Reads.matchLen {a : Re} {f : List Char → Option Nat} {q : Char → Bool} (h : Reads a f q)
    (s : List Char) : a.matchLen s = f s := by
  obtain ⟨g, hg, e⟩ := h
  rw [e, hg.matchLen]

theorem Reads.append {a : Re} {f : List Char → Option Nat} {q : Char → Bool} (h : Reads a f q)
    {d : List Char} (hd : Matches a d) {post : List Char} (hp : NoHead q post) :
    f (d ++ post) = some d.length := by
  obtain ⟨g, hg, e⟩ := h
  rw [e, hg.append hd hp]; rfl

/-- When `f` reads every word of the language in front of anything (`h1`) and accepts nothing else (`h2`), at most
one prefix of any input is in the language: no priority or convention enters, and `f` itself is the scanner. -/
theorem Reads.of_unique {a : Re} {f : List Char → Option Nat}
    (h1 : ∀ u v, Matches a u → f (u ++ v) = some u.length)
    (h2 : ∀ s n, f s = some n → ∃ u v, s = u ++ v ∧ Matches a u) (q : Char → Bool) :
    Reads a f q := by
  refine ⟨fun s => (f s).map fun n => (n, s.drop n), fun β s k => ?_, fun s => by dsimp only; cases f s <;> rfl⟩
  dsimp only
  cases hf : f s with
  | none =>
    cases hm : a.m s k with
    | none => rfl
    | some x =>
      obtain ⟨u, v, rfl, hu, _⟩ := m_sound a _ _ _ hm
      rw [h1 u v hu] at hf; cases hf
  | some n =>
    obtain ⟨u, v, rfl, hu⟩ := h2 s n hf
    obtain rfl : u.length = n := by rw [h1 u v hu] at hf; exact Option.some.inj hf
    refine ⟨by simp, fun _ => ?_⟩
    show a.m (u ++ v) k = k ((u ++ v).drop u.length)
    rw [List.drop_left]
    cases hm : a.m (u ++ v) k with
    | none => exact (m_complete a _ _ hm u v rfl hu).symm
    | some x =>
      obtain ⟨u', v', hs, hu', hk⟩ := m_sound a _ _ _ hm
      obtain rfl := uniquePrefix_of h1 u v u' v' hs hu hu'
      rw [List.append_cancel_left hs, hk]

end Re
end Yae
