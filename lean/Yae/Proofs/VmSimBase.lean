/-
  C03: the `EvalM` monad applied to a log, one lemma per machine instruction (`run (F+1) … = …`), `popN` /
  `popThunks` on a stack of pushed values, the built-in table (the lazy built-ins are `if`, `&&`, `||`).
-/
import Yae.Model.Vm
import Yae.Proofs.EvalMLemmas
namespace Yae.VmSim
open Yae Yae.Vm EvalM

@[simp] theorem pure_apply {α} (a : α) (l : List Event) : (pure a : EvalM α) l = (.ok a, l) := rfl
@[simp] theorem fail_apply {α} (x : Fail) (l : List Event) : (fail x : EvalM α) l = (.error x, l) := rfl
@[simp] theorem emit_apply (e : Event) (l : List Event) : emit e l = (.ok (), e :: l) := rfl
@[simp] theorem emitAll_apply (es : List Event) (l : List Event) :
    emitAll es l = (.ok (), es.reverse ++ l) := rfl
@[simp] theorem lift_apply {α} (x : Except Fail α) (l : List Event) : lift x l = (x, l) := rfl
@[simp] theorem recDbg_false (v : Val) (col : Int) (l : List Event) :
    recDbg false v col l = (.ok v, l) := rfl

/-- a miss of the harness' table of external functions (`regexp.MatchString`, `strtotime`): a
device of the model (`Yae.Sound.Allowed`), raised inside `applyBuiltin`, which the evaluator and
the machine both call with the same arguments -/
@[simp] def ExternMiss (m : String) : Prop := m = "extern-miss:regex" ∨ m = "extern-miss:strtotime"

instance (m : String) : Decidable (ExternMiss m) := by unfold ExternMiss; infer_instance

/-- a result that is not an internal fault (`stuck`, other than a miss of the externs table) -/
def NotStuck {α} : Except Fail α → Prop
  | .error (.stuck m) => ExternMiss m
  | _ => True

@[simp] theorem notStuck_ok {α} (a : α) : NotStuck (.ok a : Except Fail α) := trivial
@[simp] theorem notStuck_stuck_iff {α} (m : String) :
    NotStuck (.error (.stuck m) : Except Fail α) ↔ ExternMiss m := Iff.rfl
theorem notStuck_stuck {α} {m : String} (hm : ¬ ExternMiss m) :
    ¬ NotStuck (.error (.stuck m) : Except Fail α) := hm

/-- apply a built-in and log what it printed: the common part of `callStrict`, `callFun` and the
intrinsic opcodes -/
def applyB (ext : Externs) (id : BId) (args : List Val) : EvalM Val := do
  let (v, evs) ← lift (applyBuiltin ext id args)
  emitAll evs
  pure v

@[simp] theorem popVal_val (v : Val) (st : List Slot) (l : List Event) :
    popVal (.val v :: st) l = (.ok (v, st), l) := rfl

def pushVals (vs : List Val) (s : List Slot) : List Slot := vs.reverse.map Slot.val ++ s

@[simp] theorem pushVals_nil (s : List Slot) : pushVals [] s = s := rfl
theorem pushVals_cons (v : Val) (vs : List Val) (s : List Slot) :
    pushVals (v :: vs) s = pushVals vs (.val v :: s) := by simp [pushVals]
theorem pushVals_append (xs ys : List Val) (s : List Slot) :
    pushVals (xs ++ ys) s = pushVals ys (pushVals xs s) := by simp [pushVals]

theorem popN_rev (rs : List Val) (s : List Slot) (acc : List Val) (l : List Event) :
    popN rs.length (rs.map Slot.val ++ s) acc l = (.ok (rs.reverse ++ acc, s), l) := by
  induction rs generalizing acc with
  | nil => rfl
  | cons r rs ih =>
    simp only [List.length_cons, List.map_cons, List.cons_append, popN]
    rw [bind_ok (popVal_val r _ l)]
    simp only []
    rw [ih]; simp

theorem popN_pushVals (vs : List Val) (s : List Slot) (l : List Event) (n : Nat) (h : n = vs.length) :
    popN n (pushVals vs s) [] l = (.ok (vs, s), l) := by
  subst h
  have := popN_rev vs.reverse s [] l
  simpa [pushVals] using this

def pushThunks (ths : List (Code × Ty)) (s : List Slot) : List Slot :=
  (ths.reverse.map fun t => Slot.thunk t.1 t.2) ++ s

@[simp] theorem pushThunks_nil (s : List Slot) : pushThunks [] s = s := rfl
theorem pushThunks_cons (t : Code × Ty) (ths : List (Code × Ty)) (s : List Slot) :
    pushThunks (t :: ths) s = pushThunks ths (.thunk t.1 t.2 :: s) := by simp [pushThunks]

theorem popThunks_rev (rs : List (Code × Ty)) (s : List Slot) (acc : List (Code × Ty)) (l : List Event) :
    popThunks rs.length ((rs.map fun t => Slot.thunk t.1 t.2) ++ s) acc l = (.ok (rs.reverse ++ acc, s), l) := by
  induction rs generalizing acc with
  | nil => rfl
  | cons r rs ih =>
    simp only [List.length_cons, List.map_cons, List.cons_append, popThunks]
    rw [ih]; simp

theorem popThunks_pushThunks (ths : List (Code × Ty)) (s : List Slot) (l : List Event) (n : Nat)
    (h : n = ths.length) : popThunks n (pushThunks ths s) [] l = (.ok (ths, s), l) := by
  subst h
  have := popThunks_rev ths.reverse s [] l
  simpa [pushThunks] using this

@[simp] theorem ValList.ofList_toList : ∀ (vs : ValList), ValList.ofList vs.toList = vs
  | .nil => rfl
  | .cons v vs => by simp [ValList.toList, ValList.ofList, ValList.ofList_toList vs]

@[simp] theorem ValList.length_toList : ∀ (vs : ValList), vs.toList.length = vs.length
  | .nil => rfl
  | .cons v vs => by simp [ValList.toList, ValList.length, ValList.length_toList vs]

section steps
variable {ρ : REnv} {P : Pool} {C : Code} {pc nx : Nat} {st : List Slot} {l : List Event} {F : Nat}

theorem run_zero : run 0 ρ P C pc st l = (.error .fuel, l) := by rw [run]; rfl

theorem run_return {v : Val} (hd : decodeAt C pc = some (.simple .RETURN, nx)) :
    run (F+1) ρ P C pc (.val v :: st) l = (.ok v, l) := by
  rw [run]; simp only [hd]; rfl

theorem run_const_val {i : Nat} {v : Val}
    (hd : decodeAt C pc = some (.const .CONST i, nx)) (hp : P[i]? = some (.val v)) :
    run (F+1) ρ P C pc st l = run F ρ P C nx (.val v :: st) l := by
  rw [run]; simp only [hd, hp]

theorem run_const_thunk {i : Nat} {b : Code} {r : Ty}
    (hd : decodeAt C pc = some (.const .CONST i, nx)) (hp : P[i]? = some (.thunk b r)) :
    run (F+1) ρ P C pc st l = run F ρ P C nx (.thunk b r :: st) l := by
  rw [run]; simp only [hd, hp]

theorem run_load {i : Nat} {x : String}
    (hd : decodeAt C pc = some (.const .LOAD i, nx)) (hp : P[i]? = some (.name x)) :
    run (F+1) ρ P C pc st l = run F ρ P C nx (.val ((ρ.lookupVar x).getD .nil) :: st) l := by
  rw [run]; simp only [hd, hp]

theorem run_newobj {i : Nat} {fs : FieldList} {vs : List Val} {st' : List Slot}
    (hd : decodeAt C pc = some (.const .NEW_OBJ i, nx)) (hp : P[i]? = some (.ty (.obj fs)))
    (hpop : popN fs.length st [] l = (.ok (vs, st'), l)) :
    run (F+1) ρ P C pc st l = run F ρ P C nx (.val (.obj (.obj fs) (ValList.ofList vs)) :: st') l := by
  rw [run]; simp only [hd, hp]; rw [bind_ok hpop]

theorem run_objload {i : Nat} {f : String} {ty : Ty} {vs : ValList}
    (hd : decodeAt C pc = some (.const .OBJ_LOAD i, nx)) (hp : P[i]? = some (.name f)) :
    run (F+1) ρ P C pc (.val (.obj ty vs) :: st) l =
      match objGet? ty vs f with
      | some v => run F ρ P C nx (.val v :: st) l
      | none => (.error (.stuck "member-missing"), l) := by
  rw [run]; simp only [hd, hp, bind_apply, popVal_val]; split <;> simp_all

theorem run_objload_bad {i : Nat} {f : String} {o : Val}
    (hd : decodeAt C pc = some (.const .OBJ_LOAD i, nx)) (hp : P[i]? = some (.name f))
    (ho : ∀ ty vs, o ≠ .obj ty vs) :
    run (F+1) ρ P C pc (.val o :: st) l = (.error (.stuck "cast:obj"), l) := by
  rw [run]; simp only [hd, hp, bind_apply, popVal_val]
  cases o <;> first | rfl | exact absurd rfl (ho _ _)

theorem run_newlist {i n : Nat} {t : Ty} {vs : List Val} {st' : List Slot}
    (hd : decodeAt C pc = some (.newColl .NEW_LIST i n, nx)) (hp : P[i]? = some (.ty t))
    (hpop : popN n st [] l = (.ok (vs, st'), l)) :
    run (F+1) ρ P C pc st l = run F ρ P C nx (.val (.list t (ValList.ofList vs)) :: st') l := by
  rw [run]; simp only [hd, hp]; rw [bind_ok hpop]

theorem run_newmap {i n : Nat} {t : Ty} {kvs : List Val} {st' : List Slot}
    (hd : decodeAt C pc = some (.newColl .NEW_MAP i n, nx)) (hp : P[i]? = some (.ty t))
    (hpop : popN (2 * n) st [] l = (.ok (kvs, st'), l)) :
    run (F+1) ρ P C pc st l =
      seq (mapOfPairs t kvs .nil l) (fun es l' => run F ρ P C nx (.val (.map t es) :: st') l') := by
  rw [run]; simp only [hd, hp]; rw [bind_ok hpop]; simp only [bind_apply]

theorem run_jump {t : Nat} (hd : decodeAt C pc = some (.jump .JUMP t, nx)) :
    run (F+1) ρ P C pc st l = run F ρ P C t st l := by
  rw [run]; simp only [hd]

theorem run_iftrue {t : Nat} {c : Val} (hd : decodeAt C pc = some (.jump .IF_TRUE t, nx)) :
    run (F+1) ρ P C pc (.val c :: st) l =
      match c with
      | .bool true => run F ρ P C nx st l
      | .bool false => run F ρ P C t st l
      | _ => (.error (.stuck "cast:bool"), l) := by
  rw [run]; simp only [hd, bind_apply, popVal_val]; split <;> simp_all

theorem run_lognot {v : Val} (hd : decodeAt C pc = some (.simple .LOGICAL_NOT, nx)) :
    run (F+1) ρ P C pc (.val v :: st) l =
      match v with
      | .bool b => run F ρ P C nx (.val (.bool !b) :: st) l
      | _ => (.error (.stuck "cast:bool"), l) := by
  rw [run]; simp only [hd, bind_apply, popVal_val]; split <;> simp_all

theorem run_listload {f : Float} {t : Ty} {vs : ValList}
    (hd : decodeAt C pc = some (.simple .LIST_LOAD, nx)) :
    run (F+1) ρ P C pc (.val (.num f) :: .val (.list t vs) :: st) l =
      if Num.toInt f < 0 || Num.toInt f ≥ vs.length then (.error .indexOutOfRange, l)
      else match vs.get? (Num.toInt f).toNat with
        | some v => run F ρ P C nx (.val v :: st) l
        | none => (.error .indexOutOfRange, l) := by
  rw [run]; simp only [hd, bind_apply, popVal_val, seq_ok]
  split
  · rfl
  · cases vs.get? (Num.toInt f).toNat <;> rfl

theorem run_mapload {k : Val} {t : Ty} {es : EntryList} {kt : Kind} {ks : String}
    (hd : decodeAt C pc = some (.simple .MAP_LOAD, nx)) (hk : k.key? = some (kt, ks)) :
    run (F+1) ρ P C pc (.val k :: .val (.map t es) :: st) l =
      match es.find? kt ks with
      | some v => run F ρ P C nx (.val v :: st) l
      | none => (.error .missingKey, l) := by
  rw [run]; simp only [hd, bind_apply, popVal_val, seq_ok, hk]
  cases es.find? kt ks <;> rfl

theorem run_callval {i argc : Nat} {d : FunDecl} {args : List Val} {st' : List Slot}
    (hd : decodeAt C pc = some (.call .CALL_BY_VALUE i argc, nx)) (hp : P[i]? = some (.fn d))
    (hpop : popN argc st [] l = (.ok (args, st'), l)) :
    run (F+1) ρ P C pc st l =
      seq (callStrict ρ.ext d args l) (fun v l' => run F ρ P C nx (.val v :: st') l') := by
  rw [run]; simp only [hd, hp]; rw [bind_ok hpop]; simp only [bind_apply]

theorem run_callneed {i argc : Nat} {d : FunDecl} {ths : List (Code × Ty)} {st' : List Slot}
    (hd : decodeAt C pc = some (.call .CALL_BY_NEED i argc, nx)) (hp : P[i]? = some (.fn d))
    (hpop : popThunks argc st [] l = (.ok (ths, st'), l)) :
    run (F+1) ρ P C pc st l =
      seq (callLazy F ρ P d ths l) (fun v l' => run F ρ P C nx (.val v :: st') l') := by
  rw [run]; simp only [hd, hp]; rw [bind_ok hpop]; simp only [bind_apply]

theorem run_dyn {argc : Nat} {ty : Ty} {ref : FunRef} {args : List Val} {st' : List Slot}
    (hd : decodeAt C pc = some (.dyn argc, nx))
    (hpop : popN argc st [] l = (.ok (args, .val (.fn ty ref false) :: st'), l)) :
    run (F+1) ρ P C pc st l =
      seq (callStrict ρ.ext { ty := ty, ref := ref, isLazy := false } args l)
        (fun v l' => run F ρ P C nx (.val v :: st') l') := by
  rw [run]; simp only [hd]; rw [bind_ok hpop]; simp [bind_apply]

theorem run_intrinsic {op : Op} {bid : BId} {ar : Nat} {args : List Val} {st' : List Slot}
    (hd : decodeAt C pc = some (.simple op, nx)) (hb : op.builtin? = some (bid, ar))
    (hpop : popN ar st [] l = (.ok (args, st'), l)) :
    run (F+1) ρ P C pc st l =
      seq (applyB ρ.ext bid args l) (fun v l' => run F ρ P C nx (.val v :: st') l') := by
  rw [run]; simp only [hd]
  generalize hins : Instr.simple op = ins
  split <;> cases hins
  -- `RETURN`, `NOP`, `LOGICAL_NOT`, `LIST_LOAD`, `MAP_LOAD` stand for no built-in
  iterate 5 cases hb
  simp only [hb, applyB]; rw [bind_ok hpop]
  cases applyBuiltin ρ.ext bid args <;> rfl

end steps

def arityOf (b : BuiltinDecl) : Nat := match b.ty with | .fn _ ps _ => ps.length | _ => 0

theorem builtin?_of_intrinsic_aux :
    builtins.all (fun b => match intrinsicByValue b.id with
      | some op => decide (op.builtin? = some (b.id, arityOf b))
      | none => true) = true := by decide

theorem lazyTable : builtins.all (fun b => b.isLazy ==
    (b.id == .IF_BOOL_ANY_ANY || b.id == .LOGIC_AND_BOOL_BOOL || b.id == .LOGIC_OR_BOOL_BOOL)) = true := by
  decide
theorem condArityTable : builtins.all (fun b =>
    (b.id != .IF_BOOL_ANY_ANY || arityOf b == 3) && (b.id != .LOGIC_AND_BOOL_BOOL || arityOf b == 2) &&
    (b.id != .LOGIC_OR_BOOL_BOOL || arityOf b == 2) && (b.id != .LOGIC_NOT_BOOL || arityOf b == 1)) = true := by
  decide

theorem builtin?_of_intrinsic {i : Nat} {b : BuiltinDecl} {op : Op} (h : builtins[i]? = some b)
    (hop : intrinsicByValue b.id = some op) : op.builtin? = some (b.id, arityOf b) := by
  have := List.all_eq_true.mp builtin?_of_intrinsic_aux b (List.mem_of_getElem? h)
  rw [hop] at this
  simpa using this

theorem isLazy_iff {i : Nat} {b : BuiltinDecl} (h : builtins[i]? = some b) :
    b.isLazy = (b.id == .IF_BOOL_ANY_ANY || b.id == .LOGIC_AND_BOOL_BOOL || b.id == .LOGIC_OR_BOOL_BOOL) := by
  have := List.all_eq_true.mp lazyTable b (List.mem_of_getElem? h)
  simpa using this

theorem not_arity {i : Nat} {b : BuiltinDecl} (h : builtins[i]? = some b) (hid : b.id = .LOGIC_NOT_BOOL) :
    arityOf b = 1 := by
  have := List.all_eq_true.mp condArityTable b (List.mem_of_getElem? h)
  simpa [hid] using this

theorem applyBuiltin_lazy {i : Nat} {b : BuiltinDecl} (h : builtins[i]? = some b) (hl : b.isLazy = true)
    (ext : Externs) (args : List Val) : applyBuiltin ext b.id args = stuckCast "builtin-args" := by
  rw [isLazy_iff h] at hl
  simp only [Bool.or_eq_true, beq_iff_eq] at hl
  rcases hl with (hl | hl) | hl <;> rw [hl] <;> rfl

theorem applyBuiltin_not_bool (ext : Externs) (b : Bool) :
    applyBuiltin ext .LOGIC_NOT_BOOL [.bool b] = .ok (.bool !b, []) := rfl
theorem applyBuiltin_not_other (ext : Externs) (v : Val) (h : ∀ b, v ≠ .bool b) :
    applyBuiltin ext .LOGIC_NOT_BOOL [v] = stuckCast "builtin-args" := by
  cases v <;> first | rfl | exact absurd rfl (h _)

end Yae.VmSim
