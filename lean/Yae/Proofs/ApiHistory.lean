/-
  For `Yae/Props/Api.lean`: a history of API calls whose registrations respect their signatures (`Sound.declOK`) and
  whose compile-time environments hold well-formed, variable-free types.  The engine after it is the fold of the
  calls' effects (`EngineHistory.run_fst`), so its table stays `FunsOK`, an initialised engine's table grows by the
  registrations and nothing else, and the Callable of step `k` is the compilation of step `k` on the engine the
  calls before it left: `callable_history`.
-/
import Yae.Proofs.EngineHistory
import Yae.Spec.WF
import Yae.Proofs.BuiltinTable
namespace Yae.Api
open Yae Yae.EngineHistory

/-- the functions a list of calls registers, in order (`RegisterFun` refuses what is not of a
function type: `Engine.registerFun`) -/
def regs : List Op → List FunDecl
  | [] => []
  | .registerFun d :: rest => (match d.ty with | .fn _ _ _ => [d] | _ => []) ++ regs rest
  | _ :: rest => regs rest

theorem regs_append (a b : List Op) : regs (a ++ b) = regs a ++ regs b := by
  induction a with
  | nil => rfl
  | cons op a ih =>
    cases op <;> simp [regs, ih]

theorem mem_regs {d : FunDecl} {ops : List Op} (h : d ∈ regs ops) :
    Op.registerFun d ∈ ops ∧ ∃ n ps r, d.ty = .fn n ps r := by
  induction ops with
  | nil => cases h
  | cons op ops ih =>
    cases op with
    | registerFun d' =>
      rcases List.mem_append.1 h with h | h
      · cases hty : d'.ty <;> simp only [hty, List.mem_singleton, List.not_mem_nil] at h
        subst h
        exact ⟨List.mem_cons_self, _, _, _, hty⟩
      · exact ⟨List.mem_cons_of_mem _ (ih h).1, (ih h).2⟩
    | _ => exact ⟨List.mem_cons_of_mem _ (ih h).1, (ih h).2⟩

def regsBetween (ops : List Op) (k i : Nat) : List FunDecl := regs ((ops.take i).drop (k+1))

theorem registerFun_eq (e : Engine) (d : FunDecl) :
    e.registerFun d = { e with funs := e.funs ++ regs [.registerFun d] } := by
  unfold Engine.registerFun regs
  split <;> simp [*, regs]

theorem foldl_grow : ∀ (ops : List Op) {e : Engine}, e.inited = true →
    (ops.foldl effect e).inited = true ∧ (ops.foldl effect e).funs = e.funs ++ regs ops
  | [], _, he => ⟨he, (List.append_nil _).symm⟩
  | op :: ops, e, he => by
    have h1 : (effect e op).inited = true ∧ (effect e op).funs = e.funs ++ regs [op] := by
      cases op with
      | registerFun d =>
        show (e.registerFun d).inited = true ∧ (e.registerFun d).funs = _
        rw [registerFun_eq]; exact ⟨he, rfl⟩
      | compile times tenv src =>
        show e.init.inited = true ∧ e.init.funs = _
        rw [init_of_inited he]; exact ⟨he, (List.append_nil _).symm⟩
      | _ => exact ⟨he, (List.append_nil _).symm⟩
    obtain ⟨h2, h3⟩ := foldl_grow ops h1.1
    exact ⟨h2, by rw [List.foldl_cons, h3, h1.2, List.append_assoc, ← regs_append]; rfl⟩

theorem funsOK_init {e : Engine} (h : Sound.FunsOK e.funs) : Sound.FunsOK e.init.funs := by
  rw [init_funs]
  refine List.forall_mem_append.2 ⟨h, ?_⟩
  split
  · exact builtinDecls_funsOK
  · intro d hd; cases hd

/-- the field `tys` of `Sound.EnvOK` (`Spec/WF.lean`), and `Sound.VarsOK` (`SoundnessCheck`) on a bare binding list -/
def TenvOK (tenv : List (String × Ty)) : Prop := ∀ p ∈ tenv, p.2.wf = true ∧ slotFree p.2 = true

def OpOK : Op → Prop
  | .registerFun d => (∃ n ps r, d.ty = .fn n ps r) → Sound.declOK d = true
  | .compile _ tenv _ => TenvOK tenv
  | _ => True

def OpsOK (ops : List Op) : Prop := ∀ op ∈ ops, OpOK op

theorem OpsOK.take {ops : List Op} (h : OpsOK ops) (i : Nat) : OpsOK (ops.take i) :=
  fun op ho => h op (List.mem_of_mem_take ho)

theorem funsOK_effect (e : Engine) (op : Op) (h : Sound.FunsOK e.funs) (hop : OpOK op) :
    Sound.FunsOK (effect e op).funs := by
  cases op with
  | registerFun d =>
    show Sound.FunsOK (e.registerFun d).funs
    rw [registerFun_eq]
    refine List.forall_mem_append.2 ⟨h, fun d' hd' => ?_⟩
    obtain ⟨hm, hfn⟩ := mem_regs hd'
    cases List.mem_singleton.1 hm
    exact hop hfn
  | compile times tenv src => exact funsOK_init h
  | _ => exact h

theorem funsOK_foldl {e : Engine} (he : Sound.FunsOK e.funs) {ops : List Op} (h : OpsOK ops) :
    Sound.FunsOK (ops.foldl effect e).funs :=
  foldl_keeps (I := fun e => Sound.FunsOK e.funs) funsOK_effect ops he h

/-- a Callable that an engine with a `FunsOK` table returned, compiled in an environment `c.tenv`
(Go: `env0`) that is `TenvOK` -/
structure CallableOK (c : Callable) : Prop where
  from_compile : ∃ (e0 : Engine) (times : List (String × Int)) (src : String),
    (e0.compile times c.tenv src).2 = .ok c ∧ Sound.FunsOK e0.init.funs
  tenv : TenvOK c.tenv

theorem CallableOK.checked {c : Callable} (hok : CallableOK c) :
    Sound.FunsOK c.funs ∧
      ∃ d c', check ⟨c.tenv, c.funs, reservedWords⟩ 0 d = .ok (c.ty, c.tree, c') := by
  obtain ⟨e0, times, src, hc, hf⟩ := hok.from_compile
  obtain ⟨_, hcf, _, hsrc⟩ := compile_callable hc
  rw [hcf]
  exact ⟨hf, compileSrc_check hsrc⟩

theorem callable_history {e : Engine} (he : Sound.FunsOK e.funs) {ops : List Op} (hops : OpsOK ops)
    {k : Nat} {c : Callable} (h : (e.run ops).2[k]? = some (.compiled (.ok c))) :
    CallableOK c ∧ (∃ times src, ops[k]? = some (.compile times c.tenv src)) ∧
      ∀ i, k < i → (e.run (ops.take i)).1.funs = c.funs ++ regsBetween ops k i := by
  obtain ⟨times, tenv, src, hop, hc⟩ := run_callable h
  obtain ⟨rfl, hf, -, -⟩ := compile_callable hc
  refine ⟨⟨⟨_, times, src, hc, funsOK_init (funsOK_foldl he (hops.take k))⟩,
    hops _ (List.mem_of_getElem? hop)⟩, ⟨times, src, hop⟩, fun i hki => ?_⟩
  -- the first `i` calls: the first `k`, the compilation (which initialises), the rest
  have htake : (ops.take i).take (k+1) = ops.take k ++ [.compile times c.tenv src] := by
    rw [List.take_take, Nat.min_eq_left hki, List.take_add_one, hop]; rfl
  rw [run_fst, ← List.take_append_drop (k+1) (ops.take i), List.foldl_append, htake,
    List.foldl_append, hf]
  exact (foldl_grow _ (init_inited _)).2

end Yae.Api
