/-
  Well-formed grammars (`WFGrammar`) and what follows from them for trees that respect the grammar: an operand read
  with `expr(0)` and followed by a token that does not continue an expression may end there (`follow_closer`; the
  point is `rightOK_zero`, no negative power on its right spine); a yield starts with a token that has a `nud`, hence
  not with `)`, `]` or `:`.  `infixNCheck_of_noChain`: (R4) at a node is what `infixNCheck` tests.
-/
import Yae.Proofs.ParseRespects
import Yae.Proofs.BPOrder
namespace Yae

/-- What the completeness of the parser needs of the two tables:
* no entry for `<END-OF-FILE>` (otherwise Go does not terminate: C12);
* the three built-in `led`s sit under `(`, `.`, `[` and `(` is the call;
* the closing / separating tokens `)` `]` `}` `,` `:` do not continue an expression;
* `)` `]` `:` do not start one (`f()`, `[]`, `[:]` are decided by looking at that token);
* no prefix power is negative (`expr(rbp)` with `rbp < 0` demands an infix entry for whatever
  token comes next, `)` and the end of the input included).
NaNs and negative or zero infix powers are allowed: such operators are simply never applied. -/
structure WFGrammar (g : Grammar) : Prop where
  noEOF : tableLookup tkEOF g.prefixs = none ∧ tableLookup tkEOF g.infixs = none
  ledKinds : g.LedKinds
  lparen : ∀ bp led, tableLookup "(" g.infixs = some (bp, led) → led = .call
  rparen : tableLookup ")" g.infixs = none
  rbrack : tableLookup "]" g.infixs = none
  rbrace : tableLookup "}" g.infixs = none
  comma : tableLookup "," g.infixs = none
  colon : tableLookup ":" g.infixs = none
  preRparen : tableLookup ")" g.prefixs = none
  preRbrack : tableLookup "]" g.prefixs = none
  preColon : tableLookup ":" g.prefixs = none
  prefixNonneg : ∀ k, ¬ g.prefixBp k < 0

theorem BP.nonneg_step {b l : BP} (hb : ¬ b < 0) (hl : b < l) : ¬ l < 0 ∧ ¬ bpPred l < 0 := by
  refine ⟨fun h => hb (BP.lt_trans hl h), fun h => ?_⟩
  have hm := BP.pred_max hl
  unfold bpPred at h
  obtain ⟨hp, h0, hk⟩ := BP.lt_iff.mp h
  rw [BP.not_lt (BP.lt_iff.mp hl).1 h0] at hb
  rw [BP.not_lt hp (BP.lt_iff.mp hl).1] at hm
  omega

theorem BP.not_zero_lt_zero : ¬ (0 : BP) < 0 := BP.lt_irrefl 0

/-- Of `respHere` only (R1), for the last operand of the nodes open on the right, is used. -/
theorem rightOK_zero {g : Grammar} (W : WFGrammar g) (t : Expr) :
    ∀ b : BP, ¬ b < 0 → t.All (Expr.respHere g) → t.leftAbove g b → t.rightOK g 0 := by
  induction t using Expr.rec (motive_2 := fun _ => True) (motive_3 := fun _ => True)
    (motive_4 := fun _ => True) with
  | unary _ n _ e pre ih =>
    intro _ _ hA _
    cases pre with
    | false => simp [Expr.rightOK]
    | true =>
      simp only [Expr.All, Expr.respHere] at hA
      exact ⟨W.prefixNonneg n, ih _ (W.prefixNonneg n) hA.2 hA.1⟩
  | binary _ n _ fx l r _ ihr =>
    intro b hb hA hab
    simp only [Expr.All, Expr.respHere] at hA
    simp only [Expr.leftAbove] at hab
    have h := BP.nonneg_step hb hab.1
    have hr : ¬ g.binRbp n fx < 0 := by
      unfold Grammar.binRbp; split
      · exact h.2
      · exact h.1
    exact ⟨hr, ihr _ hr hA.2.2 hA.1.1⟩
  | ternary _ n _ l m r _ _ ihr =>
    intro b hb hA hab
    simp only [Expr.All, Expr.respHere] at hA
    simp only [Expr.leftAbove] at hab
    have h := BP.nonneg_step hb hab.1
    exact ⟨h.2, ihr _ h.2 hA.2.2.2 hA.1.2.2⟩
  | _ => intros; simp [Expr.rightOK]

theorem follow_closer {g : Grammar} (W : WFGrammar g) {t : Expr} {k : String}
    (hA : t.All (Expr.respHere g)) (h0 : t.leftAbove g 0)
    (hk : tableLookup k g.infixs = none) (hk' : k ≠ "(") :
    Follow g k t ∧ ¬ (0 : BP) < g.infixLbp k := by
  unfold Follow
  rw [Grammar.infixLbp_none hk]
  exact ⟨⟨rightOK_zero W t 0 BP.not_zero_lt_zero hA h0, fun _ => hk'⟩, BP.not_zero_lt_zero⟩

theorem infixNCheck_of_noChain {e : Expr} (h : e.noChainHere) : infixNCheck e = .ok e := by
  cases e
  case binary p n np fx l r =>
    simp only [Expr.noChainHere] at h
    by_cases hfx : fx = fixInfixN
    · obtain ⟨h1, h2⟩ := h hfx
      subst hfx
      simp only [infixNCheck, beq_self_eq_true, if_true]
      show (if (l.isBinaryNamed n || r.isBinaryNamed n) = true then _ else _) = _
      rw [h1, h2]
      rfl
    · have : (fx == fixInfixN) = false := by simpa using hfx
      simp only [infixNCheck, this]
      rfl
  all_goals rfl

theorem Yields.first {env : PEnv} {t : Expr} {i j : Nat} (h : Yields env t i j) :
    ∃ bp nud, env.nudAt i bp nud := by
  induction h using Yields.rec (motive_2 := fun _ _ _ _ => True) (motive_3 := fun _ _ _ _ => True)
    (motive_4 := fun _ _ _ _ => True) (motive_5 := fun _ _ _ _ => True)
    (motive_6 := fun _ _ _ _ => True) with
  | ident h | true_ h | false_ h | num h | str h | time h | group h | pre h | emptyMap h | list h
  | map h | obj h => exact ⟨_, _, h⟩
  | binary _ _ _ _ _ ih | post _ _ _ ih | ternary _ _ _ _ _ _ ih | call _ _ _ _ _ ih
  | methodCall _ _ _ _ _ _ ih | member _ _ _ _ ih | memberEOF _ _ _ _ ih | subscript _ _ _ _ _ ih =>
    exact ih
  | _ => intros; trivial

theorem Yields.first_ne {env : PEnv} {t : Expr} {i j : Nat} (h : Yields env t i j) {k : String}
    (hk : tableLookup k env.g.prefixs = none) : (env.peek i).kind ≠ k := by
  obtain ⟨bp, nud, _, h2⟩ := h.first
  intro hh
  rw [hh, hk] at h2
  cases h2

end Yae
