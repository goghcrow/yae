/-
  C08, exact spans.  A tree that yields the tokens `[i, j)` records the span from the start of
  token `i` to the end of token `j-1` (`Yields.span`), with token positions in source order and not overlapping
  (`PEnv.Ordered`).  For the nesting of spans (`ParseYieldNest`): `Expr.spanNested`, `spanNested_of`.
-/
import Yae.Proofs.ParseYieldSound
namespace Yae

theorem Yields.bounds {env : PEnv} : ∀ {t i j}, Yields env t i j → i < j ∧ j ≤ env.toks.size := by
  intro t i j h
  induction h using Yields.rec (motive_2 := fun _ i j _ => i ≤ j)
    (motive_3 := fun _ i j _ => i ≤ j) (motive_4 := fun _ i j _ => i ≤ j)
    (motive_5 := fun _ i j _ => i ≤ j) (motive_6 := fun _ i j _ => i ≤ j) with
  | ident h | true_ h | false_ h | num h | str h | time h => exact ⟨by omega, h.1⟩
  | emptyMap _ _ hk | group _ _ hk | list _ _ hk | map _ _ _ hk | obj _ _ hk | post _ hk
  | call _ _ _ hk | methodCall _ _ _ _ hk | subscript _ _ _ hk => have := hk.1; omega
  | _ => omega

/-- What the five list forms have in common: the expressions `es` yield consecutive ranges inside
`[i, j)`, in order (between them lie separators and field names). -/
def YChain (env : PEnv) : List Expr → Nat → Nat → Prop
  | [], i, j => i ≤ j
  | e :: es, i, j => ∃ a b, i ≤ a ∧ Yields env e a b ∧ YChain env es b j

theorem YChain.le {env : PEnv} : ∀ {es i j}, YChain env es i j → i ≤ j
  | [], _, _, h => h
  | _ :: _, _, _, ⟨_, _, h1, h2, h3⟩ => by have := h2.bounds; have := h3.le; omega

theorem YChain.from {env : PEnv} {es i i' j} (h : YChain env es i j) (hi : i' ≤ i) :
    YChain env es i' j := by
  cases es with
  | nil => exact Nat.le_trans hi h
  | cons e es => obtain ⟨a, b, h1, h2⟩ := h; exact ⟨a, b, Nat.le_trans hi h1, h2⟩

theorem YSeq.chain {env : PEnv} : ∀ {as i j}, YSeq env as i j → YChain env as i j
  | _, _, _, .one h => ⟨_, _, Nat.le_refl _, h, Nat.le_refl _⟩
  | _, _, _, .cons h _ hs => ⟨_, _, Nat.le_refl _, h, hs.chain.from (Nat.le_succ _)⟩
theorem YArgs.chain {env : PEnv} {as i j} (h : YArgs env as i j) : YChain env as i j := by
  cases h with
  | nil => exact Nat.le_refl _
  | some h => exact h.chain
theorem YElems.chain {env : PEnv} : ∀ {es i j}, YElems env es i j → YChain env es i j
  | _, _, _, .nil => Nat.le_refl _
  | _, _, _, .one h => ⟨_, _, Nat.le_refl _, h, Nat.le_refl _⟩
  | _, _, _, .cons h _ hs => ⟨_, _, Nat.le_refl _, h, hs.chain.from (Nat.le_succ _)⟩
theorem YPairs.chain {env : PEnv} :
    ∀ {ps i j}, YPairs env ps i j → YChain env (ps.flatMap fun kv => [kv.1, kv.2]) i j
  | _, _, _, .nil => Nat.le_refl _
  | _, _, _, .one hk _ hv => ⟨_, _, Nat.le_refl _, hk, _, _, Nat.le_succ _, hv, Nat.le_refl _⟩
  | _, _, _, .cons hk _ hv _ hs =>
    ⟨_, _, Nat.le_refl _, hk, _, _, Nat.le_succ _, hv, hs.chain.from (Nat.le_succ _)⟩
theorem YFields.chain {env : PEnv} :
    ∀ {fs i j}, YFields env fs i j → YChain env (fs.map fun nv => nv.2) i j
  | _, _, _, .nil => Nat.le_refl _
  | _, _, _, .one _ _ hv => ⟨_, _, by omega, hv, Nat.le_refl _⟩
  | _, _, _, .cons _ _ hv _ hs => ⟨_, _, by omega, hv, hs.chain.from (Nat.le_succ _)⟩

theorem YArgs.bounds {env : PEnv} : ∀ {t i j}, YArgs env t i j → i ≤ j := fun h => h.chain.le
theorem YSeq.bounds {env : PEnv} : ∀ {t i j}, YSeq env t i j → i ≤ j := fun h => h.chain.le
theorem YElems.bounds {env : PEnv} : ∀ {t i j}, YElems env t i j → i ≤ j := fun h => h.chain.le
theorem YPairs.bounds {env : PEnv} : ∀ {t i j}, YPairs env t i j → i ≤ j := fun h => h.chain.le
theorem YFields.bounds {env : PEnv} : ∀ {t i j}, YFields env t i j → i ≤ j := fun h => h.chain.le

theorem parseWith_yields_all {fuel : Nat} {ops : List Operator}
    {times : List (String × Int)} {toks : List Token} (hE : PEnv.NoEOF (mkEnv ops times toks))
    (htk : ∀ t ∈ toks, t.kind ≠ tkEOF) {t : Expr}
    (h : parseWith fuel ops times toks = .ok t) :
    Yields (mkEnv ops times toks) t 0 toks.length := by
  obtain ⟨j, hy, hk⟩ := parseWith_yields hE h
  have hb := hy.bounds
  have hsz := mkEnv_size ops times toks
  by_cases hj : j < toks.length
  · rw [mkEnv_peek hj] at hk
    exact (htk _ (List.getElem_mem hj) hk).elim
  · have : j = toks.length := by omega
    exact this ▸ hy

/-- Token positions are in source order and do not overlap (the conclusion of
`Yae.C09.lex_ordered`, minus the facts about the input length and the lexeme). -/
def TokensOrdered (ts : List Token) : Prop :=
  (∀ t ∈ ts, 0 ≤ t.pos.idx ∧ t.pos.idx < t.pos.idxEnd) ∧
  ts.Pairwise (fun a b => a.pos.idxEnd ≤ b.pos.idx)

instance (ts : List Token) : Decidable (TokensOrdered ts) := by
  unfold TokensOrdered; infer_instance

structure PEnv.Ordered (env : PEnv) : Prop where
  nonneg : ∀ i, i < env.toks.size → 0 ≤ (env.peek i).pos.idx
  nonempty : ∀ i, i < env.toks.size → (env.peek i).pos.idx < (env.peek i).pos.idxEnd
  apart : ∀ a b, a < b → b < env.toks.size → (env.peek a).pos.idxEnd ≤ (env.peek b).pos.idx

theorem PEnv.peek_lt (env : PEnv) {i : Nat} (h : i < env.toks.size) : env.peek i = env.toks[i] := by
  unfold PEnv.peek; rw [dif_pos h]

theorem TokensOrdered.env {ops : List Operator} {times : List (String × Int)} {toks : List Token}
    (h : TokensOrdered toks) : (mkEnv ops times toks).Ordered := by
  obtain ⟨h1, h2⟩ := h
  refine ⟨?_, ?_, ?_⟩
  · intro i hi
    rw [mkEnv_size] at hi; rw [mkEnv_peek hi]
    exact (h1 _ (List.getElem_mem hi)).1
  · intro i hi
    rw [mkEnv_size] at hi; rw [mkEnv_peek hi]
    exact (h1 _ (List.getElem_mem hi)).2
  · intro a b hab hb
    rw [mkEnv_size] at hb
    rw [mkEnv_peek (by omega), mkEnv_peek hb]
    exact (List.pairwise_iff_getElem.mp h2) a b (by omega) hb hab

theorem PEnv.Ordered.start_mono {env : PEnv} (h : env.Ordered) {a b : Nat} (hab : a ≤ b)
    (hb : b < env.toks.size) : (env.peek a).pos.idx ≤ (env.peek b).pos.idx := by
  by_cases hab' : a = b
  · subst hab'; omega
  · have := h.apart a b (by omega) hb
    have := h.nonempty a (by omega)
    omega

theorem PEnv.Ordered.end_mono {env : PEnv} (h : env.Ordered) {a b : Nat} (hab : a ≤ b)
    (hb : b < env.toks.size) : (env.peek a).pos.idxEnd ≤ (env.peek b).pos.idxEnd := by
  by_cases hab' : a = b
  · subst hab'; omega
  · have := h.apart a b (by omega) hb
    have := h.nonempty b hb
    omega

def PEnv.Span (env : PEnv) (p : Pos) (i j : Nat) : Prop :=
  i < j ∧ j ≤ env.toks.size ∧
  p = { (env.peek i).pos with idxEnd := (env.peek (j - 1)).pos.idxEnd }

theorem PEnv.span_tok (env : PEnv) {i : Nat} (h : i < env.toks.size) :
    env.Span (env.peek i).pos i (i + 1) :=
  ⟨by omega, by omega, by simp⟩

theorem PEnv.Span.range {env : PEnv} {a b rg : Pos} {i j i' k : Nat} (ha : env.Span a i j)
    (hb : env.Span b i' k) (h : Pos.range a b = .ok rg) (hjk : j ≤ k) : env.Span rg i k := by
  obtain ⟨_, rfl⟩ := range_ok h
  obtain ⟨h1, h2, rfl⟩ := ha
  obtain ⟨h3, h4, rfl⟩ := hb
  exact ⟨by omega, h4, rfl⟩

/-- `o .` at the end of the input (`Yields.memberEOF`) does not occur with ordered tokens: the index
of `lexer.EOF` is `-1`, so `pos.Range` fails. -/
theorem PEnv.Span.not_range_eof {env : PEnv} (ho : env.Ordered) {p rg : Pos} {i j : Nat}
    (hs : env.Span p i j) (hg : Pos.range p eofToken.pos = .ok rg) : False := by
  obtain ⟨h1, _⟩ := range_ok hg
  obtain ⟨h2, h3, rfl⟩ := hs
  have h5 := ho.nonneg _ (Nat.lt_of_lt_of_le h2 h3)
  have h6 : eofToken.pos.idx = -1 := rfl
  rw [h6] at h1
  simp only at h1
  omega

theorem Yields.span {env : PEnv} (ho : env.Ordered) :
    ∀ {t i j}, Yields env t i j → env.Span t.pos i j := by
  intro t i j h
  induction h using Yields.rec (motive_2 := fun _ _ _ _ => True) (motive_3 := fun _ _ _ _ => True)
    (motive_4 := fun _ _ _ _ => True) (motive_5 := fun _ _ _ _ => True)
    (motive_6 := fun _ _ _ _ => True) with
  | ident h | true_ h | false_ h | num h | str h => exact env.span_tok h.1
  | time h he =>
    obtain ⟨v, rfl⟩ := timeLit_ok he
    exact env.span_tok h.1
  | group h he hk hr | list h he hk hr | map h he _ hk hr | obj h he hk hr =>
    exact (env.span_tok h.1).range (env.span_tok hk.1) hr (by have := he.bounds; omega)
  | pre h he hr ih => exact (env.span_tok h.1).range ih hr (by have := he.bounds; omega)
  | emptyMap h _ h2 hr => exact (env.span_tok h.1).range (env.span_tok h2.1) hr (by omega)
  | binary _ _ _ hr hg ihl ihr => exact ihl.range ihr hg (by have := hr.bounds; omega)
  | post _ hd hg ihl => exact ihl.range (env.span_tok hd.1) hg (by omega)
  | ternary _ _ hm _ hr hg ihl _ ihr =>
    exact ihl.range ihr hg (by have := hm.bounds; have := hr.bounds; omega)
  | call _ _ ha hk hg ihc | methodCall _ _ _ ha hk hg ihc | subscript _ _ ha hk hg ihc =>
    exact ihc.range (env.span_tok hk.1) hg (by have := ha.bounds; omega)
  | member _ _ hi hg ihl => exact ihl.range (env.span_tok hi) hg (by omega)
  | memberEOF _ _ _ hg ihl => exact (ihl.not_range_eof ho hg).elim
  | _ => intros; trivial

def posList : ExprList → List Pos
  | .nil => []
  | .cons e es => e.pos :: posList es
def posPairs : PairList → List Pos
  | .nil => []
  | .cons k v ps => k.pos :: v.pos :: posPairs ps
def posFields : FieldEList → List Pos
  | .nil => []
  | .cons _ e fs => e.pos :: posFields fs

/-- The spans of the parts of a node in source order: its children and, where the node records
it, the position of its operator / field-name token. -/
def Expr.parts : Expr → List Pos
  | .list _ es _ => posList es
  | .map _ ps _ => posPairs ps
  | .obj _ fs _ => posFields fs
  | .call _ _ c as _ _ _ => c.pos :: posList as
  | .subscript _ _ v i _ => [v.pos, i.pos]
  | .member _ _ o _ fp _ _ => [o.pos, fp]
  | .unary _ _ np e true => [np, e.pos]
  | .unary _ _ np e false => [e.pos, np]
  | .binary _ _ np _ l r => [l.pos, np, r.pos]
  | .ternary _ _ np l m r => [l.pos, np, m.pos, r.pos]
  | .group _ e => [e.pos]
  | _ => []

def Expr.spanNested (e : Expr) : Prop :=
  e.pos.idx < e.pos.idxEnd ∧
  (∀ p ∈ e.parts, e.pos.idx ≤ p.idx ∧ p.idx < p.idxEnd ∧ p.idxEnd ≤ e.pos.idxEnd) ∧
  e.parts.Pairwise (fun a b => a.idxEnd ≤ b.idx)

def PEnv.Placed (env : PEnv) : List Pos → Nat → Nat → Prop
  | [], i, j => i ≤ j
  | p :: ps, i, j => ∃ a b, i ≤ a ∧ env.Span p a b ∧ env.Placed ps b j

theorem PEnv.Placed.le {env : PEnv} : ∀ {ps i j}, env.Placed ps i j → i ≤ j
  | [], _, _, h => h
  | _ :: _, _, _, ⟨_, _, h1, h2, h3⟩ => by have := h3.le; have := h2.1; omega

theorem PEnv.Placed.weaken {env : PEnv} {ps i i' j j'} (h : env.Placed ps i j) (hi : i' ≤ i)
    (hj : j ≤ j') : env.Placed ps i' j' := by
  induction ps generalizing i i' with
  | nil => simp only [PEnv.Placed] at *; omega
  | cons p ps ih =>
    obtain ⟨a, b, h1, h2, h3⟩ := h
    exact ⟨a, b, by omega, h2, ih h3 (Nat.le_refl _)⟩

theorem YChain.placed {env : PEnv} (ho : env.Ordered) :
    ∀ {es i j}, YChain env es i j → env.Placed (es.map Expr.pos) i j
  | [], _, _, h => h
  | _ :: _, _, _, ⟨a, b, h1, h2, h3⟩ => ⟨a, b, h1, h2.span ho, h3.placed ho⟩

theorem PEnv.Span.facts {env : PEnv} (ho : env.Ordered) {p : Pos} {a b : Nat} (h : env.Span p a b) :
    p.idx = (env.peek a).pos.idx ∧ p.idxEnd = (env.peek (b - 1)).pos.idxEnd ∧ p.idx < p.idxEnd := by
  obtain ⟨h1, h2, rfl⟩ := h
  refine ⟨rfl, rfl, ?_⟩
  have := ho.nonempty a (by omega)
  have := ho.end_mono (a := a) (b := b - 1) (by omega) (by omega)
  simp only
  omega

theorem PEnv.Placed.inside {env : PEnv} (ho : env.Ordered) {P : Pos} {i0 j0 : Nat}
    (hP : env.Span P i0 j0) :
    ∀ {ps i j}, env.Placed ps i j → i0 ≤ i → j ≤ j0 →
      (∀ p ∈ ps, P.idx ≤ p.idx ∧ p.idx < p.idxEnd ∧ p.idxEnd ≤ P.idxEnd ∧
        (env.peek i).pos.idx ≤ p.idx) ∧
      ps.Pairwise (fun a b => a.idxEnd ≤ b.idx)
  | [], _, _, _, _, _ => by simp
  | p :: ps, i, j, ⟨a, b, h1, h2, h3⟩, hi, hj => by
    have ih := PEnv.Placed.inside ho hP h3 (by have := h2.1; omega) hj
    obtain ⟨f1, f2, f3⟩ := h2.facts ho
    obtain ⟨g1, g2, g3⟩ := hP.facts ho
    have hb := h3.le
    have ha := h2.1
    have hb2 := h2.2.1
    have hj0 := hP.2.1
    have e1 := ho.start_mono (a := i0) (b := a) (by omega) (by omega)
    have e2 := ho.end_mono (a := b - 1) (b := j0 - 1) (by omega) (by omega)
    have e3 := ho.start_mono (a := i) (b := a) (by omega) (by omega)
    -- a further part lies at or after token `b`, so that token exists
    have next : ∀ q ∈ ps, b < env.toks.size := fun q hq => by
      cases ps with
      | nil => simp at hq
      | cons r rs =>
        obtain ⟨a', b', l1, l2, _⟩ := h3
        have := l2.1; have := l2.2.1; omega
    refine ⟨fun q hq => ?_, List.pairwise_cons.mpr ⟨fun q hq => ?_, ih.2⟩⟩
    · rcases List.mem_cons.mp hq with rfl | hq
      · exact ⟨by omega, f3, by omega, by omega⟩
      · obtain ⟨k1, k2, k3, k4⟩ := ih.1 q hq
        have := ho.start_mono (a := i) (b := b) (by omega) (next q hq)
        exact ⟨k1, k2, k3, by omega⟩
    · obtain ⟨k1, k2, k3, k4⟩ := ih.1 q hq
      have := ho.apart (b - 1) b (by omega) (next q hq)
      omega

theorem spanNested_of {env : PEnv} (ho : env.Ordered) {e : Expr} {i j : Nat}
    (hs : env.Span e.pos i j) (hp : env.Placed e.parts i j) : e.spanNested := by
  obtain ⟨h1, h2⟩ := PEnv.Placed.inside ho hs hp (Nat.le_refl _) (Nat.le_refl _)
  exact ⟨(hs.facts ho).2.2, fun p hp' => by obtain ⟨a, b, c, _⟩ := h1 p hp'; exact ⟨a, b, c⟩, h2⟩

theorem posList_ofList (l : List Expr) : posList (ExprList.ofList l) = l.map Expr.pos := by
  induction l with
  | nil => rfl
  | cons a l ih => simp [ExprList.ofList, posList, ih]

theorem posPairs_ofList (l : List (Expr × Expr)) :
    posPairs (PairList.ofList l) = l.flatMap (fun kv => [kv.1.pos, kv.2.pos]) := by
  induction l with
  | nil => rfl
  | cons a l ih => obtain ⟨k, v⟩ := a; simp [PairList.ofList, posPairs, ih]

theorem posFields_ofList (l : List (String × Expr)) :
    posFields (FieldEList.ofList l) = l.map (fun nv => nv.2.pos) := by
  induction l with
  | nil => rfl
  | cons a l ih => obtain ⟨k, v⟩ := a; simp [FieldEList.ofList, posFields, ih]

end Yae
