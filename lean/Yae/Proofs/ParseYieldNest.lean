/-
  C08, span nesting: in a tree that yields a token range (positions in source order),
  `Expr.spanNested` holds at EVERY node.  Every node yields a range of its own (`Yields.all_sub`),
  so it is enough to look at the root.
-/
import Yae.Proofs.ParseYieldAll
namespace Yae

theorem Expr.all_iff {P : Expr → Prop} (e : Expr) : e.All P → P e := Expr.All.here

theorem Yields.spanNested {env : PEnv} (ho : env.Ordered) {t : Expr} {i j : Nat}
    (h : Yields env t i j) : t.spanNested := by
  have hs := h.span ho
  have hb := h.bounds
  cases h with
  | ident | true_ | false_ | num | str | emptyMap => exact spanNested_of ho hs (Nat.le_of_lt hb.1)
  | time _ he => obtain ⟨v, rfl⟩ := timeLit_ok he; exact spanNested_of ho hs (Nat.le_of_lt hb.1)
  | group _ he => exact spanNested_of ho hs ⟨_, _, Nat.le_succ _, he.span ho, Nat.le_succ _⟩
  | pre hn he =>
    exact spanNested_of ho hs ⟨_, _, Nat.le_refl _, env.span_tok hn.1,
      _, _, Nat.le_refl _, he.span ho, Nat.le_refl _⟩
  | list _ he =>
    refine spanNested_of ho hs ?_
    simp only [Expr.parts, posList_ofList]
    exact (he.chain.placed ho).weaken (Nat.le_succ _) (Nat.le_succ _)
  | map _ he =>
    refine spanNested_of ho hs ?_
    simp only [Expr.parts, posPairs_ofList]
    have := he.chain.placed ho
    rw [List.map_flatMap] at this
    exact this.weaken (Nat.le_succ _) (Nat.le_succ _)
  | obj _ he =>
    refine spanNested_of ho hs ?_
    simp only [Expr.parts, posFields_ofList]
    have := he.chain.placed ho
    rw [List.map_map] at this
    exact this.weaken (Nat.le_succ _) (Nat.le_succ _)
  | binary hl hd _ hr =>
    exact spanNested_of ho hs ⟨_, _, Nat.le_refl _, hl.span ho, _, _, Nat.le_refl _,
      env.span_tok hd.1, _, _, Nat.le_refl _, hr.span ho, Nat.le_refl _⟩
  | post hl hd =>
    exact spanNested_of ho hs ⟨_, _, Nat.le_refl _, hl.span ho, _, _, Nat.le_refl _,
      env.span_tok hd.1, Nat.le_refl _⟩
  | ternary hl hd hm _ hr =>
    exact spanNested_of ho hs ⟨_, _, Nat.le_refl _, hl.span ho, _, _, Nat.le_refl _,
      env.span_tok hd.1, _, _, Nat.le_refl _, hm.span ho, _, _, Nat.le_succ _, hr.span ho,
      Nat.le_refl _⟩
  | call hc _ ha | methodCall hc _ _ ha =>
    refine spanNested_of ho hs ?_
    simp only [Expr.parts, posList_ofList]
    exact ⟨_, _, Nat.le_refl _, hc.span ho,
      (ha.chain.placed ho).weaken (Nat.le_succ _) (Nat.le_succ _)⟩
  | member hl _ hi =>
    exact spanNested_of ho hs ⟨_, _, Nat.le_refl _, hl.span ho, _, _, Nat.le_succ _,
      env.span_tok hi, Nat.le_refl _⟩
  | memberEOF hl _ _ hg => exact ((hl.span ho).not_range_eof ho hg).elim
  | subscript hv _ hx =>
    exact spanNested_of ho hs ⟨_, _, Nat.le_refl _, hv.span ho, _, _, Nat.le_succ _, hx.span ho,
      Nat.le_succ _⟩

theorem Yields.nested {env : PEnv} (ho : env.Ordered) :
    ∀ {t i j}, Yields env t i j → t.All Expr.spanNested :=
  fun h => Expr.All.imp (fun _ ⟨_, _, _, _, hn⟩ => hn.spanNested ho) h.all_sub

theorem SubYield.nested {env : PEnv} (ho : env.Ordered) {i j : Nat} {e : Expr}
    (h : SubYield env i j e) : e.All Expr.spanNested :=
  have ⟨_, _, _, _, h3⟩ := h
  h3.nested ho

theorem YArgs.nested {env : PEnv} (ho : env.Ordered) :
    ∀ {as i j}, YArgs env as i j →
      (∀ e ∈ as, e.All Expr.spanNested) ∧ env.Placed (as.map Expr.pos) i j :=
  fun h => ⟨fun e he => (h.chain.sub e he).nested ho, h.chain.placed ho⟩
theorem YSeq.nested {env : PEnv} (ho : env.Ordered) :
    ∀ {as i j}, YSeq env as i j →
      (∀ e ∈ as, e.All Expr.spanNested) ∧ env.Placed (as.map Expr.pos) i j :=
  fun h => ⟨fun e he => (h.chain.sub e he).nested ho, h.chain.placed ho⟩
theorem YElems.nested {env : PEnv} (ho : env.Ordered) :
    ∀ {as i j}, YElems env as i j →
      (∀ e ∈ as, e.All Expr.spanNested) ∧ env.Placed (as.map Expr.pos) i j :=
  fun h => ⟨fun e he => (h.chain.sub e he).nested ho, h.chain.placed ho⟩
theorem YPairs.nested {env : PEnv} (ho : env.Ordered) :
    ∀ {ps i j}, YPairs env ps i j →
      (∀ kv ∈ ps, kv.1.All Expr.spanNested ∧ kv.2.All Expr.spanNested) ∧
      env.Placed (ps.flatMap (fun kv => [kv.1.pos, kv.2.pos])) i j :=
  fun h => ⟨fun kv hkv =>
    ⟨(h.chain.sub _ (List.mem_flatMap.mpr ⟨kv, hkv, by simp⟩)).nested ho,
      (h.chain.sub _ (List.mem_flatMap.mpr ⟨kv, hkv, by simp⟩)).nested ho⟩,
    by have := h.chain.placed ho; rwa [List.map_flatMap] at this⟩
theorem YFields.nested {env : PEnv} (ho : env.Ordered) :
    ∀ {fs i j}, YFields env fs i j →
      (∀ nv ∈ fs, nv.2.All Expr.spanNested) ∧ env.Placed (fs.map (fun nv => nv.2.pos)) i j :=
  fun h => ⟨fun nv hnv => (h.chain.sub _ (List.mem_map.mpr ⟨nv, hnv, rfl⟩)).nested ho,
    by have := h.chain.placed ho; rwa [List.map_map] at this⟩

end Yae
