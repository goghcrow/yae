/-
  C18 on primitives.  `int64(x)` is injective on integral doubles inside the int64 range (up to `2^63`, far beyond
  `2^53`), except that `+0` and `-0` both give `0`: this part of "distinct numbers never render alike" needs no
  assumption; the rest is relative to the explicit `FloatFacts`.  Then: `==`, rendering and map-key identity agree
  on separated numbers, strings and booleans.
-/
import Yae.Proofs.ValRelEq
import Yae.Proofs.NumBits
namespace Yae.Num

theorem eq_of_fields (a b : UInt64) (hs : signBit a = signBit b) (he : expField a = expField b)
    (hf : fracField a = fracField b) : a = b := by
  apply UInt64.toNat_inj.mp
  have ha := a.toNat_lt
  have hb := b.toNat_lt
  rw [expField_toNat, expField_toNat] at he
  rw [fracField_toNat, fracField_toNat] at hf
  have hs' : (2 ^ 63 ≤ a.toNat) ↔ (2 ^ 63 ≤ b.toNat) := by
    rw [← signBit_iff, ← signBit_iff, hs]
  omega

theorem low_zero_of_and_not (b m : UInt64) (s : Nat) (hm : m.toNat = 2 ^ s - 1)
    (h : b &&& ~~~m = b) : b.toNat % 2 ^ s = 0 := by
  have h0 : b &&& m = 0 := by
    rw [← h, UInt64.and_assoc]
    simp
  have := congrArg UInt64.toNat h0
  rw [UInt64.toNat_and, hm, Nat.and_two_pow_sub_one_eq_mod] at this
  simpa using this

theorem shiftNat_nonneg (m : Nat) (E : Nat) (h : 1075 ≤ E) :
    shiftNat m ((E : Int) - 1075) = m * 2 ^ (E - 1075) := by
  have : ((E : Int) - 1075) = ((E - 1075 : Nat) : Int) := by omega
  rw [this]
  show m <<< (E - 1075) = _
  rw [Nat.shiftLeft_eq]

theorem shiftNat_lt (m : Nat) (E : Nat) (h : E < 1075) :
    shiftNat m ((E : Int) - 1075) = m / 2 ^ (1075 - E) := by
  have : ((E : Int) - 1075) = -((1075 - E : Nat) : Int) := by omega
  rw [this, shiftNat_neg, Nat.shiftRight_eq_div_pow]

theorem toInt64Bits_eq (b : UInt64) (m : Nat) (hE : expField b ≠ 2047)
    (hm : shiftNat (decompose b).1 (decompose b).2 = m) (h1 : m ≤ 2 ^ 63)
    (h2 : signBit b = false → m < 2 ^ 63) :
    toInt64Bits b = if signBit b then -(m : Int) else (m : Int) := by
  unfold toInt64Bits
  have : (expField b == 2047) = false := by simpa using hE
  simp only [this, hm, minInt64, Bool.false_eq_true, if_false]
  cases hs : signBit b
  · have := h2 hs
    simp
    omega
  · simp
    omega

theorem normalized_lt (M M' k k' : Nat) (h2 : M < 2 ^ 53) (h1' : 2 ^ 52 ≤ M') (hk : k < k') :
    M * 2 ^ k < M' * 2 ^ k' := by
  have hp : 2 ^ (k + 1) ≤ 2 ^ k' := Nat.pow_le_pow_right (by decide) (by omega)
  rw [Nat.pow_succ] at hp
  have hpos : 0 < 2 ^ k := Nat.pow_pos (by decide)
  have a1 : M * 2 ^ k < 2 ^ 53 * 2 ^ k := Nat.mul_lt_mul_of_pos_right h2 hpos
  have a2 : 2 ^ 52 * 2 ^ k' ≤ M' * 2 ^ k' := Nat.mul_le_mul_right _ h1'
  omega

theorem isIntBits_cases (b : UInt64) (h : isIntBits b = true) :
    bitsIsZero b = true ∨
    (1023 ≤ expField b ∧
     (toInt64Bits b).natAbs * 2 ^ 52 = (fracField b + 2 ^ 52) * 2 ^ (expField b - 1023) ∧
     ((toInt64Bits b < 0) ↔ signBit b = true)) := by
  unfold isIntBits at h
  simp only [Bool.and_eq_true] at h
  obtain ⟨hint, hrange⟩ := h
  have hf52 : fracField b < 2 ^ 52 := by
    rw [fracField_toNat]; exact Nat.mod_lt _ (Nat.two_pow_pos 52)
  -- range: E ≤ 1086, and E = 1086 only for -2^63
  have hr : expField b ≤ 1086 ∧ (expField b = 1086 → signBit b = true ∧ fracField b = 0) := by
    unfold inInt64RangeBits at hrange
    have e : twoPow63Bits.toNat = 1086 * 2 ^ 52 := by decide
    simp only [magMask_toNat, e] at hrange
    have hr63 : b.toNat % 2 ^ 63 = expField b * 2 ^ 52 + fracField b := by
      rw [expField_toNat, fracField_toNat]; omega
    rw [hr63] at hrange
    cases hs : signBit b <;> simp [hs] at hrange ⊢ <;> omega
  unfold isIntegralBits at hint
  simp only [Bool.and_eq_true, Bool.not_eq_true', beq_iff_eq] at hint
  obtain ⟨hnan, htr⟩ := hint
  unfold truncBits at htr
  by_cases hlow : expField b < 1023
  · -- only the sign bit may be set
    left
    simp only [hlow, if_true] at htr
    have hsm : signMask = ~~~magMask := by decide
    rw [hsm] at htr
    have := low_zero_of_and_not b magMask 63 (by decide) htr
    unfold bitsIsZero
    simp only [beq_iff_eq]
    apply UInt64.toNat_inj.mp
    rw [magMask_toNat, this]; rfl
  · right
    have hE1 : 1023 ≤ expField b := by omega
    refine ⟨hE1, ?_⟩
    simp only [hlow, if_false] at htr
    have hD : decompose b = (fracField b + 2 ^ 52, (expField b : Int) - 1075) := by
      unfold decompose
      have : (expField b == 0) = false := by simp; omega
      simp [this]
    have hM1 : 2 ^ 52 ≤ fracField b + 2 ^ 52 := by omega
    have hM2 : fracField b + 2 ^ 52 < 2 ^ 53 := by omega
    generalize hMd : fracField b + 2 ^ 52 = M at *
    -- the magnitude `m` with `m * 2^52 = M * 2^(E - 1023)`
    have hm : ∃ m, shiftNat M ((expField b : Int) - 1075) = m ∧
        m * 2 ^ 52 = M * 2 ^ (expField b - 1023) := by
      by_cases hge : 1075 ≤ expField b
      · refine ⟨_, shiftNat_nonneg M _ hge, ?_⟩
        rw [Nat.mul_assoc, ← Nat.pow_add, show expField b - 1075 + 52 = expField b - 1023 by omega]
      · have hlt : expField b < 1075 := by omega
        simp only [hge, if_false] at htr
        have e : expField b - 1023 = 52 - (1075 - expField b) := by omega
        rw [e] at htr
        have hz := low_zero_of_and_not b _ (1075 - expField b)
          (fracMask_shift (1075 - expField b) (by omega)) htr
        have h52 : (2 : Nat) ^ 52 = 2 ^ (1075 - expField b) * 2 ^ (expField b - 1023) := by
          rw [← Nat.pow_add, show 1075 - expField b + (expField b - 1023) = 52 by omega]
        have hdiv : M % 2 ^ (1075 - expField b) = 0 := by
          rw [← hMd, h52, Nat.add_mul_mod_self_left, fracField_toNat, h52, Nat.mod_mul_right_mod]
          exact hz
        refine ⟨_, shiftNat_lt M _ hlt, ?_⟩
        rw [h52, ← Nat.mul_assoc, Nat.div_mul_cancel (Nat.dvd_of_mod_eq_zero hdiv)]
    obtain ⟨m, hsm, hmk⟩ := hm
    have hpos : 0 < m := by
      apply Nat.pos_of_mul_pos_right (b := 2 ^ 52)
      rw [hmk]
      exact Nat.mul_pos (by omega) (Nat.pow_pos (by decide))
    have hbound : m ≤ 2 ^ 63 ∧ (signBit b = false → m < 2 ^ 63) := by
      by_cases h86 : expField b = 1086
      · obtain ⟨hsg, hf0⟩ := hr.2 h86
        have hM : M = 2 ^ 52 := by omega
        rw [h86, hM] at hmk
        have : m = 2 ^ 63 := by
          have h' : m * 2 ^ 52 = 2 ^ 63 * 2 ^ 52 := by rw [hmk, Nat.mul_comm]
          exact Nat.eq_of_mul_eq_mul_right (by decide) h'
        refine ⟨by omega, fun hs => ?_⟩
        rw [hs] at hsg; cases hsg
      · have h2 := normalized_lt M (2 ^ 52) (expField b - 1023) 63 hM2 (Nat.le_refl _) (by omega)
        have : m < 2 ^ 63 := by omega
        exact ⟨by omega, fun _ => this⟩
    have hE2047 : expField b ≠ 2047 := by omega
    have hval := toInt64Bits_eq b m hE2047 (by rw [hD]; exact hsm) hbound.1 hbound.2
    rw [hval]
    cases hs : signBit b
    · simp; exact hmk
    · simp; exact ⟨hmk, by omega⟩

theorem normalized_unique (M M' k k' : Nat) (h1 : 2 ^ 52 ≤ M) (h2 : M < 2 ^ 53)
    (h1' : 2 ^ 52 ≤ M') (h2' : M' < 2 ^ 53) (h : M * 2 ^ k = M' * 2 ^ k') : k = k' ∧ M = M' := by
  have hk : k = k' := by
    apply Decidable.byContradiction
    intro hne
    rcases Nat.lt_or_gt_of_ne hne with hlt | hgt
    · have := normalized_lt M M' k k' h2 h1' hlt; omega
    · have := normalized_lt M' M k' k h2' h1 hgt; omega
  subst hk
  exact ⟨rfl, Nat.eq_of_mul_eq_mul_right (Nat.pow_pos (by decide)) h⟩

theorem toInt64Bits_zero (b : UInt64) (h : bitsIsZero b = true) : toInt64Bits b = 0 := by
  unfold bitsIsZero at h
  simp only [beq_iff_eq] at h
  have h' := congrArg UInt64.toNat h
  rw [magMask_toNat, UInt64.toNat_zero] at h'
  have hlt := b.toNat_lt
  have : b = 0 ∨ b = signMask := by
    have h0 : b.toNat = 0 ∨ b.toNat = 2 ^ 63 := by omega
    rcases h0 with h0 | h0
    · left; apply UInt64.toNat_inj.mp; rw [h0]; rfl
    · right; apply UInt64.toNat_inj.mp; rw [h0]; decide
  rcases this with rfl | rfl <;> decide

/-- the second alternative of `isIntBits_cases` excludes `int64(x) = 0` -/
theorem toInt64Bits_ne_zero {b : UInt64}
    (hv : (toInt64Bits b).natAbs * 2 ^ 52 = (fracField b + 2 ^ 52) * 2 ^ (expField b - 1023)) :
    toInt64Bits b ≠ 0 := by
  intro hz
  rw [hz, Int.natAbs_zero, Nat.zero_mul] at hv
  exact Nat.ne_of_lt (Nat.mul_pos (by omega) (Nat.pow_pos (by decide))) hv

theorem toInt64Bits_injective (a b : UInt64) (ha : isIntBits a = true) (hb : isIntBits b = true)
    (h : toInt64Bits a = toInt64Bits b) :
    a = b ∨ (bitsIsZero a = true ∧ bitsIsZero b = true) := by
  rcases isIntBits_cases a ha with hza | ⟨ha1, hav, has⟩ <;>
    rcases isIntBits_cases b hb with hzb | ⟨hb1, hbv, hbs⟩
  · exact Or.inr ⟨hza, hzb⟩
  · exact absurd (h ▸ toInt64Bits_zero a hza) (toInt64Bits_ne_zero hbv)
  · exact absurd (h ▸ toInt64Bits_zero b hzb) (toInt64Bits_ne_zero hav)
  · left
    have hfa : fracField a < 2 ^ 52 := by rw [fracField_toNat]; omega
    have hfb : fracField b < 2 ^ 52 := by rw [fracField_toNat]; omega
    rw [h] at hav has
    have hu := normalized_unique _ _ _ _ (by omega) (by omega) (by omega) (by omega)
      (hav.symm.trans hbv)
    apply eq_of_fields
    · rw [Bool.eq_iff_iff, ← has, ← hbs]
    · omega
    · omega

end Yae.Num

namespace Yae
open Num

/-- Rendering of numbers is injective on bit patterns, except that `+0` and `-0` both give `0`
(and NaN payloads, which `Float.toBits` does not expose). -/
theorem renderNumBits_inj (F : FloatFacts) (a b : UInt64)
    (hnan : bitsIsNaN a = true → bitsIsNaN b = true → a = b)
    (h : renderNumBits a = renderNumBits b) :
    a = b ∨ (bitsIsZero a = true ∧ bitsIsZero b = true) := by
  unfold renderNumBits at h
  cases ha : isIntBits a <;> cases hb : isIntBits b <;> simp only [ha, hb, if_true, if_false,
    Bool.false_eq_true] at h
  · rcases F.fmtFloat_injective a b ha hb h with h' | h'
    · exact Or.inl h'
    · exact Or.inl (hnan h'.1 h'.2)
  · exact absurd h.symm (F.fmtInt_ne_fmtFloat b a hb ha)
  · exact absurd h (F.fmtInt_ne_fmtFloat a b ha hb)
  · exact toInt64Bits_injective a b ha hb (fmtInt_injective h)

theorem renderNum_inj (F : FloatFacts) (x y : Float) (h : renderNum x = renderNum y) :
    x.toBits = y.toBits ∨ (bitsIsZero x.toBits = true ∧ bitsIsZero y.toBits = true) :=
  renderNumBits_inj F _ _ (F.nan_bits_unique x y) h

def Val.isNSB : Val → Prop
  | .num _ | .str _ | .bool _ => True
  | _ => False

theorem prim_valEq_iff_render (F : FloatFacts) {x y : Val} (hp : x.isNSB) (hs : Sep x y) :
    valEq x y = true ↔ x.render = y.render := by
  cases hs <;> simp only [Val.isNSB] at hp
  case num a b hiff =>
    simp only [valEq_num, Val.render]
    constructor
    · intro h; simp [renderNum, hiff.1 h]
    · intro h
      rcases renderNum_inj F a b h with h' | h'
      · exact hiff.2 h'
      · exact F.numEQ_zeros a b h'.1 h'.2
  case str a b =>
    simp only [valEq_str, Val.render, beq_iff_eq]
    exact ⟨fun h => by rw [h], quote_injective⟩
  case bool a b =>
    simp only [valEq_bool, Val.render, beq_iff_eq]
    exact (boolText_inj a b).symm

theorem prim_render_iff_key {x y : Val} (hp : x.isNSB) (hs : Sep x y) :
    x.render = y.render ↔ x.key? = y.key? := by
  cases hs <;> simp only [Val.isNSB] at hp <;> simp [Val.render, Val.key?]

theorem prim_valEq_iff_key (F : FloatFacts) {x y : Val} (hp : x.isNSB) (hs : Sep x y) :
    valEq x y = true ↔ x.key? = y.key? :=
  (prim_valEq_iff_render F hp hs).trans (prim_render_iff_key hp hs)

/-- the converse needs the injectivity of the calendar rendering: `key_eq_iff_valEq` (`ValRelText`) -/
theorem time_valEq_imp_key {a b : TimeV} (hs : Sep (.time a) (.time b))
    (h : valEq (.time a) (.time b) = true) : (Val.time a).key? = (Val.time b).key? := by
  cases hs with
  | time hz => rw [TimeV.eq_of_equal (valEq_inv h) (hz (valEq_inv h))]

theorem find?_key_congr (F : FloatFacts) {x y : Val} (hp : x.isNSB) (hs : Sep x y)
    (t : Kind) (k : String) (hx : x.key? = some (t, k)) :
    valEq x y = true ↔ y.key? = some (t, k) := by
  rw [prim_valEq_iff_key F hp hs, hx]
  exact eq_comm

end Yae
