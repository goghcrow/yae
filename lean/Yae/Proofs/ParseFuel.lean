/-
  What a run of the parser costs (C12).  With no `<END-OF-FILE>` entry in the grammar every call
  of `pExpr` eats a token, every round of `pInfix` the operator token, every further round of
  the other loops a `,`, and the closing bracket pays for the round that stops.  One induction
  on the fuel over the seven instrumented functions (`RunAt`).  The fuel bounds the depth of the
  chain of calls, which is at most their number: the bound on the fuel needed follows (`fuel_le`).
-/
import Yae.Proofs.ParseCostErase
import Yae.Proofs.ParseGrammar
namespace Yae

/-- Both sides see the count, which sits outside the `Except`. -/
def PResC.Sat {α : Type} (r : PResC α) (E : ParseErr → Nat → Prop) (Q : α → Nat → Nat → Prop) :
    Prop :=
  match r with
  | (.error e, c) => E e c
  | (.ok (x, j), c) => Q x j c

namespace PResC.Sat
variable {α : Type} {E : ParseErr → Nat → Prop} {Q : α → Nat → Nat → Prop}

theorem error_eq {e : ParseErr} {c : Nat} : Sat (α := α) (.error e, c) E Q = E e c := rfl
theorem ok_eq {x : α} {j c : Nat} : Sat (.ok (x, j), c) E Q = Q x j c := rfl

theorem of_forall {r : PResC α} (hE : ∀ e c, r = (.error e, c) → E e c)
    (hQ : ∀ x j c, r = (.ok (x, j), c) → Q x j c) : r.Sat E Q := by
  obtain ⟨_ | ⟨x, j⟩, c⟩ := r
  · exact hE _ _ rfl
  · exact hQ _ _ _ rfl

theorem tick_of_forall {r : PResC α} {k : Nat} (hE : ∀ e c, r = (.error e, c) → E e (k + c + 1))
    (hQ : ∀ x j c, r = (.ok (x, j), c) → Q x j (k + c + 1)) : (r.tick k).Sat E Q := by
  obtain ⟨_ | ⟨x, j⟩, c⟩ := r
  · exact hE _ _ rfl
  · exact hQ _ _ _ rfl

/-- As a `simp` rule this turns an equation for a call's outcome into what it entails; it keeps the
equation with its sides swapped, so that the rule does not apply to its own result. -/
theorem of_eq {r : PResC α} (h : r.Sat E Q) (v : PResC α) : (r = v) = (v = r ∧ v.Sat E Q) := by
  refine propext ⟨?_, fun h => h.1.symm⟩
  rintro rfl; exact ⟨rfl, h⟩

end PResC.Sat

/-- A run at fuel `f`: an error `.fuel` comes after more than `f` calls (the chain of calls that
ran out is `f + 1` deep).  From a cursor `i ≤ n`: an error comes after at most `2 * (n - i) + d`
calls, whatever the fuel; a value comes with a cursor `j ≤ n`, `i + p ≤ j`, after at most
`2 * (j - i) + s` calls.  (Written without subtraction.) -/
def PEnv.Run (env : PEnv) (f i d p s : Nat) {α : Type} (r : PResC α) : Prop :=
  r.Sat
    (fun e c => (e = .fuel → f < c) ∧ (i ≤ env.toks.size → c + 2 * i ≤ 2 * env.toks.size + d))
    (fun _ j c => i ≤ env.toks.size → i + p ≤ j ∧ j ≤ env.toks.size ∧ c + 2 * i ≤ 2 * j + s)

/-- the three constants are the `d p s` of `PEnv.Run` -/
structure RunAt (env : PEnv) (f : Nat) : Prop where
  exprR : ∀ rbp i, env.Run f i 1 1 0 (pExprC env f rbp i)
  infixR : ∀ l rbp i, env.Run f i 2 0 1 (pInfixC env f l rbp i)
  callR : ∀ cl t i, env.Run f i 3 0 0 (pCallC env f cl t i)
  argsR : ∀ acc i, env.Run f i 2 0 1 (pArgsC env f acc i)
  listR : ∀ acc i, env.Run f i 2 0 1 (pListC env f acc i)
  mapR : ∀ acc i, env.Run f i 2 0 1 (pMapC env f acc i)
  objR : ∀ acc i, env.Run f i 2 0 1 (pObjC env f acc i)

theorem ite_eq_eq {α : Type} {p : Prop} [Decidable p] (a b v : α) :
    ((if p then a else b) = v) = (p ∧ a = v ∨ ¬p ∧ b = v) := by
  split <;> simp [*]

theorem PEnv.timeLit_error_eq {env : PEnv} (t : Token) (e : ParseErr) :
    (env.timeLit t = .error e) = (.error e = env.timeLit t ∧ e ≠ .fuel) := by
  refine propext ⟨fun h => ⟨h.symm, ?_⟩, fun h => h.1.symm⟩
  unfold PEnv.timeLit at h
  simp only at h
  repeat' split at h
  all_goals (cases h; try simp)

/- Step lemmas: `fun_cases` leaves one goal per path with an equation for every call and test on
it; these are rewritten into what they entail (the induction hypothesis, `mustEat_ok_eq` …), and
linear arithmetic over the cursors and counts of the path is left. -/

theorem run_nud {env : PEnv} {f : Nat} (ih : RunAt env f) (t : Token) (i : Nat) (bp : BP)
    (nud : Nud) : env.Run f i 2 0 0 (nudResC env f t i bp nud) := by
  fun_cases nudResC env f t i bp nud
  all_goals
    simp (config := { zetaDelta := true }) only [ite_eq_eq, Prod.mk.injEq, Except.ok.injEq,
      reduceCtorEq, false_and, and_false, or_false, (ih.exprR _ _).of_eq, (ih.listR _ _).of_eq,
      (ih.mapR _ _).of_eq, (ih.objR _ _).of_eq, PEnv.mustEat_ok_eq Punct.rparen,
      PEnv.mustEat_ok_eq Punct.rbrack, PEnv.mustEat_ok_eq Punct.rbrace, PEnv.kind_beq Punct.colon,
      PEnv.kind_beq Punct.comma, PEnv.mustEat_error_eq, range_error_eq, PEnv.timeLit_error_eq,
      PEnv.Run, PResC.Sat.ok_eq, PResC.Sat.error_eq] at *
    grind

theorem run_led {env : PEnv} {f : Nat} (ih : RunAt env f) (left : Expr) (t : Token) (i : Nat)
    (bp : BP) (led : Led) : env.Run f i 3 0 0 (ledResC env f left t i bp led) := by
  have ha := env.adv_bounds i
  fun_cases ledResC env f left t i bp led
  -- `case17` (`led = .call`), `case19` (`.dot` followed by `(`): `ledResC` ends in a call of `pCallC`
  case' case17 => refine PResC.Sat.of_forall (fun e c h => ?_) (fun x j c h => ?_)
  case' case19 => refine PResC.Sat.of_forall (fun e c h => ?_) (fun x j c h => ?_)
  all_goals
    simp (config := { zetaDelta := true }) only [(ih.exprR _ _).of_eq, (ih.callR _ _ _).of_eq,
      PEnv.mustEat_ok_eq Punct.rbrack, PEnv.mustEat_ok_eq Punct.colon, PEnv.kind_beq Punct.lparen,
      PEnv.mustEat_error_eq, range_error_eq, PEnv.Run, PResC.Sat.ok_eq, PResC.Sat.error_eq] at *
    grind

theorem run_succ {env : PEnv} (hE : env.NoEOF) {f : Nat} (ih : RunAt env f) :
    RunAt env (f + 1) := by
  refine ⟨fun rbp i => ?_, fun l rbp i => ?_, fun cl t i => ?_, fun acc i => ?_, fun acc i => ?_,
    fun acc i => ?_, fun acc i => ?_⟩
  -- `pExprC`, `pInfixC`: at the end of the input the lookup fails
  · rw [pExprC_succ]
    by_cases hi : i < env.toks.size
    · have ha := env.adv_lt hi
      repeat' split
      any_goals refine PResC.Sat.tick_of_forall (fun e c h => ?_) (fun x j c h => ?_)
      all_goals
        simp only [(run_nud ih _ _ _ _).of_eq, (ih.infixR _ _ _).of_eq, PEnv.Run,
          PResC.Sat.ok_eq, PResC.Sat.error_eq] at *
        grind
    · rw [env.peek_ge (by omega), hE.1]
      simp only [PEnv.Run, PResC.Sat.error_eq]
      grind
  · rw [pInfixC_succ]
    have hK := @infixNCheck_err
    by_cases hi : i < env.toks.size
    · have ha := env.adv_lt hi
      repeat' split
      any_goals refine PResC.Sat.tick_of_forall (fun e c h => ?_) (fun x j c h => ?_)
      all_goals
        simp only [(run_led ih _ _ _ _ _).of_eq, (ih.infixR _ _ _).of_eq, PEnv.Run,
          PResC.Sat.ok_eq, PResC.Sat.error_eq] at *
        grind
    · rw [env.peek_ge (by omega), hE.2]
      repeat' split
      all_goals
        simp only [PEnv.Run, PResC.Sat.ok_eq, PResC.Sat.error_eq] at *
        grind
  all_goals
    first
      | rw [pCallC_succ] | rw [pArgsC_succ] | rw [pListC_succ] | rw [pMapC_succ] | rw [pObjC_succ]
    repeat' split
    try any_goals refine PResC.Sat.tick_of_forall (fun e c h => ?_) (fun x j c h => ?_)
    all_goals
      simp only [ite_eq_eq, Prod.mk.injEq, Except.ok.injEq, reduceCtorEq, false_and, and_false,
        (ih.exprR _ _).of_eq, (ih.argsR _ _).of_eq, (ih.listR _ _).of_eq, (ih.mapR _ _).of_eq,
        (ih.objR _ _).of_eq, PEnv.mustEat_ok_eq Punct.rparen, PEnv.mustEat_ok_eq Punct.colon,
        PEnv.mustEat_ok_eq Punct.sym, PEnv.kind_beq Punct.rparen, PEnv.kind_beq Punct.rbrack,
        PEnv.kind_beq Punct.rbrace, PEnv.kind_beq Punct.comma, PEnv.mustEat_error_eq,
        range_error_eq, PEnv.Run, PResC.Sat.ok_eq, PResC.Sat.error_eq] at *
      grind

theorem run_all {env : PEnv} (hE : env.NoEOF) (f : Nat) : RunAt env f := by
  induction f with
  | zero =>
    refine ⟨?_, ?_, ?_, ?_, ?_, ?_, ?_⟩ <;> intros <;> exact ⟨fun _ => Nat.one_pos, fun _ => by omega⟩
  | succ f ih => exact run_succ hE ih

theorem pExpr_eof {env : PEnv} (hE : env.NoEOF) {f : Nat} {rbp : BP} {i : Nat}
    (h : env.toks.size ≤ i) : pExpr env (f + 1) rbp i = .error .syntax := by
  rw [pExpr_succ, env.peek_ge h, hE.1]

/-- past the end of the input the one call fails: `.fuel` at fuel 0, `.syntax` otherwise; the count is 1 either way -/
theorem pExprC_eof {env : PEnv} (hE : env.NoEOF) (f : Nat) (rbp : BP) {i : Nat}
    (h : env.toks.size ≤ i) : ∃ e, pExprC env f rbp i = (.error e, 1) := by
  cases f with
  | zero => exact ⟨_, rfl⟩
  | succ f => rw [pExprC_succ, env.peek_ge h, hE.1]; exact ⟨_, rfl⟩

/-- The depth of the chain of calls is at most their number: out of fuel means more than `f` calls,
and there are at most `2 * (tokens left) + 1`. -/
theorem fuel_le {env : PEnv} (hE : env.NoEOF) {f : Nat} {rbp : BP} {i : Nat}
    (h : pExpr env f rbp i = .error .fuel) : f ≤ 2 * (env.toks.size - i) := by
  have hr := (run_all hE f).exprR rbp i
  rw [(erase_all env f).exprE] at h
  by_cases hi : i ≤ env.toks.size
  · generalize pExprC env f rbp i = r at h hr
    obtain ⟨e | ⟨x, j⟩, c⟩ := r
    · have := hr.1 (Except.error.inj h)
      have := hr.2 hi
      omega
    · cases h
  · obtain ⟨e, he⟩ := pExprC_eof hE f rbp (Nat.le_of_not_le hi)
    rw [he] at h hr
    have := hr.1 (Except.error.inj h)
    omega

/-- `4 *` is what the property statements and `PE_iff_fuel` ask for; `2 * … + 1` would do (`fuel_le`) -/
theorem fuel_all {env : PEnv} (hE : env.NoEOF) (f : Nat) (rbp : BP) (i : Nat)
    (hf : 4 * (env.toks.size - i) + 1 ≤ f) : pExpr env f rbp i ≠ .error .fuel :=
  fun h => by have := fuel_le hE h; omega

theorem parseWith_no_fuel {ops : List Operator} (hops : ∀ o ∈ ops, o.kind ≠ tkEOF)
    (times : List (String × Int)) (toks : List Token) {fuel : Nat}
    (hf : 4 * toks.length + 1 ≤ fuel) : parseWith fuel ops times toks ≠ .error .fuel := by
  have hE : PEnv.NoEOF { g := newGrammar ops, toks := toks.toArray, times := times } :=
    newGrammar_noEOF hops
  have h := fuel_all hE fuel 0 0 (by simp; omega)
  unfold parseWith
  simp only
  split
  · rename_i e he
    exact fun h' => h (he.trans (congrArg Except.error (Except.error.inj h')))
  · split
    · rename_i e he
      rw [PEnv.mustEat_error_eq] at he
      rw [he.1]; nofun
    · nofun

theorem parse_no_fuel {ops : List Operator} (hops : ∀ o ∈ ops, o.kind ≠ tkEOF)
    (times : List (String × Int)) (toks : List Token) : parse ops times toks ≠ .error .fuel :=
  parseWith_no_fuel hops times toks (by unfold parseFuel; omega)

end Yae
