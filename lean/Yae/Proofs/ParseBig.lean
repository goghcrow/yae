/-
  The big-step semantics of the parser.  A `ParseJudgement` is a call of one of the seven functions of
  `Model/Parser.lean` (or of a `nud` / `led` step of `pExpr` / `pInfix`) together with the value it
  returns; `Big env J` says that `J` is derivable.  `big_iff`: derivable = returned at some fuel
  (`J.Run env`; at the seven functions this is `PE … PO`).  What holds of everything the parser
  returns is proved by induction on `Big` and never mentions the fuel; completeness builds
  derivations from the rules and never unfolds a function.
-/
import Yae.Proofs.ParseMono
import Yae.Proofs.ParseYield
namespace Yae

/-- `t` the token just eaten, `i` the cursor after it -/
inductive ParseJudgement where
  | nud (t : Token) (i : Nat) (bp : BP) (nud : Nud) (e : Expr) (j : Nat)
  | led (l : Expr) (t : Token) (i : Nat) (bp : BP) (led : Led) (e : Expr) (j : Nat)
  | expr (rbp : BP) (i : Nat) (r : Expr × Nat)
  | infx (l : Expr) (rbp : BP) (i : Nat) (r : Expr × Nat)
  | call (c : Expr) (t : Token) (i : Nat) (r : Expr × Nat)
  | args (acc : List Expr) (i : Nat) (r : List Expr × Nat)
  | list (acc : List Expr) (i : Nat) (r : List Expr × Nat)
  | map (acc : List (Expr × Expr)) (i : Nat) (r : List (Expr × Expr) × Nat)
  | obj (acc : List (String × Expr)) (i : Nat) (r : List (String × Expr) × Nat)

def ParseJudgement.At (env : PEnv) (f : Nat) : ParseJudgement → Prop
  | .nud t i bp n e j => nudRes env f t i bp n = .ok (e, j)
  | .led l t i bp d e j => ledRes env f l t i bp d = .ok (e, j)
  | .expr rbp i r => pExpr env f rbp i = .ok r
  | .infx l rbp i r => pInfix env f l rbp i = .ok r
  | .call c t i r => pCall env f c t i = .ok r
  | .args acc i r => pArgs env f acc i = .ok r
  | .list acc i r => pList env f acc i = .ok r
  | .map acc i r => pMap env f acc i = .ok r
  | .obj acc i r => pObj env f acc i = .ok r

def ParseJudgement.Run (env : PEnv) (J : ParseJudgement) : Prop := ∃ f, J.At env f

def PE (env : PEnv) (rbp : BP) (i : Nat) (r : Expr × Nat) : Prop := ∃ f, pExpr env f rbp i = .ok r
def PI (env : PEnv) (l : Expr) (rbp : BP) (i : Nat) (r : Expr × Nat) : Prop :=
  ∃ f, pInfix env f l rbp i = .ok r
def PC (env : PEnv) (c : Expr) (t : Token) (i : Nat) (r : Expr × Nat) : Prop :=
  ∃ f, pCall env f c t i = .ok r
def PA (env : PEnv) (acc : List Expr) (i : Nat) (r : List Expr × Nat) : Prop :=
  ∃ f, pArgs env f acc i = .ok r
def PL (env : PEnv) (acc : List Expr) (i : Nat) (r : List Expr × Nat) : Prop :=
  ∃ f, pList env f acc i = .ok r
def PM (env : PEnv) (acc : List (Expr × Expr)) (i : Nat) (r : List (Expr × Expr) × Nat) : Prop :=
  ∃ f, pMap env f acc i = .ok r
def PO (env : PEnv) (acc : List (String × Expr)) (i : Nat) (r : List (String × Expr) × Nat) : Prop :=
  ∃ f, pObj env f acc i = .ok r

/-- the power the right operand of a binary `led` is read with -/
def Led.rbp (led : Led) (bp : BP) : BP :=
  match led with
  | .binaryR => bpPred bp
  | _ => bp

/-- Every rule is one successful path through the code: through `nudRes` (`ident … obj`, the
`nud` functions of `pExpr`), through `ledRes`
(`binary … subscript`, the `led` functions of `pInfix`), through `pExpr` (`mk`: table look-up,
`nud`, then the loop), through one round of `pInfix` (`istop`, `istep`), through `pCall` (`cnil`,
`cargs`), through one round of the loops `pArgs`, `pList`, `pMap`, `pObj` (`a… l… m… o…`: stop
at the closer / last item / item and `,` and one more round).  Its premises are what the path
meets, in the order of the code: a derivation for each call made; each token test with the outcome
the path takes — `env.kindAt k s` where the token is found (the cursor then goes to `k + 1`),
`(env.peek k).kind ≠ s` where the path takes the other branch; the `Pos.range`, literal and
`infixNCheck` checks that pass.  That the negative tests are recorded too is what makes the rules
exact (`big_iff`): a `[` followed by neither `:` nor `]` has four rules, one or several elements of
a list or of a map, since the `nud` runs the first round of `pList` / `pMap` itself and decides
between them on the token after the first element. -/
inductive Big (env : PEnv) : ParseJudgement → Prop
  | ident {t i bp} : Big env (.nud t i bp .ident (.ident t.pos t.lexeme) i)
  | true_ {t i bp} : Big env (.nud t i bp .true_ (.bool t.pos true) i)
  | false_ {t i bp} : Big env (.nud t i bp .false_ (.bool t.pos false) i)
  | num {t i bp v} : Num.parseNumLit t.lexeme = some v → Big env (.nud t i bp .num (.num t.pos v) i)
  | str {t i bp v} : Num.unquote t.lexeme = some v → Big env (.nud t i bp .str (.str t.pos v) i)
  | time {t i bp e} : env.timeLit t = .ok e → Big env (.nud t i bp .time e i)
  | group {t i bp e j rg} : Big env (.expr 0 i (e, j)) → env.kindAt j ")" →
      Pos.range t.pos (env.peek j).pos = .ok rg → Big env (.nud t i bp .group (.group rg e) (j + 1))
  | pre {t i bp e j rg} : Big env (.expr bp i (e, j)) → Pos.range t.pos e.pos = .ok rg →
      Big env (.nud t i bp .unaryPrefix (.unary rg t.lexeme t.pos e true) j)
  | emptyMap {t i bp rg} : env.kindAt i ":" → env.kindAt (i + 1) "]" →
      Pos.range t.pos (env.peek (i + 1)).pos = .ok rg →
      Big env (.nud t i bp .listMap (.map rg .nil none) (i + 2))
  | emptyList {t i bp rg} : env.kindAt i "]" → Pos.range t.pos (env.peek i).pos = .ok rg →
      Big env (.nud t i bp .listMap (.list rg .nil none) (i + 1))
  | list1 {t i bp fst k rg} : (env.peek i).kind ≠ ":" → (env.peek i).kind ≠ "]" →
      Big env (.expr 0 i (fst, k)) → env.kindAt k "]" → Pos.range t.pos (env.peek k).pos = .ok rg →
      Big env (.nud t i bp .listMap (.list rg (ExprList.ofList [fst]) none) (k + 1))
  | listN {t i bp fst k els j rg} : (env.peek i).kind ≠ ":" → (env.peek i).kind ≠ "]" →
      Big env (.expr 0 i (fst, k)) → env.kindAt k "," → Big env (.list [fst] (k + 1) (els, j)) →
      env.kindAt j "]" → Pos.range t.pos (env.peek j).pos = .ok rg →
      Big env (.nud t i bp .listMap (.list rg (ExprList.ofList els.reverse) none) (j + 1))
  | map1 {t i bp fst k v m rg} : (env.peek i).kind ≠ ":" → (env.peek i).kind ≠ "]" →
      Big env (.expr 0 i (fst, k)) → env.kindAt k ":" → Big env (.expr 0 (k + 1) (v, m)) →
      env.kindAt m "]" → Pos.range t.pos (env.peek m).pos = .ok rg →
      Big env (.nud t i bp .listMap (.map rg (PairList.ofList [(fst, v)]) none) (m + 1))
  | mapN {t i bp fst k v m ps j rg} : (env.peek i).kind ≠ ":" → (env.peek i).kind ≠ "]" →
      Big env (.expr 0 i (fst, k)) → env.kindAt k ":" → Big env (.expr 0 (k + 1) (v, m)) →
      env.kindAt m "," → Big env (.map [(fst, v)] (m + 1) (ps, j)) →
      env.kindAt j "]" → Pos.range t.pos (env.peek j).pos = .ok rg →
      Big env (.nud t i bp .listMap (.map rg (PairList.ofList ps.reverse) none) (j + 1))
  | obj {t i bp fs j rg} : Big env (.obj [] i (fs, j)) → env.kindAt j "}" →
      Pos.range t.pos (env.peek j).pos = .ok rg →
      Big env (.nud t i bp .obj (.obj rg (FieldEList.ofList fs.reverse) none) (j + 1))
  | binary {l t i bp led fx rhs j rg} : led.binFix = some fx →
      Big env (.expr (led.rbp bp) i (rhs, j)) → Pos.range l.pos rhs.pos = .ok rg →
      Big env (.led l t i bp led (.binary rg t.lexeme t.pos fx l rhs) j)
  | post {l t i bp rg} : Pos.range l.pos t.pos = .ok rg →
      Big env (.led l t i bp .unaryPostfix (.unary rg t.lexeme t.pos l false) i)
  | ternary {l t i bp m k r j rg} : Big env (.expr 0 i (m, k)) → env.kindAt k ":" →
      Big env (.expr (bpPred bp) (k + 1) (r, j)) → Pos.range l.pos r.pos = .ok rg →
      Big env (.led l t i bp .question (.ternary rg t.lexeme t.pos l m r) j)
  | call {l t i bp e j} : Big env (.call l t i (e, j)) → Big env (.led l t i bp .call e j)
  | member {l t i bp rg} : Pos.range l.pos (env.peek i).pos = .ok rg →
      (env.peek (env.adv i)).kind ≠ "(" →
      Big env (.led l t i bp .dot
        (.member rg t.pos.col l (env.peek i).lexeme (env.peek i).pos none (-1)) (env.adv i))
  | methodCall {l t i bp rg e j} : Pos.range l.pos (env.peek i).pos = .ok rg →
      env.kindAt (env.adv i) "(" →
      Big env (.call (.member rg t.pos.col l (env.peek i).lexeme (env.peek i).pos none (-1))
        (env.peek (env.adv i)) (env.adv i + 1) (e, j)) →
      Big env (.led l t i bp .dot e j)
  | subscript {l t i bp ix k rg} : Big env (.expr 0 i (ix, k)) → env.kindAt k "]" →
      Pos.range l.pos (env.peek k).pos = .ok rg →
      Big env (.led l t i bp .subscript (.subscript rg t.pos.col l ix none) (k + 1))
  | mk {rbp i bp nud left k r} : tableLookup (env.peek i).kind env.g.prefixs = some (bp, nud) →
      Big env (.nud (env.peek i) (env.adv i) bp nud left k) → Big env (.infx left rbp k r) →
      Big env (.expr rbp i r)
  | istop {l rbp i} : ¬ rbp < env.g.infixLbp (env.peek i).kind → infixNCheck l = .ok l →
      Big env (.infx l rbp i (l, i))
  | istep {l rbp i bp led e k r} : rbp < env.g.infixLbp (env.peek i).kind →
      tableLookup (env.peek i).kind env.g.infixs = some (bp, led) →
      Big env (.led l (env.peek i) (env.adv i) bp led e k) → infixNCheck e = .ok e →
      Big env (.infx e rbp k r) → Big env (.infx l rbp i r)
  | cnil {c t i rg} : env.kindAt i ")" → Pos.range c.pos (env.peek i).pos = .ok rg →
      Big env (.call c t i (.call rg t.pos.col c (ExprList.ofList []) none "" (-1), i + 1))
  | cargs {c t i as k rg} : (env.peek i).kind ≠ ")" → Big env (.args [] i (as, k)) →
      env.kindAt k ")" → Pos.range c.pos (env.peek k).pos = .ok rg →
      Big env (.call c t i (.call rg t.pos.col c (ExprList.ofList as.reverse) none "" (-1), k + 1))
  | aone {acc i a k} : Big env (.expr 0 i (a, k)) → (env.peek k).kind ≠ "," →
      Big env (.args acc i (a :: acc, k))
  | acons {acc i a k r} : Big env (.expr 0 i (a, k)) → env.kindAt k "," →
      Big env (.args (a :: acc) (k + 1) r) → Big env (.args acc i r)
  | lnil {acc i} : env.kindAt i "]" → Big env (.list acc i (acc, i))
  | lone {acc i a k} : (env.peek i).kind ≠ "]" → Big env (.expr 0 i (a, k)) →
      (env.peek k).kind ≠ "," → Big env (.list acc i (a :: acc, k))
  | lcons {acc i a k r} : (env.peek i).kind ≠ "]" → Big env (.expr 0 i (a, k)) → env.kindAt k "," →
      Big env (.list (a :: acc) (k + 1) r) → Big env (.list acc i r)
  | mnil {acc i} : env.kindAt i "]" → Big env (.map acc i (acc, i))
  | mone {acc i a k v m} : (env.peek i).kind ≠ "]" → Big env (.expr 0 i (a, k)) → env.kindAt k ":" →
      Big env (.expr 0 (k + 1) (v, m)) → (env.peek m).kind ≠ "," →
      Big env (.map acc i ((a, v) :: acc, m))
  | mcons {acc i a k v m r} : (env.peek i).kind ≠ "]" → Big env (.expr 0 i (a, k)) →
      env.kindAt k ":" → Big env (.expr 0 (k + 1) (v, m)) → env.kindAt m "," →
      Big env (.map ((a, v) :: acc) (m + 1) r) → Big env (.map acc i r)
  | onil {acc i} : env.kindAt i "}" → Big env (.obj acc i (acc, i))
  | oone {acc i v m} : env.kindAt i "<sym>" → env.kindAt (i + 1) ":" →
      Big env (.expr 0 (i + 2) (v, m)) → (env.peek m).kind ≠ "," →
      Big env (.obj acc i (((env.peek i).lexeme, v) :: acc, m))
  | ocons {acc i v m r} : env.kindAt i "<sym>" → env.kindAt (i + 1) ":" →
      Big env (.expr 0 (i + 2) (v, m)) → env.kindAt m "," →
      Big env (.obj (((env.peek i).lexeme, v) :: acc) (m + 1) r) → Big env (.obj acc i r)

/-! Every successful run is a derivation.  One induction on the fuel: the path a successful call took is read off
the definition, the calls on it are derivations by the induction hypothesis. -/

structure BigAt (env : PEnv) (f : Nat) : Prop where
  exprB : ∀ {rbp i r}, pExpr env f rbp i = .ok r → Big env (.expr rbp i r)
  infixB : ∀ {l rbp i r}, pInfix env f l rbp i = .ok r → Big env (.infx l rbp i r)
  callB : ∀ {c t i r}, pCall env f c t i = .ok r → Big env (.call c t i r)
  argsB : ∀ {acc i r}, pArgs env f acc i = .ok r → Big env (.args acc i r)
  listB : ∀ {acc i r}, pList env f acc i = .ok r → Big env (.list acc i r)
  mapB : ∀ {acc i r}, pMap env f acc i = .ok r → Big env (.map acc i r)
  objB : ∀ {acc i r}, pObj env f acc i = .ok r → Big env (.obj acc i r)

section
variable {env : PEnv} {f i j : Nat} {bp : BP} {e left : Expr}

theorem ne_of_not_beq {a b : String} (h : ¬ (a == b) = true) : a ≠ b := by simpa using h

/-- the end of a round of one of the four loops: after a `,` at `k` one more round -/
theorem PEnv.more_cases {α : Type} {loop : List α → Nat → PRes (List α)} {acc : List α} {k : Nat}
    {r : List α × Nat}
    (h : (if (env.peek k).kind == "," then loop acc (env.adv k) else .ok (acc, k)) = .ok r) :
    (env.kindAt k "," ∧ loop acc (k + 1) = .ok r) ∨ ((env.peek k).kind ≠ "," ∧ r = (acc, k)) := by
  split at h
  · obtain ⟨hc, ha⟩ := (PEnv.kind_beq Punct.comma _).mp ‹_›
    exact .inl ⟨hc, ha ▸ h⟩
  · exact .inr ⟨ne_of_not_beq ‹_›, (Except.ok.inj h).symm⟩

theorem BigAt.nud (ih : BigAt env f) {t : Token} {nud : Nud}
    (h : nudRes env f t i bp nud = .ok (e, j)) : Big env (.nud t i bp nud e j) := by
  unfold nudRes at h
  cases nud <;> simp only [] at h
  all_goals repeat' split at h
  all_goals cases h
  · exact .ident
  · exact .true_
  · exact .false_
  · exact .num ‹_›
  · exact .str ‹_›
  · exact .time ‹_›
  · obtain ⟨hc, ha⟩ := (PEnv.kind_beq Punct.colon _).mp ‹_›
    obtain ⟨hk, rfl, rfl⟩ := (PEnv.mustEat_ok_eq Punct.rbrack _ _ _).mp ‹_›
    simp only [ha] at *
    exact .emptyMap hc hk ‹_›
  · obtain ⟨hk, rfl, rfl⟩ := (PEnv.mustEat_ok_eq Punct.rbrack _ _ _).mp ‹_›
    exact .emptyList hk ‹_›
  -- `[ fst : v, … ]`.  `h1`, `h2`: the token after `[` is neither `:` nor `]`; `he`: the first key; `hc`: the `:`
  -- after it; `hv`: the value; `hm`: the further rounds (`pMap` after a `,`, or none); `hk0`: the closing `]`;
  -- `hr`: the range check
  · rename_i h1 h2 _ _ _ he hc _ _ _ hv _ _ _ hm _ _ _ _ hr hk0
    obtain ⟨hc, ha⟩ := (PEnv.kind_beq Punct.colon _).mp hc
    obtain ⟨hk, rfl, rfl⟩ := (PEnv.mustEat_ok_eq Punct.rbrack _ _ _).mp hk0
    rw [ha] at hv
    rcases PEnv.more_cases hm with ⟨hcm, hm⟩ | ⟨-, hm⟩
    · exact .mapN (ne_of_not_beq h1) (ne_of_not_beq h2) (ih.exprB he) hc (ih.exprB hv) hcm
        (ih.mapB hm) hk hr
    · cases hm
      exact .map1 (ne_of_not_beq h1) (ne_of_not_beq h2) (ih.exprB he) hc (ih.exprB hv) hk hr
  -- `[ fst, … ]`: the same without `hc` and `hv`; `hm` is the further rounds of `pList`
  · rename_i h1 h2 _ _ _ he _ _ _ _ hm _ _ _ _ hr hk0
    obtain ⟨hk, rfl, rfl⟩ := (PEnv.mustEat_ok_eq Punct.rbrack _ _ _).mp hk0
    rcases PEnv.more_cases hm with ⟨hcm, hm⟩ | ⟨-, hm⟩
    · exact .listN (ne_of_not_beq h1) (ne_of_not_beq h2) (ih.exprB he) hcm (ih.listB hm) hk hr
    · cases hm
      exact .list1 (ne_of_not_beq h1) (ne_of_not_beq h2) (ih.exprB he) hk hr
  · obtain ⟨hk, rfl, rfl⟩ := (PEnv.mustEat_ok_eq Punct.rbrace _ _ _).mp ‹_›
    exact .obj (ih.objB ‹_›) hk ‹_›
  · obtain ⟨hk, rfl, rfl⟩ := (PEnv.mustEat_ok_eq Punct.rparen _ _ _).mp ‹_›
    exact .group (ih.exprB ‹_›) hk ‹_›
  · exact .pre (ih.exprB ‹_›) ‹_›

theorem BigAt.led (ih : BigAt env f) {t : Token} {led : Led}
    (h : ledRes env f left t i bp led = .ok (e, j)) : Big env (.led left t i bp led e j) := by
  unfold ledRes at h
  cases led <;> simp only [] at h
  case call => exact .call (ih.callB h)
  case dot =>
    split at h
    · cases h
    · split at h
      · obtain ⟨hp, ha⟩ := (PEnv.kind_beq Punct.lparen _).mp ‹_›
        exact .methodCall ‹_› hp (ih.callB (ha ▸ h))
      · cases h
        exact .member ‹_› (ne_of_not_beq ‹_›)
  all_goals repeat' split at h
  all_goals cases h
  · exact .binary (led := .binaryL) rfl (ih.exprB ‹_›) ‹_›
  · exact .binary (led := .binaryR) rfl (ih.exprB ‹_›) ‹_›
  · exact .binary (led := .binaryN) rfl (ih.exprB ‹_›) ‹_›
  · exact .post ‹_›
  · obtain ⟨hk, -, rfl⟩ := (PEnv.mustEat_ok_eq Punct.colon _ _ _).mp ‹_›
    exact .ternary (ih.exprB ‹_›) hk (ih.exprB ‹_›) ‹_›
  · obtain ⟨hk, rfl, rfl⟩ := (PEnv.mustEat_ok_eq Punct.rbrack _ _ _).mp ‹_›
    exact .subscript (ih.exprB ‹_›) hk ‹_›

theorem BigAt.succ (ih : BigAt env f) : BigAt env (f + 1) := by
  refine ⟨fun h => ?_, fun h => ?_, fun h => ?_, fun h => ?_, fun h => ?_, fun h => ?_, fun h => ?_⟩
  · rw [pExpr_succ] at h
    split at h
    · cases h
    · split at h
      · cases h
      · exact .mk ‹_› (ih.nud ‹_›) (ih.infixB h)
  · rw [pInfix_succ] at h
    repeat' split at h
    any_goals cases h
    · rename_i hc
      cases infixNCheck_ok hc
      exact .istep ‹_› ‹_› (ih.led ‹_›) hc (ih.infixB h)
    · rename_i hc
      cases infixNCheck_ok hc
      exact .istop ‹_› hc
  · rw [pCall_succ] at h
    split at h
    · cases h
    rename_i as k ha
    split at h
    · cases h
    split at h
    · cases h
    cases h
    obtain ⟨hk, rfl, rfl⟩ := (PEnv.mustEat_ok_eq Punct.rparen _ _ _).mp ‹_›
    split at ha
    · cases ha
      exact .cnil hk ‹_›
    · exact .cargs (ne_of_not_beq ‹_›) (ih.argsB ha) hk ‹_›
  · rw [pArgs_succ] at h
    split at h
    · cases h
    · rcases PEnv.more_cases h with ⟨hc, h⟩ | ⟨hc, rfl⟩
      · exact .acons (ih.exprB ‹_›) hc (ih.argsB h)
      · exact .aone (ih.exprB ‹_›) hc
  · rw [pList_succ] at h
    split at h
    · cases h
      exact .lnil ((PEnv.kind_beq Punct.rbrack _).mp ‹_›).1
    split at h
    · cases h
    · rcases PEnv.more_cases h with ⟨hc, h⟩ | ⟨hc, rfl⟩
      · exact .lcons (ne_of_not_beq ‹_›) (ih.exprB ‹_›) hc (ih.listB h)
      · exact .lone (ne_of_not_beq ‹_›) (ih.exprB ‹_›) hc
  · rw [pMap_succ] at h
    split at h
    · cases h
      exact .mnil ((PEnv.kind_beq Punct.rbrack _).mp ‹_›).1
    split at h
    · cases h
    split at h
    · cases h
    split at h
    · cases h
    obtain ⟨hc, -, rfl⟩ := (PEnv.mustEat_ok_eq Punct.colon _ _ _).mp ‹_›
    rcases PEnv.more_cases h with ⟨hcm, h⟩ | ⟨hcm, rfl⟩
    · exact .mcons (ne_of_not_beq ‹_›) (ih.exprB ‹_›) hc (ih.exprB ‹_›) hcm (ih.mapB h)
    · exact .mone (ne_of_not_beq ‹_›) (ih.exprB ‹_›) hc (ih.exprB ‹_›) hcm
  · rw [pObj_succ] at h
    split at h
    · cases h
      exact .onil ((PEnv.kind_beq Punct.rbrace _).mp ‹_›).1
    split at h
    · cases h
    split at h
    · cases h
    split at h
    · cases h
    obtain ⟨hn, rfl, rfl⟩ := (PEnv.mustEat_ok_eq Punct.sym _ _ _).mp ‹env.mustEat "<sym>" _ = _›
    obtain ⟨hc, -, rfl⟩ := (PEnv.mustEat_ok_eq Punct.colon _ _ _).mp ‹_›
    rcases PEnv.more_cases h with ⟨hcm, h⟩ | ⟨hcm, rfl⟩
    · exact .ocons hn hc (ih.exprB ‹_›) hcm (ih.objB h)
    · exact .oone hn hc (ih.exprB ‹_›) hcm

end

theorem big_of_fuel (env : PEnv) : ∀ f, BigAt env f
  | 0 => ⟨nofun, nofun, nofun, nofun, nofun, nofun, nofun⟩
  | f + 1 => (big_of_fuel env f).succ

theorem ParseJudgement.Run.big {env : PEnv} {J : ParseJudgement} (h : J.Run env) : Big env J := by
  obtain ⟨f, h⟩ := h
  have B := big_of_fuel env f
  cases J <;> simp only [ParseJudgement.At] at h
  · exact B.nud h
  · exact B.led h
  · exact B.exprB h
  · exact B.infixB h
  · exact B.callB h
  · exact B.argsB h
  · exact B.listB h
  · exact B.mapB h
  · exact B.objB h

/-! Every derivation is a run.  A value returned at some fuel is returned at every larger fuel (`ParseMono`), so the
calls of a rule's premises succeed together at the largest of their fuels. -/

theorem ParseJudgement.At.mono {env : PEnv} {f f' : Nat} {J : ParseJudgement} (h : J.At env f) (hf : f ≤ f') :
    J.At env f' := by
  have M := mono_all env
  cases J <;> simp only [ParseJudgement.At] at h ⊢
  · exact ok_mono_le (fun f => mono_nud (M f) _ _ _ _) h hf
  · exact ok_mono_le (fun f => mono_led (M f) _ _ _ _ _) h hf
  · exact ok_mono_le (fun f => (M f).exprM _ _) h hf
  · exact ok_mono_le (fun f => (M f).infixM _ _ _) h hf
  · exact ok_mono_le (fun f => (M f).callM _ _ _) h hf
  · exact ok_mono_le (fun f => (M f).argsM _ _) h hf
  · exact ok_mono_le (fun f => (M f).listM _ _) h hf
  · exact ok_mono_le (fun f => (M f).mapM _ _) h hf
  · exact ok_mono_le (fun f => (M f).objM _ _) h hf

theorem ParseJudgement.Run.and {env : PEnv} {J K : ParseJudgement} (a : J.Run env) (b : K.Run env) :
    ∃ f, J.At env f ∧ K.At env f :=
  have ⟨f1, h1⟩ := a
  have ⟨f2, h2⟩ := b
  ⟨max f1 f2, h1.mono (Nat.le_max_left f1 f2), h2.mono (Nat.le_max_right f1 f2)⟩

theorem ParseJudgement.Run.and₃ {env : PEnv} {J K L : ParseJudgement} (a : J.Run env) (b : K.Run env)
    (c : L.Run env) : ∃ f, J.At env f ∧ K.At env f ∧ L.At env f :=
  have ⟨f1, h1, h2⟩ := a.and b
  have ⟨f2, h3⟩ := c
  ⟨max f1 f2, h1.mono (Nat.le_max_left f1 f2), h2.mono (Nat.le_max_left f1 f2),
    h3.mono (Nat.le_max_right f1 f2)⟩

theorem PEnv.mustEat_of {env : PEnv} {j : Nat} {k : String} (h : env.kindAt j k) :
    env.mustEat k j = .ok (env.peek j, j + 1) := by
  unfold PEnv.mustEat
  simp [h.2, env.adv_lt h.1]

theorem PEnv.kindAt.beq {env : PEnv} {j : Nat} {k : String} (h : env.kindAt j k) :
    ((env.peek j).kind == k) = true := by simp [h.2]

theorem PEnv.kindAt.ne {env : PEnv} {j : Nat} {k k' : String} (h : env.kindAt j k)
    (hne : k ≠ k' := by decide) : (env.peek j).kind ≠ k' := by rw [h.2]; exact hne

theorem Big.run {env : PEnv} {J : ParseJudgement} (h : Big env J) : J.Run env := by
  induction h
  all_goals simp only [ParseJudgement.Run, ParseJudgement.At] at *
  case ident | true_ | false_ => exact ⟨0, rfl⟩
  case num hv | str hv | time hv => exact ⟨0, by simp only [nudRes, hv]⟩
  case group hk hr ih | obj hk hr ih =>
    obtain ⟨f, hf⟩ := ih
    exact ⟨f, by simp only [nudRes, hf, PEnv.mustEat_of hk, hr]⟩
  case pre hr ih =>
    obtain ⟨f, hf⟩ := ih
    exact ⟨f, by simp only [nudRes, hf, hr]⟩
  case emptyMap h1 h2 hr =>
    exact ⟨0, by simp only [nudRes, h1.beq, if_true, env.adv_lt h1.1, PEnv.mustEat_of h2, hr]⟩
  case emptyList h2 hr =>
    exact ⟨0, by simp [nudRes, beq_false_of_ne (h2.ne (k' := ":")), h2.beq, PEnv.mustEat_of h2, hr]⟩
  case list1 h1 h2 _ hk hr ih =>
    obtain ⟨f, hf⟩ := ih
    exact ⟨f, by simp [nudRes, beq_false_of_ne h1, beq_false_of_ne h2, hf,
      beq_false_of_ne (hk.ne (k' := ":")), beq_false_of_ne (hk.ne (k' := ",")),
      PEnv.mustEat_of hk, hr]⟩
  case listN h1 h2 _ hc _ hk hr ih1 ih2 =>
    obtain ⟨f, hf, hf2⟩ := ParseJudgement.Run.and (J := .expr ..) (K := .list ..) ih1 ih2
    simp only [ParseJudgement.At] at hf hf2
    exact ⟨f, by simp [nudRes, beq_false_of_ne h1, beq_false_of_ne h2, hf,
      hc.2, env.adv_lt hc.1, hf2, PEnv.mustEat_of hk, hr]⟩
  case map1 h1 h2 _ hc _ hk hr ih1 ih2 =>
    obtain ⟨f, hf, hf2⟩ := ParseJudgement.Run.and (J := .expr ..) (K := .expr ..) ih1 ih2
    simp only [ParseJudgement.At] at hf hf2
    exact ⟨f, by simp [nudRes, beq_false_of_ne h1, beq_false_of_ne h2, hf, hc.2, env.adv_lt hc.1,
      hf2, beq_false_of_ne (hk.ne (k' := ",")), PEnv.mustEat_of hk, hr]⟩
  case mapN h1 h2 _ hc _ hcm _ hk hr ih1 ih2 ih3 =>
    obtain ⟨f, hf, hf2, hf3⟩ :=
      ParseJudgement.Run.and₃ (J := .expr ..) (K := .expr ..) (L := .map ..) ih1 ih2 ih3
    simp only [ParseJudgement.At] at hf hf2 hf3
    exact ⟨f, by simp [nudRes, beq_false_of_ne h1, beq_false_of_ne h2, hf, hc.2, env.adv_lt hc.1,
      hf2, hcm.2, env.adv_lt hcm.1, hf3, PEnv.mustEat_of hk, hr]⟩
  case binary led _ _ _ _ hfx _ hr ih =>
    obtain ⟨f, hf⟩ := ih
    cases led <;> simp only [Led.binFix] at hfx <;> cases hfx
    all_goals exact ⟨f, by simp only [Led.rbp] at hf; simp only [ledRes, hf, hr]⟩
  case post hr => exact ⟨0, by simp only [ledRes, hr]⟩
  case ternary _ hc _ hr ih1 ih2 =>
    obtain ⟨f, hf1, hf2⟩ := ParseJudgement.Run.and (J := .expr ..) (K := .expr ..) ih1 ih2
    simp only [ParseJudgement.At] at hf1 hf2
    exact ⟨f, by simp only [ledRes, hf1, PEnv.mustEat_of hc, hf2, hr]⟩
  case call ih =>
    obtain ⟨f, hf⟩ := ih
    exact ⟨f, by simp only [ledRes, hf]⟩
  case member hr hp => exact ⟨0, by simp [ledRes, hr, beq_false_of_ne hp]⟩
  case methodCall hr hp _ ih =>
    obtain ⟨f, hf⟩ := ih
    exact ⟨f, by simp [ledRes, hr, hp.2, env.adv_lt hp.1, hf]⟩
  case subscript _ hk hr ih =>
    obtain ⟨f, hf⟩ := ih
    exact ⟨f, by simp only [ledRes, hf, PEnv.mustEat_of hk, hr]⟩
  case mk hl _ _ ih1 ih2 =>
    obtain ⟨f, h1, h2⟩ := ParseJudgement.Run.and (J := .nud ..) (K := .infx ..) ih1 ih2
    simp only [ParseJudgement.At] at h1 h2
    exact ⟨f + 1, by rw [pExpr_succ, hl]; simp only [h1]; exact h2⟩
  case istop hs hc => exact ⟨1, by rw [pInfix_succ, if_neg hs]; simp only [hc]⟩
  case istep hgt hl _ hc _ ih1 ih2 =>
    obtain ⟨f, h1, h2⟩ := ParseJudgement.Run.and (J := .led ..) (K := .infx ..) ih1 ih2
    simp only [ParseJudgement.At] at h1 h2
    exact ⟨f + 1, by rw [pInfix_succ, if_pos hgt, hl]; simp only [h1, hc]; exact h2⟩
  case cnil hk hr =>
    exact ⟨1, by
      rw [pCall_succ]; simp only [hk.beq, if_true, PEnv.mustEat_of hk, hr, List.reverse_nil]⟩
  case cargs h1 _ hk hr ih =>
    obtain ⟨f, hf⟩ := ih
    exact ⟨f + 1, by rw [pCall_succ]; simp [beq_false_of_ne h1, hf, PEnv.mustEat_of hk, hr]⟩
  case aone hc ih =>
    obtain ⟨f, hf⟩ := ih
    exact ⟨f + 1, by rw [pArgs_succ]; simp [hf, beq_false_of_ne hc]⟩
  case acons hc _ ih1 ih2 =>
    obtain ⟨f, hf1, hf2⟩ := ParseJudgement.Run.and (J := .expr ..) (K := .args ..) ih1 ih2
    simp only [ParseJudgement.At] at hf1 hf2
    exact ⟨f + 1, by rw [pArgs_succ]; simp [hf1, hc.2, env.adv_lt hc.1, hf2]⟩
  case lnil hk => exact ⟨1, by rw [pList_succ]; simp [hk.2]⟩
  case lone h1 _ hc ih =>
    obtain ⟨f, hf⟩ := ih
    exact ⟨f + 1, by rw [pList_succ]; simp [beq_false_of_ne h1, hf, beq_false_of_ne hc]⟩
  case lcons h1 _ hc _ ih1 ih2 =>
    obtain ⟨f, hf1, hf2⟩ := ParseJudgement.Run.and (J := .expr ..) (K := .list ..) ih1 ih2
    simp only [ParseJudgement.At] at hf1 hf2
    exact ⟨f + 1, by rw [pList_succ]; simp [beq_false_of_ne h1, hf1, hc.2, env.adv_lt hc.1, hf2]⟩
  case mnil hk => exact ⟨1, by rw [pMap_succ]; simp [hk.2]⟩
  case mone h1 _ hc _ hcm ih1 ih2 =>
    obtain ⟨f, hf1, hf2⟩ := ParseJudgement.Run.and (J := .expr ..) (K := .expr ..) ih1 ih2
    simp only [ParseJudgement.At] at hf1 hf2
    exact ⟨f + 1, by
      rw [pMap_succ]
      simp [beq_false_of_ne h1, hf1, PEnv.mustEat_of hc, hf2, beq_false_of_ne hcm]⟩
  case mcons h1 _ hc _ hcm _ ih1 ih2 ih3 =>
    obtain ⟨f, hf1, hf2, hf3⟩ :=
      ParseJudgement.Run.and₃ (J := .expr ..) (K := .expr ..) (L := .map ..) ih1 ih2 ih3
    simp only [ParseJudgement.At] at hf1 hf2 hf3
    exact ⟨f + 1, by
      rw [pMap_succ]
      simp [beq_false_of_ne h1, hf1, PEnv.mustEat_of hc, hf2, hcm.2, env.adv_lt hcm.1, hf3]⟩
  case onil hk => exact ⟨1, by rw [pObj_succ]; simp [hk.2]⟩
  case oone hn hc _ hcm ih =>
    obtain ⟨f, hf⟩ := ih
    exact ⟨f + 1, by
      rw [pObj_succ]
      simp [beq_false_of_ne (hn.ne (k' := "}")), PEnv.mustEat_of hn, PEnv.mustEat_of hc, hf,
        beq_false_of_ne hcm]⟩
  case ocons hn hc _ hcm _ ih1 ih2 =>
    obtain ⟨f, hf1, hf2⟩ := ParseJudgement.Run.and (J := .expr ..) (K := .obj ..) ih1 ih2
    simp only [ParseJudgement.At] at hf1 hf2
    exact ⟨f + 1, by
      rw [pObj_succ]
      simp [beq_false_of_ne (hn.ne (k' := "}")), PEnv.mustEat_of hn, PEnv.mustEat_of hc, hf1, hcm.2,
        env.adv_lt hcm.1, hf2]⟩

theorem big_iff {env : PEnv} {J : ParseJudgement} : Big env J ↔ J.Run env :=
  ⟨Big.run, ParseJudgement.Run.big⟩

section
variable {env : PEnv} {rbp : BP} {i : Nat} {l c : Expr} {t : Token}

theorem PE.big {r} (h : PE env rbp i r) : Big env (.expr rbp i r) :=
  ParseJudgement.Run.big (J := .expr ..) h
theorem PI.big {r} (h : PI env l rbp i r) : Big env (.infx l rbp i r) :=
  ParseJudgement.Run.big (J := .infx ..) h
theorem PC.big {r} (h : PC env c t i r) : Big env (.call c t i r) :=
  ParseJudgement.Run.big (J := .call ..) h
theorem PA.big {acc r} (h : PA env acc i r) : Big env (.args acc i r) :=
  ParseJudgement.Run.big (J := .args ..) h
theorem PL.big {acc r} (h : PL env acc i r) : Big env (.list acc i r) :=
  ParseJudgement.Run.big (J := .list ..) h
theorem PM.big {acc r} (h : PM env acc i r) : Big env (.map acc i r) :=
  ParseJudgement.Run.big (J := .map ..) h
theorem PO.big {acc r} (h : PO env acc i r) : Big env (.obj acc i r) :=
  ParseJudgement.Run.big (J := .obj ..) h

end

end Yae
