/-
  C04, law "string literal decoding", item by item.

  The parser decodes every string token, interpreted `"…"` and raw `` `…` ``, with
  `Num.unquote` (the model of Go's `strconv.Unquote`); `none` is a syntax error.  The lexer
  admits `"(?:[^"\\]*|\\["\\trnbf\/]|\\u[0-9a-fA-F]{4})*"` and `` `[^`]*` ``.

  SPEC.  The body of an interpreted literal is a list of `StrItem`s, each with its text (`src`), whether it is an
  item of the documented grammar (`ok`) and the character it denotes (`val`, `none` = the item is rejected);
  `decodeItems` concatenates all-or-nothing.

  FINDINGS.  A literal of the grammar is rejected iff it contains `\/`, a raw newline or a `\u` surrogate, all three
  in the lexer's language (`unquote_none_iff`); a raw literal decodes to its body WITHOUT carriage returns, not
  verbatim (`unquote_raw`).
-/
import Yae.Proofs.ListLemmas
import Yae.Proofs.NumLemmas
import Yae.Proofs.LexRegexStr
namespace Yae.Num

/-! ## The spec: these definitions occur in the statements of C04 (`C04.str_literal`) -/

/-- One iteration of `(?:[^"\\]*|\\["\\trnbf\/]|\\u[0-9a-fA-F]{4})*` (a run of plain characters
    is as many `plain` items). -/
inductive StrItem
  /-- a character standing for itself -/
  | plain (c : Char)
  /-- `\e` -/
  | esc (e : Char)
  /-- `\uh1h2h3h4` -/
  | uni (h1 h2 h3 h4 : Char)
  deriving DecidableEq, Repr

def StrItem.src : StrItem → List Char
  | .plain c => [c]
  | .esc e => ['\\', e]
  | .uni h1 h2 h3 h4 => ['\\', 'u', h1, h2, h3, h4]

/-- the item is one of the documented grammar: `[^"\\]`, `\\["\\trnbf\/]`, `\\u[0-9a-fA-F]{4}` -/
def StrItem.ok : StrItem → Prop
  | .plain c => c ≠ '"' ∧ c ≠ '\\'
  | .esc e => isSimpleEscape e = true
  | .uni h1 h2 h3 h4 => isHex h1 = true ∧ isHex h2 = true ∧ isHex h3 = true ∧ isHex h4 = true

instance (i : StrItem) : Decidable i.ok := by
  cases i <;> unfold StrItem.ok <;> infer_instance

def hexVal (c : Char) : Nat :=
  if '0' ≤ c && c ≤ '9' then c.toNat - '0'.toNat
  else if 'a' ≤ c && c ≤ 'f' then c.toNat - 'a'.toNat + 10
  else c.toNat - 'A'.toNat + 10

def hex4 (h1 h2 h3 h4 : Char) : Nat :=
  ((hexVal h1 * 16 + hexVal h2) * 16 + hexVal h3) * 16 + hexVal h4

/-- the character a simple escape `\e` denotes; `\/` denotes nothing (!) -/
def escVal (e : Char) : Option Char :=
  if e = '"' then some '"'
  else if e = '\\' then some '\\'
  else if e = 't' then some '\t'
  else if e = 'r' then some '\r'
  else if e = 'n' then some '\n'
  else if e = 'b' then some (Char.ofNat 8)
  else if e = 'f' then some (Char.ofNat 12)
  else none

/-- the character an item denotes, `none` when the decoder rejects it: a raw newline, `\/`,
    a `\u` escape of a surrogate code point -/
def StrItem.val : StrItem → Option Char
  | .plain c => if c = '\n' then none else some c
  | .esc e => escVal e
  | .uni h1 h2 h3 h4 =>
    if validRune (hex4 h1 h2 h3 h4) then some (Char.ofNat (hex4 h1 h2 h3 h4)) else none

def decodeItems : List StrItem → Option (List Char)
  | [] => some []
  | i :: is =>
    match i.val, decodeItems is with
    | some c, some cs => some (c :: cs)
    | _, _ => none

def srcOf (items : List StrItem) : List Char := items.flatMap StrItem.src

example : hexVal '0' = 0 ∧ hexVal '9' = 9 ∧ hexVal 'a' = 10 ∧ hexVal 'f' = 15 ∧ hexVal 'A' = 10 ∧
    hexVal 'F' = 15 := by decide
example : hex4 '0' '0' '4' '1' = 0x41 ∧ hex4 '4' 'e' '2' 'D' = 0x4e2d := by decide
example : srcOf [.plain 'a', .esc 't', .uni '0' '0' '4' '1'] = "a\\t\\u0041".toList := by decide
example : decodeItems [.plain 'a', .esc 't', .uni '0' '0' '4' '1'] = some "a\tA".toList := by decide
example : decodeItems [.plain 'a', .esc '/'] = none := by decide
example : (StrItem.esc '/').ok ∧ (StrItem.plain '\n').ok ∧ (StrItem.uni 'd' '8' '0' '0').ok := by
  decide
example : ¬ (StrItem.plain '"').ok ∧ ¬ (StrItem.esc 'a').ok ∧ ¬ (StrItem.uni '0' '0' 'g' '0').ok := by
  decide

theorem decodeItems_cons (i : StrItem) (is : List StrItem) :
    decodeItems (i :: is) = (do let c ← i.val; let cs ← decodeItems is; pure (c :: cs)) := by
  rw [decodeItems]
  cases i.val <;> cases decodeItems is <;> rfl

theorem decodeItems_append (a b : List StrItem) :
    decodeItems (a ++ b) = (do let x ← decodeItems a; let y ← decodeItems b; pure (x ++ y)) := by
  induction a with
  | nil => cases h : decodeItems b <;> simp [decodeItems, h]
  | cons i a ih =>
    rw [List.cons_append, decodeItems_cons, decodeItems_cons, ih]
    cases i.val <;> cases decodeItems a <;> cases decodeItems b <;> rfl

theorem decodeItems_singleton (i : StrItem) : decodeItems [i] = i.val.map (fun c => [c]) := by
  rw [decodeItems_cons]; cases i.val <;> rfl

theorem decodeItems_eq_none_iff (items : List StrItem) :
    decodeItems items = none ↔ ∃ i ∈ items, i.val = none := by
  induction items with
  | nil => simp [decodeItems]
  | cons i is ih =>
    simp only [decodeItems_cons, List.mem_cons, exists_eq_or_imp, ← ih]
    cases i.val <;> cases decodeItems is <;> simp

theorem decodeItems_length {items : List StrItem} {out : List Char}
    (h : decodeItems items = some out) : out.length = items.length := by
  induction items generalizing out with
  | nil => cases h; rfl
  | cons i is ih =>
    rw [decodeItems_cons] at h
    cases hv : i.val <;> cases hd : decodeItems is <;> simp [hv, hd] at h
    subst h
    simp [ih hd]

theorem srcOf_append (a b : List StrItem) : srcOf (a ++ b) = srcOf a ++ srcOf b := by
  simp [srcOf, List.flatMap_append]

theorem srcOf_cons (i : StrItem) (is : List StrItem) : srcOf (i :: is) = i.src ++ srcOf is := by
  simp [srcOf]

theorem srcOf_plain (body : List Char) : srcOf (body.map .plain) = body := by
  induction body with
  | nil => rfl
  | cons c cs ih => rw [List.map_cons, srcOf_cons, ih]; rfl

theorem decodeItems_plain (body : List Char) (h : ∀ c ∈ body, c ≠ '\n') :
    decodeItems (body.map .plain) = some body := by
  induction body with
  | nil => rfl
  | cons c cs ih =>
    obtain ⟨hc, hcs⟩ := List.forall_mem_cons.1 h
    rw [List.map_cons, decodeItems_cons, ih hcs]
    simp [StrItem.val, hc]

theorem hexDigitVal_of_isHex {c : Char} (h : isHex c = true) :
    hexDigitVal c = some (hexVal c) ∧ hexVal c < 16 := by
  simp only [isHex, Yae.isDigit, hexDigitVal, hexVal, Bool.or_eq_true, Bool.and_eq_true,
    decide_eq_true_eq, char_le_toNat, Char.reduceToNat] at h ⊢
  rcases h with (h | h) | h
  · simp only [if_pos h]; exact ⟨trivial, by omega⟩
  · have n1 : ¬ (48 ≤ c.toNat ∧ c.toNat ≤ 57) := by omega
    simp only [if_neg n1, if_pos h]; exact ⟨by congr 1; omega, by omega⟩
  · have n1 : ¬ (48 ≤ c.toNat ∧ c.toNat ≤ 57) := by omega
    have n2 : ¬ (97 ≤ c.toNat ∧ c.toNat ≤ 102) := by omega
    simp only [if_neg n1, if_neg n2, if_pos h]; exact ⟨by congr 1; omega, by omega⟩

theorem takeHex_four {h1 h2 h3 h4 : Char} (x1 : isHex h1 = true) (x2 : isHex h2 = true)
    (x3 : isHex h3 = true) (x4 : isHex h4 = true) (tail : List Char) :
    takeHex 4 0 (h1 :: h2 :: h3 :: h4 :: tail) = some (hex4 h1 h2 h3 h4, tail) := by
  simp [takeHex, (hexDigitVal_of_isHex x1).1, (hexDigitVal_of_isHex x2).1,
    (hexDigitVal_of_isHex x3).1, (hexDigitVal_of_isHex x4).1, hex4]

theorem hex4_lt {h1 h2 h3 h4 : Char} (x1 : isHex h1 = true) (x2 : isHex h2 = true)
    (x3 : isHex h3 = true) (x4 : isHex h4 = true) : hex4 h1 h2 h3 h4 < 0x10000 := by
  have := (hexDigitVal_of_isHex x1).2
  have := (hexDigitVal_of_isHex x2).2
  have := (hexDigitVal_of_isHex x3).2
  have := (hexDigitVal_of_isHex x4).2
  unfold hex4; omega

/-- One item of the grammar is one step of `unquoteBody` (one unit of fuel, whatever the
    length of the item): the value is pushed, or the whole literal is rejected. -/
theorem unquoteBody_item (i : StrItem) (hok : i.ok) (fuel : Nat) (acc tail : List Char) :
    unquoteBody '"' false (fuel + 1) acc (i.src ++ tail)
      = match i.val with
        | some c => unquoteBody '"' false fuel (c :: acc) tail
        | none => none := by
  cases i with
  | plain c =>
    obtain ⟨hq, hb⟩ := hok
    by_cases hn : c = '\n'
    · subst hn; simp [StrItem.src, StrItem.val, unquoteBody]
    · simp [StrItem.src, StrItem.val, unquoteBody, hq, hb, hn]
  | esc e =>
    have hok' : isSimpleEscape e = true := hok
    simp only [isSimpleEscape, Bool.or_eq_true, beq_iff_eq] at hok'
    have ho : isOctal '/' = false := by decide
    rcases hok' with ((((((h | h) | h) | h) | h) | h) | h) | h <;> subst h <;>
      simp [StrItem.src, StrItem.val, escVal, unquoteBody, unescape, ho]
  | uni h1 h2 h3 h4 =>
    obtain ⟨x1, x2, x3, x4⟩ := hok
    have ht := takeHex_four x1 x2 x3 x4 tail
    cases hv : validRune (hex4 h1 h2 h3 h4) with
    | false | true => simp [StrItem.src, StrItem.val, unquoteBody, unescape, ht, hv]

theorem unquoteBody_items (items : List StrItem) : ∀ (fuel : Nat) (acc : List Char),
    items.length + 1 ≤ fuel → (∀ i ∈ items, i.ok) →
    unquoteBody '"' false fuel acc (srcOf items ++ ['"'])
      = (decodeItems items).map (fun out => (acc.reverse ++ out, [])) := by
  induction items with
  | nil =>
    intro fuel acc h _
    obtain ⟨f, rfl⟩ : ∃ f, fuel = f + 1 := ⟨fuel - 1, by omega⟩
    simp [srcOf, decodeItems, unquoteBody]
  | cons i is ih =>
    intro fuel acc h hok
    obtain ⟨f, rfl⟩ : ∃ f, fuel = f + 1 := ⟨fuel - 1, by omega⟩
    obtain ⟨hi, his⟩ := List.forall_mem_cons.1 hok
    rw [srcOf_cons, List.append_assoc, unquoteBody_item i hi, decodeItems_cons]
    cases hv : i.val with
    | none => rfl
    | some c =>
      simp only []
      rw [ih f (c :: acc) (by simpa using h) his]
      cases decodeItems is <;> simp

theorem src_length_pos (i : StrItem) : 1 ≤ i.src.length := by
  cases i <;> simp [StrItem.src]

theorem length_le_srcOf (items : List StrItem) : items.length ≤ (srcOf items).length := by
  induction items with
  | nil => simp
  | cons i is ih =>
    have := src_length_pos i
    rw [srcOf_cons]
    simp only [List.length_append, List.length_cons]
    omega

/-- **String literal decoding, item by item.**  A double-quoted literal whose body consists of
    items of the documented grammar decodes to the concatenation of the values of its items,
    and is rejected (a syntax error in the parser) when some item has no value. -/
theorem unquote_items (items : List StrItem) (hok : ∀ i ∈ items, i.ok) :
    unquote (String.ofList ('"' :: srcOf items ++ ['"'])) = (decodeItems items).map String.ofList := by
  have hlen := length_le_srcOf items
  rw [unquote_dq, unquoteBody_items items _ []
    (by simp only [List.length_append, List.length_singleton]; omega) hok]
  cases decodeItems items <;> simp

example : unquote (String.ofList ('"' :: srcOf [.plain 'a', .esc 't', .uni '0' '0' '4' '1'] ++ ['"']))
    = some "a\tA" := by
  rw [unquote_items _ (by decide)]; decide

/-- **Escape-free bodies decode to themselves**: no quote, no backslash, no newline. -/
theorem unquote_plain (body : List Char) (h : ∀ c ∈ body, c ≠ '"' ∧ c ≠ '\\' ∧ c ≠ '\n') :
    unquote (String.ofList ('"' :: body ++ ['"'])) = some (String.ofList body) := by
  have := unquote_items (body.map .plain)
    (List.forall_mem_map.2 fun c hc => ⟨(h c hc).1, (h c hc).2.1⟩)
  rw [srcOf_plain, decodeItems_plain body (fun c hc => (h c hc).2.2)] at this
  exact this

example : unquote (String.ofList ('"' :: "héllo 中".toList ++ ['"'])) = some "héllo 中" := by
  rw [unquote_plain _ (by decide), String.ofList_toList]

theorem ite_some_inv {α} {p : Prop} [Decidable p] {a c : α} {r : Option α}
    (h : (if p then some a else r) = some c) : (p ∧ c = a) ∨ r = some c := by
  by_cases hp : p
  · rw [if_pos hp] at h; exact .inl ⟨hp, (Option.some.inj h).symm⟩
  · rw [if_neg hp] at h; exact .inr h

theorem escVal_eq_some_iff (e c : Char) : escVal e = some c ↔
    (e = '"' ∧ c = '"') ∨ (e = '\\' ∧ c = '\\') ∨ (e = 't' ∧ c = '\t') ∨ (e = 'r' ∧ c = '\r') ∨
    (e = 'n' ∧ c = '\n') ∨ (e = 'b' ∧ c = Char.ofNat 8) ∨ (e = 'f' ∧ c = Char.ofNat 12) := by
  constructor
  · intro h
    -- one `if` of `escVal` after the other
    iterate 6 refine (ite_some_inv h).imp_right fun h => ?_
    exact (ite_some_inv h).resolve_right nofun
  · rintro (⟨rfl, rfl⟩ | ⟨rfl, rfl⟩ | ⟨rfl, rfl⟩ | ⟨rfl, rfl⟩ | ⟨rfl, rfl⟩ | ⟨rfl, rfl⟩ | ⟨rfl, rfl⟩) <;>
      rfl

/-- **One item between arbitrary items**: what is before and after it decodes independently. -/
theorem unquote_item_context (pre post : List StrItem) (hpre : ∀ i ∈ pre, i.ok)
    (hpost : ∀ i ∈ post, i.ok) (i : StrItem) (hi : i.ok) :
    unquote (String.ofList ('"' :: (srcOf pre ++ (i.src ++ srcOf post)) ++ ['"'])) =
      (do let x ← decodeItems pre; let c ← i.val; let y ← decodeItems post
          pure (String.ofList (x ++ c :: y))) := by
  have := unquote_items (pre ++ i :: post)
    (List.forall_mem_append.2 ⟨hpre, List.forall_mem_cons.2 ⟨hi, hpost⟩⟩)
  rw [srcOf_append, srcOf_cons, decodeItems_append, decodeItems_cons] at this
  rw [this]
  cases decodeItems pre <;> cases i.val <;> cases decodeItems post <;> rfl

/-- **One escape between arbitrary items** (`\e` with `e` one of `"\trnbf`, value `c`): the
    literal decodes to the text before, then `c`, then the text after. -/
theorem unquote_esc_context (pre post : List StrItem) (hpre : ∀ i ∈ pre, i.ok)
    (hpost : ∀ i ∈ post, i.ok) (e c : Char) (he : escVal e = some c) :
    unquote (String.ofList ('"' :: srcOf pre ++ '\\' :: e :: srcOf post ++ ['"']))
      = (do let x ← decodeItems pre; let y ← decodeItems post; pure (String.ofList (x ++ c :: y))) := by
  have hesc : (StrItem.esc e).ok := by
    show isSimpleEscape e = true
    rcases (escVal_eq_some_iff e c).mp he with h | h | h | h | h | h | h <;>
      (obtain ⟨rfl, _⟩ := h; decide)
  have := unquote_item_context pre post hpre hpost (.esc e) hesc
  simp only [StrItem.val, he] at this
  exact this

/-- `\n` between arbitrary items of the grammar -/
example (pre post : List StrItem) (hpre : ∀ i ∈ pre, i.ok) (hpost : ∀ i ∈ post, i.ok) :
    unquote (String.ofList ('"' :: srcOf pre ++ '\\' :: 'n' :: srcOf post ++ ['"']))
      = (do let x ← decodeItems pre; let y ← decodeItems post; pure (String.ofList (x ++ '\n' :: y))) :=
  unquote_esc_context pre post hpre hpost 'n' '\n' (by decide)

/-- non-vacuity: `"a\tb\u0041"` around a `\"` -/
example : unquote (String.ofList ('"' :: srcOf [.plain 'a', .esc 't'] ++ '\\' :: '"' ::
    srcOf [.plain 'b', .uni '0' '0' '4' '1'] ++ ['"'])) = some "a\t\"bA" := by
  rw [unquote_esc_context _ _ (by decide) (by decide) '"' '"' (by decide)]; decide

/-- **One `\uXXXX` escape of a non-surrogate code point between arbitrary items**: the literal
    decodes to the text before, then the character of that code point, then the text after. -/
theorem unquote_uni_context (pre post : List StrItem) (hpre : ∀ i ∈ pre, i.ok)
    (hpost : ∀ i ∈ post, i.ok) (h1 h2 h3 h4 : Char) (hx : (StrItem.uni h1 h2 h3 h4).ok)
    (hv : validRune (hex4 h1 h2 h3 h4) = true) :
    unquote (String.ofList ('"' :: srcOf pre ++ '\\' :: 'u' :: h1 :: h2 :: h3 :: h4 :: srcOf post ++ ['"']))
      = (do let x ← decodeItems pre; let y ← decodeItems post
            pure (String.ofList (x ++ Char.ofNat (hex4 h1 h2 h3 h4) :: y))) := by
  have := unquote_item_context pre post hpre hpost (.uni h1 h2 h3 h4) hx
  simp only [StrItem.val, hv, if_true] at this
  exact this

/-- non-vacuity: `\u4e2d` between `a` and `\n` -/
example : unquote (String.ofList ('"' :: srcOf [.plain 'a'] ++ '\\' :: 'u' :: '4' :: 'e' :: '2' :: 'd' ::
    srcOf [.esc 'n'] ++ ['"'])) = some "a中\n" := by
  rw [unquote_uni_context _ _ (by decide) (by decide) '4' 'e' '2' 'd' (by decide) (by decide)]; decide

/-! Every escape of the grammar once, by evaluation of `unquote` itself (not through `unquote_items`). -/

example : unquote "\"a\\tb\"" = some "a\tb" := by decide
example : unquote "\"a\\rb\"" = some "a\rb" := by decide
example : unquote "\"a\\nb\"" = some "a\nb" := by decide
example : unquote "\"a\\bb\"" = some "a\x08b" := by decide
example : unquote "\"a\\fb\"" = some "a\x0cb" := by decide
example : unquote "\"a\\\"b\"" = some "a\"b" := by decide
example : unquote "\"a\\\\b\"" = some "a\\b" := by decide
example : unquote "\"\\u0041\"" = some "A" := by decide
example : unquote "\"\\u4e2d\"" = some "中" := by decide
example : unquote "\"\\u4E2D\\u6587\"" = some "中文" := by decide
example : unquote "\"\"" = some "" := by decide

/-! ## FINDINGS: documented forms that are rejected

The lexer admits them (they are words of the string pattern, see `str_matches_iff`), the
decoder (like Go's `strconv.Unquote`) returns an error, the parser reports a syntax error. -/

theorem val_eq_none_iff (i : StrItem) (hok : i.ok) : i.val = none ↔
    i = .plain '\n' ∨ i = .esc '/' ∨
    ∃ h1 h2 h3 h4, i = .uni h1 h2 h3 h4 ∧ 0xD800 ≤ hex4 h1 h2 h3 h4 ∧ hex4 h1 h2 h3 h4 ≤ 0xDFFF := by
  cases i with
  | plain c =>
    by_cases hn : c = '\n' <;> simp [StrItem.val, hn]
  | esc e =>
    have hok' : isSimpleEscape e = true := hok
    simp only [isSimpleEscape, Bool.or_eq_true, beq_iff_eq] at hok'
    rcases hok' with ((((((h | h) | h) | h) | h) | h) | h) | h <;> subst h <;>
      simp [StrItem.val, escVal]
  | uni h1 h2 h3 h4 =>
    obtain ⟨x1, x2, x3, x4⟩ := hok
    have hlt := hex4_lt x1 x2 x3 x4
    simp only [StrItem.val, reduceCtorEq, false_or, StrItem.uni.injEq]
    constructor
    · intro h
      refine ⟨h1, h2, h3, h4, ⟨rfl, rfl, rfl, rfl⟩, ?_⟩
      by_cases hv : validRune (hex4 h1 h2 h3 h4) = true
      · simp [hv] at h
      · simp [validRune] at hv; omega
    · rintro ⟨_, _, _, _, ⟨rfl, rfl, rfl, rfl⟩, ha, hb⟩
      have : validRune (hex4 h1 h2 h3 h4) = false := by simp [validRune]; omega
      simp [this]

/-- **Exactly which literals of the grammar are rejected**: those containing a raw newline,
    `\/`, or a `\u` surrogate.  All the others decode (`unquote_items`). -/
theorem unquote_none_iff (items : List StrItem) (hok : ∀ i ∈ items, i.ok) :
    unquote (String.ofList ('"' :: srcOf items ++ ['"'])) = none ↔
    .plain '\n' ∈ items ∨ .esc '/' ∈ items ∨
    ∃ h1 h2 h3 h4, .uni h1 h2 h3 h4 ∈ items ∧ 0xD800 ≤ hex4 h1 h2 h3 h4 ∧ hex4 h1 h2 h3 h4 ≤ 0xDFFF := by
  rw [unquote_items items hok, Option.map_eq_none_iff, decodeItems_eq_none_iff]
  constructor
  · rintro ⟨i, hi, hv⟩
    rcases (val_eq_none_iff i (hok i hi)).mp hv with rfl | rfl | ⟨h1, h2, h3, h4, rfl, hr⟩
    · exact .inl hi
    · exact .inr (.inl hi)
    · exact .inr (.inr ⟨h1, h2, h3, h4, hi, hr⟩)
  · rintro (hi | hi | ⟨h1, h2, h3, h4, hi, hr⟩)
    · exact ⟨_, hi, (val_eq_none_iff _ (hok _ hi)).mpr (.inl rfl)⟩
    · exact ⟨_, hi, (val_eq_none_iff _ (hok _ hi)).mpr (.inr (.inl rfl))⟩
    · exact ⟨_, hi, (val_eq_none_iff _ (hok _ hi)).mpr (.inr (.inr ⟨h1, h2, h3, h4, rfl, hr⟩))⟩

/-- FINDING: `\/` is in the documented grammar and makes the whole literal a syntax error. -/
theorem unquote_slash_rejected (items : List StrItem) (hok : ∀ i ∈ items, i.ok)
    (h : .esc '/' ∈ items) : unquote (String.ofList ('"' :: srcOf items ++ ['"'])) = none :=
  (unquote_none_iff items hok).mpr (.inr (.inl h))

/-- FINDING: a raw newline between double quotes is in the documented grammar (`[^"\\]`) and
    makes the whole literal a syntax error. -/
theorem unquote_newline_rejected (items : List StrItem) (hok : ∀ i ∈ items, i.ok)
    (h : .plain '\n' ∈ items) : unquote (String.ofList ('"' :: srcOf items ++ ['"'])) = none :=
  (unquote_none_iff items hok).mpr (.inl h)

/-- FINDING: `\uD800` … `\uDFFF` are in the documented grammar and make the whole literal a
    syntax error. -/
theorem unquote_surrogate_rejected (items : List StrItem) (hok : ∀ i ∈ items, i.ok)
    (h1 h2 h3 h4 : Char) (h : .uni h1 h2 h3 h4 ∈ items)
    (hr : 0xD800 ≤ hex4 h1 h2 h3 h4 ∧ hex4 h1 h2 h3 h4 ≤ 0xDFFF) :
    unquote (String.ofList ('"' :: srcOf items ++ ['"'])) = none :=
  (unquote_none_iff items hok).mpr (.inr (.inr ⟨h1, h2, h3, h4, h, hr⟩))

/-! The findings by evaluation of `unquote` itself. -/

example : unquote "\"\\/\"" = none := by decide
example : unquote "\"http:\\/\\/x\"" = none := by decide
example : unquote "\"a\nb\"" = none := by decide
example : unquote "\"\\ud800\"" = none := by decide
example : unquote "\"\\uDFFF\"" = none := by decide
example : unquote "\"\\ud83d\\ude00\"" = none := by decide   -- a surrogate PAIR (JSON style) too
example : unquote "\"\\ud7ff\\ue000\"" = some "\ud7ff\ue000" := by decide  -- the neighbours are fine
/-- non-vacuity of the three rejection theorems -/
example : unquote (String.ofList ('"' :: srcOf [.plain 'a', .esc '/'] ++ ['"'])) = none :=
  unquote_slash_rejected _ (by decide) (by decide)
example : unquote (String.ofList ('"' :: srcOf [.plain 'a', .plain '\n'] ++ ['"'])) = none :=
  unquote_newline_rejected _ (by decide) (by decide)
example : unquote (String.ofList ('"' :: srcOf [.uni 'd' 'B' 'f' 'F'] ++ ['"'])) = none :=
  unquote_surrogate_rejected _ (by decide) 'd' 'B' 'f' 'F' (by decide) (by decide)

/-- **Raw string literals**: the body is taken as it is, no escape processing, EXCEPT that
    carriage returns are dropped. -/
theorem unquote_raw (body : List Char) (h : ∀ c ∈ body, c ≠ '`') :
    unquote (String.ofList ('`' :: body ++ ['`']))
      = some (String.ofList (body.filter (· != '\r'))) := by
  unfold unquote
  rw [String.toList_ofList]
  have ht := span_append (p := (· != '`')) (r := ['`']) (by simpa using h) (by simp)
  show (match '`' :: (body ++ ['`']) with
    | [] => none | [_] => none | q :: rest => _) = _
  cases hx : body ++ ['`'] with
  | nil => simp at hx
  | cons y ys =>
    simp only []
    rw [← hx]
    have e1 : ('`' == '`') = true := by decide
    simp only [e1, if_true, ht.1, ht.2]

theorem unquote_raw_verbatim (body : List Char) (h : ∀ c ∈ body, c ≠ '`') (hr : ∀ c ∈ body, c ≠ '\r') :
    unquote (String.ofList ('`' :: body ++ ['`'])) = some (String.ofList body) := by
  rw [unquote_raw body h, List.filter_eq_self.mpr (by simpa using hr)]

example : unquote "`a\rb`" = some "ab" := by decide          -- FINDING: the `\r` is gone
example : unquote "`a\r\nb`" = some "a\nb" := by decide
example : unquote "`a\\nb`" = some "a\\nb" := by decide      -- no escape processing
example : unquote "`\"\\/\n`" = some "\"\\/\n" := by decide  -- quotes, `\/`, newlines are fine
example : unquote "``" = some "" := by decide
example : unquote (String.ofList ('`' :: "a\\u0041\n\"".toList ++ ['`'])) = some "a\\u0041\n\"" := by
  rw [unquote_raw_verbatim _ (by decide) (by decide), String.ofList_toList]

/-! ## Tie-in: the words of the lexer's patterns are the texts above

`strItem` (lower case, `LexRegexStr`) is the `Re` of one iteration of the string pattern; `StrItem` is the item of
the spec above. -/

open Re in
theorem star_strItem_of_items (items : List StrItem) (hok : ∀ i ∈ items, i.ok) :
    Matches (star strItem) (srcOf items) := by
  induction items with
  | nil => exact .starNil
  | cons i is ih =>
    rw [srcOf_cons]
    obtain ⟨hi, his⟩ := List.forall_mem_cons.1 hok
    refine .starCons ?_ (ih his)
    cases i with
    | plain c => exact strItem_plain c hi
    | esc e => exact strItem_esc e hi
    | uni h1 h2 h3 h4 => exact strItem_uni h1 h2 h3 h4 hi.1 hi.2.1 hi.2.2.1 hi.2.2.2

open Re in
theorem items_of_star_strItem {w : List Char} (h : Matches (star strItem) w) :
    ∃ items, (∀ i ∈ items, i.ok) ∧ w = srcOf items := by
  refine Matches.star_induction (P := fun w => ∃ items, (∀ i ∈ items, i.ok) ∧ w = srcOf items)
    ⟨[], by simp, rfl⟩ ?_ h
  rintro u v hu _ ⟨is, hok, rfl⟩
  rcases strItem_inv hu with hp | ⟨e, rfl, he⟩ | ⟨h1, h2, h3, h4, rfl, x1, x2, x3, x4⟩
  · exact ⟨u.map .plain ++ is, List.forall_mem_append.2 ⟨(List.forall_mem_map (f := StrItem.plain)).2 hp, hok⟩,
      by rw [srcOf_append, srcOf_plain]⟩
  · exact ⟨.esc e :: is, List.forall_mem_cons.2 ⟨he, hok⟩, by rw [srcOf_cons]; rfl⟩
  · exact ⟨.uni h1 h2 h3 h4 :: is, List.forall_mem_cons.2 ⟨⟨x1, x2, x3, x4⟩, hok⟩,
      by rw [srcOf_cons]; rfl⟩

/-- **The language of the string pattern** `"(?:[^"\\]*|\\["\\trnbf\/]|\\u[0-9a-fA-F]{4})*"` is
    exactly: a quote, the texts of `ok` items, a quote. -/
theorem str_matches_iff (w : List Char) : (reOf .str).Matches w ↔
    ∃ items, (∀ i ∈ items, i.ok) ∧ w = '"' :: srcOf items ++ ['"'] := by
  constructor
  · intro h
    obtain ⟨b, rfl, a3⟩ := Re.Matches.delim_iff.1 h
    obtain ⟨items, hok, rfl⟩ := items_of_star_strItem a3
    exact ⟨items, hok, rfl⟩
  · rintro ⟨items, hok, rfl⟩
    exact Re.Matches.delim_iff.2 ⟨_, rfl, star_strItem_of_items items hok⟩

/-- **The language of the raw pattern** `` `[^`]*` `` -/
theorem raw_matches_iff (w : List Char) : (reOf .raw).Matches w ↔
    ∃ body, (∀ c ∈ body, c ≠ '`') ∧ w = '`' :: body ++ ['`'] := by
  have hcls : ∀ c, clsTest true [.ch '`'] c = true ↔ c ≠ '`' := by
    intro c; simp [clsTest, CItem.test]
  constructor
  · intro h
    obtain ⟨b, rfl, a3⟩ := Re.Matches.delim_iff.1 h
    have hall := List.all_eq_true.1 ((Re.isChar_cls _ _).star_word a3)
    exact ⟨b, fun c hc => (hcls c).mp (hall c hc), rfl⟩
  · rintro ⟨body, hb, rfl⟩
    refine Re.Matches.delim_iff.2 ⟨_, rfl, ?_⟩
    induction body with
    | nil => exact .starNil
    | cons c cs ih =>
      obtain ⟨hc, hcs⟩ := List.forall_mem_cons.1 hb
      exact Re.Matches.starCons (u := [c]) (.cls ((hcls c).mpr hc)) (ih hcs)

/-- the three rejected forms are words of the string pattern: the lexer produces the token,
    the parser then fails on it -/
example : (reOf .str).Matches "\"\\/\"".toList ∧ (reOf .str).Matches "\"a\nb\"".toList ∧
    (reOf .str).Matches "\"\\ud800\"".toList :=
  ⟨(str_matches_iff _).mpr ⟨[.esc '/'], by decide, by decide⟩,
   (str_matches_iff _).mpr ⟨[.plain 'a', .plain '\n', .plain 'b'], by decide, by decide⟩,
   (str_matches_iff _).mpr ⟨[.uni 'd' '8' '0' '0'], by decide, by decide⟩⟩

end Yae.Num

#print axioms Yae.Num.unquote_items
#print axioms Yae.Num.unquote_plain
#print axioms Yae.Num.unquote_esc_context
#print axioms Yae.Num.unquote_uni_context
#print axioms Yae.Num.unquote_none_iff
#print axioms Yae.Num.unquote_raw
#print axioms Yae.Num.str_matches_iff
#print axioms Yae.Num.raw_matches_iff
