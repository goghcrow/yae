/-
  One motive for `Yields` and its five list forms, so that a fact about all six is one induction
  (`induction h using YieldKind.Holds.induct`, then `case <rule>`).  `induct` is a `def` whose type is left to Lean
  to infer (hence `linter.defProp false`): written out it would repeat the 33 rules of `ParseYield.lean`; to see it,
  `#check @YieldKind.Holds.induct`.  One premise per rule, in the order of that file, named after the rule; for the
  list forms the first letter of the form and the constructor: `anil asome`, `sone scons`, `enil eone econs`,
  `pnil pone pcons`, `fnil fone fcons`.
-/
import Yae.Proofs.ParseYield
namespace Yae

inductive YieldKind where
  | expr (t : Expr)
  | args (as : List Expr)
  | seq (as : List Expr)
  | elems (es : List Expr)
  | pairs (ps : List (Expr × Expr))
  | fields (fs : List (String × Expr))

def YieldKind.Holds (env : PEnv) : YieldKind → Nat → Nat → Prop
  | .expr t => Yields env t
  | .args as => YArgs env as
  | .seq as => YSeq env as
  | .elems es => YElems env es
  | .pairs ps => YPairs env ps
  | .fields fs => YFields env fs

namespace YieldKind.Holds
set_option linter.defProp false

def induct {env : PEnv} {motive : (K : YieldKind) → (i j : Nat) → K.Holds env i j → Prop} :=
  fun ident true_ false_ num str time group pre emptyMap list map obj binary post ternary call
      methodCall member memberEOF subscript anil asome sone scons enil eone econs pnil pone pcons
      fnil fone fcons {K i j} (h : K.Holds env i j) =>
    show motive K i j h from
    match K, h with
    | .expr _, h => @Yields.rec env (fun t i j h => motive (.expr t) i j h) (fun as i j h => motive (.args as) i j h)
      (fun as i j h => motive (.seq as) i j h) (fun es i j h => motive (.elems es) i j h)
      (fun ps i j h => motive (.pairs ps) i j h) (fun fs i j h => motive (.fields fs) i j h)
      ident true_ false_ num str time group pre emptyMap list map obj binary post ternary call
      methodCall member memberEOF subscript anil asome sone scons enil eone econs pnil pone pcons
      fnil fone fcons _ _ _ h
    | .args _, h => @YArgs.rec env (fun t i j h => motive (.expr t) i j h) (fun as i j h => motive (.args as) i j h)
      (fun as i j h => motive (.seq as) i j h) (fun es i j h => motive (.elems es) i j h)
      (fun ps i j h => motive (.pairs ps) i j h) (fun fs i j h => motive (.fields fs) i j h)
      ident true_ false_ num str time group pre emptyMap list map obj binary post ternary call
      methodCall member memberEOF subscript anil asome sone scons enil eone econs pnil pone pcons
      fnil fone fcons _ _ _ h
    | .seq _, h => @YSeq.rec env (fun t i j h => motive (.expr t) i j h) (fun as i j h => motive (.args as) i j h)
      (fun as i j h => motive (.seq as) i j h) (fun es i j h => motive (.elems es) i j h)
      (fun ps i j h => motive (.pairs ps) i j h) (fun fs i j h => motive (.fields fs) i j h)
      ident true_ false_ num str time group pre emptyMap list map obj binary post ternary call
      methodCall member memberEOF subscript anil asome sone scons enil eone econs pnil pone pcons
      fnil fone fcons _ _ _ h
    | .elems _, h => @YElems.rec env (fun t i j h => motive (.expr t) i j h) (fun as i j h => motive (.args as) i j h)
      (fun as i j h => motive (.seq as) i j h) (fun es i j h => motive (.elems es) i j h)
      (fun ps i j h => motive (.pairs ps) i j h) (fun fs i j h => motive (.fields fs) i j h)
      ident true_ false_ num str time group pre emptyMap list map obj binary post ternary call
      methodCall member memberEOF subscript anil asome sone scons enil eone econs pnil pone pcons
      fnil fone fcons _ _ _ h
    | .pairs _, h => @YPairs.rec env (fun t i j h => motive (.expr t) i j h) (fun as i j h => motive (.args as) i j h)
      (fun as i j h => motive (.seq as) i j h) (fun es i j h => motive (.elems es) i j h)
      (fun ps i j h => motive (.pairs ps) i j h) (fun fs i j h => motive (.fields fs) i j h)
      ident true_ false_ num str time group pre emptyMap list map obj binary post ternary call
      methodCall member memberEOF subscript anil asome sone scons enil eone econs pnil pone pcons
      fnil fone fcons _ _ _ h
    | .fields _, h => @YFields.rec env (fun t i j h => motive (.expr t) i j h) (fun as i j h => motive (.args as) i j h)
      (fun as i j h => motive (.seq as) i j h) (fun es i j h => motive (.elems es) i j h)
      (fun ps i j h => motive (.pairs ps) i j h) (fun fs i j h => motive (.fields fs) i j h)
      ident true_ false_ num str time group pre emptyMap list map obj binary post ternary call
      methodCall member memberEOF subscript anil asome sone scons enil eone econs pnil pone pcons
      fnil fone fcons _ _ _ h

end YieldKind.Holds

end Yae
