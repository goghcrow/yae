/-
  The engine state machine of `Yae/Model/Engine.lean`: what a call does to the engine, and that in a history of
  compilations and invocations every output is the output of that call on the engine alone (`run_use_out`).
  `runWith` and its lemmas are stated for any step function and serve `EngineVm` too.
-/
import Yae.Model.Engine
namespace Yae.EngineHistory
open Yae Yae.Facade

/-! `Engine.init` (Go: `makeSureInit`) -/

theorem init_eq (e : Engine) : e.init =
    { e with ops := e.ops ++ (if !e.inited && e.useBuiltIn then builtinOps else []),
             funs := e.funs ++ (if !e.inited && e.useBuiltIn then builtinDecls else []),
             inited := true } := by
  obtain ⟨ops, funs, useBuiltIn, inited, backend⟩ := e
  cases inited <;> cases useBuiltIn <;> simp [Engine.init]

theorem init_inited (e : Engine) : e.init.inited = true := by rw [init_eq]

theorem init_backend (e : Engine) : e.init.backend = e.backend := by rw [init_eq]

theorem init_ops (e : Engine) :
    e.init.ops = e.ops ++ (if !e.inited && e.useBuiltIn then builtinOps else []) := by rw [init_eq]

theorem init_funs (e : Engine) :
    e.init.funs = e.funs ++ (if !e.inited && e.useBuiltIn then builtinDecls else []) := by rw [init_eq]

theorem init_of_inited {e : Engine} (h : e.inited = true) : e.init = e := by
  unfold Engine.init
  rw [if_pos h]

theorem init_idempotent (e : Engine) : e.init.init = e.init := init_of_inited (init_inited e)

theorem compile_fst (e : Engine) (times : List (String × Int)) (tenv : List (String × Ty))
    (src : String) : (e.compile times tenv src).1 = e.init := rfl

theorem compile_init (e : Engine) (times : List (String × Int)) (tenv : List (String × Ty))
    (src : String) : e.init.compile times tenv src = e.compile times tenv src := by
  unfold Engine.compile
  rw [init_idempotent]

theorem compile_of_inited {e : Engine} (h : e.inited = true) (times : List (String × Int))
    (tenv : List (String × Ty)) (src : String) : (e.compile times tenv src).1 = e := by
  rw [compile_fst, init_of_inited h]

theorem compile_callable {e : Engine} {times : List (String × Int)} {tenv : List (String × Ty)}
    {src : String} {c : Callable} (h : (e.compile times tenv src).2 = .ok c) :
    c.tenv = tenv ∧ c.funs = e.init.funs ∧ c.backend = e.backend ∧
      compileSrc e.init.ops times (e.init.tenvOf tenv) src = .ok (c.ty, c.tree) := by
  unfold Engine.compile at h
  simp only at h
  split at h
  · cases h
  · next ty tree hc =>
    cases h
    exact ⟨rfl, rfl, init_backend e, hc⟩

theorem compileSrc_check {ops : List Operator} {times : List (String × Int)} {Γ : TEnv}
    {src : String} {T : Ty} {e' : Expr} (hc : compileSrc ops times Γ src = .ok (T, e')) :
    ∃ d c', check Γ 0 d = .ok (T, e', c') := by
  unfold compileSrc at hc
  split at hc
  · cases hc
  · split at hc
    · cases hc
    · split at hc
      · cases hc
      · next d _ =>
        split at hc
        · cases hc
        · next ty e'' c' hck =>
          simp only [Except.ok.injEq, Prod.mk.injEq] at hc
          obtain ⟨rfl, rfl⟩ := hc
          exact ⟨d, c', hck⟩

theorem callable_eq {o : Option Out} {c : Callable} (h : Out.callable? o = some c) :
    o = some (.compiled (.ok c)) := by
  unfold Out.callable? at h
  split at h
  · cases h; rfl
  · cases h

/-- what a call does to the engine; the outputs so far play no part -/
def effect (e : Engine) (op : Op) : Engine := (e.step [] op).1

theorem step_fst (e : Engine) (outs : List Out) (op : Op) : (e.step outs op).1 = effect e op := by
  cases op with
  | invoke k venv ext =>
    simp only [effect, Engine.step]
    split <;> rfl
  | _ => rfl

theorem effect_use {e : Engine} (he : e.inited = true) {op : Op} (hu : op.isUse = true) :
    effect e op = e := by
  cases op with
  | compile times tenv src => exact compile_of_inited he times tenv src
  | invoke k venv ext => rfl
  | invokeC c venv ext => rfl
  | _ => cases hu

theorem step_use {e : Engine} (he : e.inited = true) (outs : List Out) {op : Op}
    (hu : op.isUse = true) : (e.step outs op).1 = e :=
  (step_fst e outs op).trans (effect_use he hu)

/-! These evaluate a concrete history from the outputs of its compilations, without unfolding `Engine.compile`
where a Callable is looked up. -/

theorem runFrom_cons {e e' : Engine} {outs : List Out} {op : Op} {o : Out}
    (h : e.step outs op = (e', o)) (rest : List Op) :
    e.runFrom outs (op :: rest) = e'.runFrom (outs ++ [o]) rest := by
  rw [Engine.runFrom, h]

theorem step_compile {e : Engine} {times : List (String × Int)} {tenv : List (String × Ty)}
    {src : String} {r : Except CompileErr Callable} (h : (e.compile times tenv src).2 = r)
    (outs : List Out) : e.step outs (.compile times tenv src) = (e.init, .compiled r) := by
  rw [← h]; rfl

theorem step_invoke {outs : List Out} {k : Nat} {c : Callable}
    (h : outs[k]? = some (.compiled (.ok c))) (e : Engine) (venv : List (String × Val))
    (ext : Externs) : e.step outs (.invoke k venv ext) = (e, .result (e.invoke c venv ext)) := by
  simp only [Engine.step, h, Out.callable?]

/-- early binding runs against the table of the compilation, late binding against the engine's -/
theorem tableFor_early {e : Engine} {c : Callable} (h : c.backend.late = false) : e.tableFor c = c.funs := by
  unfold Engine.tableFor; rw [h]; rfl

theorem tableFor_late {e : Engine} {c : Callable} (h : c.backend.late = true) : e.tableFor c = e.funs :=
  if_pos h

theorem invoke_nil {e : Engine} {c : Callable} {ext : Externs} {v : Val} {evs : List Event}
    (ht : c.tenv = []) (h : runEval c.backend.dbg ⟨[], e.tableFor c, ext⟩ c.tree = (.ok v, evs)) :
    e.invoke c [] ext = (.ok v, evs) := by
  unfold Engine.invoke
  rw [ht, h]
  rfl

theorem mem_invoke_events {e : Engine} {c : Callable} {venv : List (String × Val)} {ext : Externs}
    {ev : Event} (h : ev ∈ (e.invoke c venv ext).2) :
    ev ∈ (runEval c.backend.dbg ⟨venv, e.tableFor c, ext⟩ c.tree).2 := by
  unfold Engine.invoke at h
  split at h
  · cases h
  · split at h
    · next hr => rw [hr]; exact h
    · next hr => rw [hr]; exact h

theorem invoke_env_iff (e : Engine) (c : Callable) (venv : List (String × Val)) (ext : Externs) :
    (∃ err evs, e.invoke c venv ext = (.error (.env err), evs)) ↔
      ∃ err, envCheck c.tenv venv = .error err := by
  unfold Engine.invoke
  cases envCheck c.tenv venv with
  | error err => exact ⟨fun _ => ⟨err, rfl⟩, fun _ => ⟨err, [], rfl⟩⟩
  | ok u =>
    cases u
    refine ⟨fun ⟨err, evs, h⟩ => ?_, fun ⟨err, h⟩ => by cases h⟩
    simp only at h
    split at h <;> cases h

section machine
variable {σ β : Type} (step : σ → List β → Op → σ × β)

def runWith (s : σ) (outs : List β) : List Op → σ × List β
  | [] => (s, outs)
  | op :: rest => runWith (step s outs op).1 (outs ++ [(step s outs op).2]) rest

theorem runWith_append (s : σ) (outs : List β) (a b : List Op) :
    runWith step s outs (a ++ b) =
      runWith step (runWith step s outs a).1 (runWith step s outs a).2 b := by
  induction a generalizing s outs with
  | nil => rfl
  | cons op a ih => exact ih _ _

theorem runWith_outs (s : σ) (outs : List β) (ops : List Op) :
    ∃ t, (runWith step s outs ops).2 = outs ++ t ∧ t.length = ops.length := by
  induction ops generalizing s outs with
  | nil => exact ⟨[], (List.append_nil _).symm, rfl⟩
  | cons op ops ih =>
    obtain ⟨t, ht, hl⟩ := ih (step s outs op).1 (outs ++ [(step s outs op).2])
    exact ⟨(step s outs op).2 :: t, by rw [runWith, ht, List.append_assoc]; rfl, by simp [hl]⟩

theorem runWith_length (s : σ) (ops : List Op) :
    (runWith step s [] ops).2.length = ops.length := by
  obtain ⟨t, ht, hl⟩ := runWith_outs step s [] ops
  rw [ht, List.nil_append, hl]

theorem runWith_take (s : σ) (ops : List Op) (i : Nat) :
    (runWith step s [] (ops.take i)).2 = (runWith step s [] ops).2.take i := by
  rcases Nat.le_total i ops.length with hi | hi
  · obtain ⟨t, ht, _⟩ := runWith_outs step (runWith step s [] (ops.take i)).1
      (runWith step s [] (ops.take i)).2 (ops.drop i)
    rw [← runWith_append, List.take_append_drop] at ht
    rw [ht, List.take_left' (by rw [runWith_length, List.length_take]; omega)]
  · rw [List.take_of_length_le hi, List.take_of_length_le (by rw [runWith_length]; exact hi)]

theorem runWith_prefix_some (s : σ) (ops : List Op) {i j : Nat} {b : β} :
    (runWith step s [] (ops.take i)).2[j]? = some b ↔
      j < i ∧ (runWith step s [] ops).2[j]? = some b := by
  rw [runWith_take, List.getElem?_take]
  split <;> simp [*]

theorem runWith_out (s : σ) {ops : List Op} {i : Nat} {op : Op} (hop : ops[i]? = some op) :
    (runWith step s [] ops).2[i]? =
      some (step (runWith step s [] (ops.take i)).1 (runWith step s [] (ops.take i)).2 op).2 := by
  have hi := (List.getElem?_eq_some_iff.1 hop).1
  have hlen : (runWith step s [] (ops.take i)).2.length = i := by
    rw [runWith_length, List.length_take]; omega
  rw [← List.getElem?_take_of_succ, ← runWith_take, List.take_add_one, hop, runWith_append]
  simp [runWith, hlen]

end machine

theorem run_eq_runWith (e : Engine) (ops : List Op) : e.run ops = runWith Engine.step e [] ops := by
  unfold Engine.run
  generalize ([] : List Out) = outs
  induction ops generalizing e outs with
  | nil => rfl
  | cons op ops ih => exact ih _ _

theorem run_length (e : Engine) (ops : List Op) : (e.run ops).2.length = ops.length := by
  rw [run_eq_runWith]; exact runWith_length _ _ _

theorem run_out {e : Engine} {ops : List Op} {i : Nat} {op : Op} (hop : ops[i]? = some op) :
    (e.run ops).2[i]? = some ((e.run (ops.take i)).1.step (e.run (ops.take i)).2 op).2 := by
  rw [run_eq_runWith, run_eq_runWith]; exact runWith_out _ _ hop

theorem run_prefix_some {e : Engine} {ops : List Op} {i j : Nat} {o : Out} :
    (e.run (ops.take i)).2[j]? = some o ↔ j < i ∧ (e.run ops).2[j]? = some o := by
  rw [run_eq_runWith, run_eq_runWith]; exact runWith_prefix_some _ _ _

theorem run_invoke {e : Engine} {ops : List Op} {i k : Nat} {venv : List (String × Val)}
    {ext : Externs} (hop : ops[i]? = some (.invoke k venv ext)) :
    ((e.run ops).2[i]? = some .noCallable ∧
      ∀ c, k < i → (e.run ops).2[k]? ≠ some (.compiled (.ok c))) ∨
    ∃ c, k < i ∧ (e.run ops).2[k]? = some (.compiled (.ok c)) ∧
      (e.run ops).2[i]? = some (.result ((e.run (ops.take i)).1.invoke c venv ext)) := by
  rw [run_out hop]
  simp only [Engine.step]
  cases hc : Out.callable? (e.run (ops.take i)).2[k]? with
  | none =>
    refine .inl ⟨rfl, fun c hki hk => ?_⟩
    rw [run_prefix_some.2 ⟨hki, hk⟩] at hc
    cases hc
  | some c =>
    obtain ⟨hki, hk⟩ := run_prefix_some.1 (callable_eq hc)
    exact .inr ⟨c, hki, hk, rfl⟩

theorem run_fst (e : Engine) (ops : List Op) : (e.run ops).1 = ops.foldl effect e := by
  unfold Engine.run
  generalize ([] : List Out) = outs
  induction ops generalizing e outs with
  | nil => rfl
  | cons op ops ih => rw [Engine.runFrom, ih, step_fst, List.foldl_cons]

theorem foldl_keeps {I : Engine → Prop} {Q : Op → Prop} (h : ∀ e op, I e → Q op → I (effect e op)) :
    ∀ (ops : List Op) {e : Engine}, I e → (∀ op ∈ ops, Q op) → I (ops.foldl effect e)
  | [], _, he, _ => he
  | op :: ops, _, he, hq =>
    foldl_keeps h ops (h _ op he (hq op List.mem_cons_self)) fun o ho => hq o (List.mem_cons_of_mem _ ho)

theorem foldl_use {e : Engine} (he : e.inited = true) (ops : List Op)
    (h : ∀ op ∈ ops, op.isUse = true) : ops.foldl effect e = e :=
  foldl_keeps (I := (· = e)) (fun _ _ hs hq => hs ▸ effect_use he hq) ops rfl h

theorem run_use_fst {e : Engine} (he : e.inited = true) (ops : List Op)
    (h : ∀ op ∈ ops, op.isUse = true) : (e.run ops).1 = e :=
  (run_fst e ops).trans (foldl_use he ops h)

theorem run_use_out {e : Engine} (he : e.inited = true) {ops : List Op}
    (h : ∀ op ∈ ops, op.isUse = true) {i : Nat} {op : Op} (hop : ops[i]? = some op) :
    (e.run ops).2[i]? = some (e.step (e.run (ops.take i)).2 op).2 := by
  rw [run_out hop, run_use_fst he _ fun o ho => h o (List.mem_of_mem_take ho)]

/-- which outputs hold a Callable, read off the calls: output `k` holds one exactly when call `k` is a compilation
that succeeds on the engine the calls before it left -/
theorem callable_run (e : Engine) (ops : List Op) (k : Nat) :
    Out.callable? (e.run ops).2[k]? =
      match ops[k]? with
      | some (.compile times tenv src) =>
        (match (((ops.take k).foldl effect e).compile times tenv src).2 with
         | .ok c => some c
         | .error _ => none)
      | _ => none := by
  cases hk : ops[k]? with
  | none =>
    rw [List.getElem?_eq_none (by rw [run_length]; exact List.getElem?_eq_none_iff.1 hk)]
    rfl
  | some op =>
    rw [run_out hk, run_fst]
    cases op with
    | compile times tenv src =>
      simp only [Engine.step]
      cases (((ops.take k).foldl effect e).compile times tenv src).2 <;> rfl
    | invoke k' venv ext =>
      simp only [Engine.step]
      split <;> rfl
    | _ => rfl

/-- `callable_run` read at an output that holds a Callable -/
theorem run_callable {e : Engine} {ops : List Op} {k : Nat} {c : Callable}
    (h : (e.run ops).2[k]? = some (.compiled (.ok c))) :
    ∃ times tenv src, ops[k]? = some (.compile times tenv src) ∧
      (((ops.take k).foldl effect e).compile times tenv src).2 = .ok c := by
  have hc := callable_run e ops k
  rw [h] at hc
  split at hc
  · next times tenv src hop =>
    refine ⟨times, tenv, src, hop, ?_⟩
    split at hc
    · next c' hc' => cases hc; exact hc'
    · cases hc
  · cases hc

/-- compilations and invocations of Callables of the history itself -/
def isOwnUse : Op → Bool
  | .compile .. | .invoke .. => true
  | _ => false

theorem isOwnUse_isUse {op : Op} (h : isOwnUse op = true) : op.isUse = true := by
  cases op <;> first | rfl | cases h

theorem callable_append_noCallable {outs : List Out}
    (h : ∀ k : Nat, Out.callable? outs[k]? = none) (k : Nat) :
    Out.callable? (outs ++ [Out.noCallable])[k]? = none := by
  by_cases hk : k < outs.length
  · rw [List.getElem?_append_left hk]; exact h k
  · rw [List.getElem?_append_right (by omega)]
    cases hj : k - outs.length with
    | zero => rfl
    | succ j => rfl

/-- before the first compilation no Callable of the history exists, and the first compilation
initialises: the outputs are those of the history on the initialised engine -/
theorem runFrom_fresh (e : Engine) :
    ∀ (ops : List Op) (outs : List Out), (∀ k : Nat, Out.callable? outs[k]? = none) →
      (∀ op ∈ ops, isOwnUse op = true) →
      (e.runFrom outs ops).2 = (e.init.runFrom outs ops).2
  | [], outs, _, _ => rfl
  | op :: rest, outs, hno, h => by
    obtain ⟨hu, hrest⟩ := List.forall_mem_cons.1 h
    cases op with
    | compile times tenv src =>
      rw [Engine.runFrom, Engine.runFrom]
      simp only [Engine.step, compile_fst, compile_init]
    | invoke k venv ext =>
      rw [Engine.runFrom, Engine.runFrom]
      simp only [Engine.step, hno k]
      exact runFrom_fresh e rest _ (callable_append_noCallable hno) hrest
    | _ => cases hu

end Yae.EngineHistory
