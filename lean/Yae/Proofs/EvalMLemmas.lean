/-
  The evaluation monad applied to a log.  `seq r k` is "if the first run `r` succeeded continue with `k` from its
  log, otherwise stop with its failure and its log", and `(x >>= f) log = seq (x log) f` by definition.
  `EvalM.Sat`: a small weakest-precondition calculus over it, relative to a set of permitted failures.
-/
import Yae.Model.Eval
namespace Yae
open EvalM

def seq {α β : Type} (r : Except Fail α × List Event)
    (k : α → List Event → Except Fail β × List Event) : Except Fail β × List Event :=
  match r with
  | (.ok a, l) => k a l
  | (.error e, l) => (.error e, l)

@[simp] theorem seq_ok {α β : Type} (a : α) (l : List Event)
    (k : α → List Event → Except Fail β × List Event) : seq (.ok a, l) k = k a l := rfl
@[simp] theorem seq_error {α β : Type} (e : Fail) (l : List Event)
    (k : α → List Event → Except Fail β × List Event) :
    seq ((.error e : Except Fail α), l) k = (.error e, l) := rfl

theorem EvalM.bind_apply {α β : Type} (x : EvalM α) (f : α → EvalM β) (log : List Event) :
    (x >>= f) log = seq (x log) f := rfl

theorem EvalM.pure_apply {α : Type} (a : α) (log : List Event) :
    (pure a : EvalM α) log = (.ok a, log) := rfl

theorem EvalM.pure_bind {α β : Type} (a : α) (f : α → EvalM β) : (pure a >>= f) = f a := rfl

theorem EvalM.bind_assoc {α β γ : Type} (x : EvalM α) (g : α → EvalM β) (k : β → EvalM γ) :
    x >>= g >>= k = x >>= fun a => g a >>= k := by
  funext l
  simp only [EvalM.bind_apply]
  rcases x l with ⟨e | a, l1⟩ <;> rfl

theorem EvalM.bind_ok {α β : Type} {x : EvalM α} {f : α → EvalM β} {log l : List Event} {a : α}
    (h : x log = (.ok a, l)) : (x >>= f) log = f a l := by
  rw [EvalM.bind_apply, h, seq_ok]

theorem EvalM.bind_err {α β : Type} {x : EvalM α} {f : α → EvalM β} {log l : List Event}
    {e : Fail} (h : x log = (.error e, l)) : (x >>= f) log = (.error e, l) := by
  rw [EvalM.bind_apply, h, seq_error]

theorem recDbg_apply (dbg : Bool) (v : Val) (col : Int) (log : List Event) :
    recDbg dbg v col log = (.ok v, if dbg then Event.dbg v (col + 1) :: log else log) := by
  unfold recDbg
  cases dbg <;> rfl

theorem recDbg_fst (dbg : Bool) (v : Val) (col : Int) (log : List Event) :
    (recDbg dbg v col log).1 = .ok v := by rw [recDbg_apply]

/-- This and the two `nil` equations after it stand here, below every module that unfolds `eval`, `evalFields` or
`evalPairs`: Lean generates the equations of a function where they are first asked for, and every importer finds
them made. -/
theorem eval_zero (dbg : Bool) (ρ : REnv) (e : Expr) : eval 0 dbg ρ e = EvalM.fail .fuel := by rw [eval]

theorem evalFields_nil' (f : Nat) (dbg : Bool) (ρ : REnv) (log : List Event) :
    evalFields f dbg ρ .nil log = (.ok .nil, log) := by
  rw [evalFields]; rfl

theorem evalPairs_nil' (f : Nat) (dbg : Bool) (ρ : REnv) (acc : EntryList) (log : List Event) :
    evalPairs f dbg ρ .nil acc log = (.ok acc, log) := by
  rw [evalPairs]; rfl

namespace EvalM

/-- `en`: "enough fuel".  `Except.Post fuel z r Q` of `ExceptLemmas` has the other polarity: fuel error only
under `z`. -/
def Res (A : Fail → Prop) {α : Type} (P : α → Prop) (en : Prop) : Except Fail α → Prop
  | .ok a => P a
  | .error f => A f ∨ (f = .fuel ∧ ¬ en)

def Sat (A : Fail → Prop) {α : Type} (x : EvalM α) (P : α → Prop) (en : Prop) : Prop :=
  ∀ log, Res A P en (x log).1

section
variable {A : Fail → Prop} {α β : Type} {P Q : α → Prop} {R : β → Prop} {en en' : Prop}

theorem Res.mono {r : Except Fail α} (h : Res A P en r) (hPQ : ∀ a, P a → Q a) (hen : en' → en) :
    Res A Q en' r := by
  cases r with
  | ok a => exact hPQ a h
  | error f => exact h.imp_right fun ⟨h1, h2⟩ => ⟨h1, fun h => h2 (hen h)⟩

theorem Res.seq {r : Except Fail α × List Event} {k : α → List Event → Except Fail β × List Event}
    (hr : Res A Q en' r.1) (hen : en → en') (hk : ∀ a l, Q a → Res A R en (k a l).1) :
    Res A R en (Yae.seq r k).1 := by
  rcases r with ⟨f | a, l⟩
  · exact hr.imp_right fun ⟨h1, h2⟩ => ⟨h1, fun h => h2 (hen h)⟩
  · exact hk a l hr

theorem Sat.pure {a : α} (h : P a) : Sat A (pure a : EvalM α) P en := fun _ => h

theorem Sat.fail {f : Fail} (h : A f) : Sat A (EvalM.fail f : EvalM α) P en := fun _ => .inl h

theorem Sat.fuel (h : ¬ en) : Sat A (EvalM.fail .fuel : EvalM α) P en := fun _ => .inr ⟨rfl, h⟩

theorem Sat.lift {x : Except Fail α} (h : Res A P en x) : Sat A (EvalM.lift x) P en := fun _ => h

theorem Sat.emit {e : Event} : Sat A (EvalM.emit e) (fun _ => True) en := fun _ => trivial

theorem Sat.emitAll {es : List Event} : Sat A (EvalM.emitAll es) (fun _ => True) en := fun _ => trivial

theorem Sat.recDbg {dbg : Bool} {v : Val} {col : Int} {P : Val → Prop} (h : P v) :
    Sat A (recDbg dbg v col) P en := fun log => by rw [recDbg_fst]; exact h

theorem Sat.bind {x : EvalM α} {f : α → EvalM β} (hx : Sat A x Q en') (hen : en → en')
    (hf : ∀ a, Q a → Sat A (f a) R en) : Sat A (x >>= f) R en :=
  fun log => Res.seq (hx log) hen fun a l h => hf a h l

/-- recording the value for the debugger changes neither the value nor the failure -/
theorem Sat.thenDbg {x : EvalM Val} {P : Val → Prop} {dbg : Bool} {col : Int} (hx : Sat A x P en) :
    Sat A (x >>= fun v => Yae.recDbg dbg v col) P en :=
  Sat.bind hx id fun _ h => Sat.recDbg h

theorem Sat.mono {x : EvalM α} (hx : Sat A x P en) (hPQ : ∀ a, P a → Q a) (hen : en' → en) :
    Sat A x Q en' :=
  fun log => (hx log).mono hPQ hen

end

end EvalM

end Yae
