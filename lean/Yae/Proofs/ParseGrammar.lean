/-
  The grammar of an operator table.  `newGrammar ops` registers nine built-in `nud`s, then what
  the operators declare, then four built-in `led`s, and nothing else ever enters its two tables.
  `g.Entries P Q` says that every prefix entry of `g` satisfies `P` and every infix entry `Q`;
  `newGrammar_entries` reduces it for `newGrammar ops` to the thirteen built-in entries and to what
  one operator may register.  What the parser's theorems ask of the grammar are instances.
-/
import Yae.Model.Parser
import Yae.Proofs.LexRules
namespace Yae

theorem tableLookup_some {α : Type} {k : String} {bp : BP} {f : α} :
    ∀ {l : List (String × BP × α)}, tableLookup k l = some (bp, f) → (k, bp, f) ∈ l
  | (k', bp', f') :: rest, h => by
    simp only [tableLookup] at h
    split at h
    · rename_i hk
      cases h
      cases beq_iff_eq.mp hk
      exact List.mem_cons_self
    · exact List.mem_cons_of_mem _ (tableLookup_some h)

def Grammar.Entries (g : Grammar) (P : String → BP → Nud → Prop) (Q : String → BP → Led → Prop) :
    Prop :=
  (∀ e ∈ g.prefixs, P e.1 e.2.1 e.2.2) ∧ ∀ e ∈ g.infixs, Q e.1 e.2.1 e.2.2

/-- what `Grammar.addOp` may register for `o` -/
def Operator.Entries (o : Operator) (P : String → BP → Nud → Prop)
    (Q : String → BP → Led → Prop) : Prop :=
  (o.fixity = fixPrefix → P o.kind o.bp .unaryPrefix) ∧
  ∀ led, led = .binaryN ∨ led = .binaryL ∨ led = .binaryR ∨ led = .unaryPostfix → Q o.kind o.bp led

variable {P : String → BP → Nud → Prop} {Q : String → BP → Led → Prop} {g : Grammar}

theorem Grammar.Entries.nud (h : g.Entries P Q) {k : String} {bp : BP} {n : Nud}
    (hl : tableLookup k g.prefixs = some (bp, n)) : P k bp n :=
  h.1 _ (tableLookup_some hl)

theorem Grammar.Entries.led (h : g.Entries P Q) {k : String} {bp : BP} {l : Led}
    (hl : tableLookup k g.infixs = some (bp, l)) : Q k bp l :=
  h.2 _ (tableLookup_some hl)

theorem Grammar.Entries.prefix (h : g.Entries P Q) {k : String} {bp : BP} {n : Nud}
    (h0 : P k bp n) : (g.prefix k bp n).Entries P Q :=
  ⟨List.forall_mem_cons.mpr ⟨h0, h.1⟩, h.2⟩

theorem Grammar.Entries.infix (h : g.Entries P Q) {k : String} {bp : BP} {l : Led}
    (h0 : Q k bp l) : (g.infix k bp l).Entries P Q :=
  ⟨h.1, List.forall_mem_cons.mpr ⟨h0, h.2⟩⟩

theorem Grammar.Entries.addOp (h : g.Entries P Q) {o : Operator} (ho : o.Entries P Q) :
    (g.addOp o).Entries P Q := by
  unfold Grammar.addOp
  by_cases h1 : (o.fixity == fixPrefix) = true
  · rw [if_pos h1]; exact h.prefix (ho.1 (beq_iff_eq.mp h1))
  rw [if_neg h1]
  by_cases h2 : (o.fixity == fixInfixN) = true
  · rw [if_pos h2]; exact h.infix (ho.2 _ (.inl rfl))
  rw [if_neg h2]
  by_cases h3 : (o.fixity == fixInfixL) = true
  · rw [if_pos h3]; exact h.infix (ho.2 _ (.inr (.inl rfl)))
  rw [if_neg h3]
  by_cases h4 : (o.fixity == fixInfixR) = true
  · rw [if_pos h4]; exact h.infix (ho.2 _ (.inr (.inr (.inl rfl))))
  rw [if_neg h4]
  by_cases h5 : (o.fixity == fixPostfix) = true
  · rw [if_pos h5]; exact h.infix (ho.2 _ (.inr (.inr (.inr rfl))))
  · rw [if_neg h5]; exact h

theorem Grammar.Entries.foldl (l : List Operator) (hl : ∀ o ∈ l, o.Entries P Q) :
    ∀ {g : Grammar}, g.Entries P Q → (l.foldl Grammar.addOp g).Entries P Q := by
  induction l with
  | nil => exact id
  | cons o l ih =>
    obtain ⟨ho, hl'⟩ := List.forall_mem_cons.1 hl
    exact fun h => ih hl' (h.addOp ho)

/-- the nine built-in `nud` entries, newest first -/
def builtinNuds : List (String × BP × Nud) :=
  [("(", bpNone, .group), ("{", bpNone, .obj), ("[", bpNone, .listMap), ("<time>", bpNone, .time),
    ("<str>", bpNone, .str), ("<num>", bpNone, .num), ("false", bpNone, .false_),
    ("true", bpNone, .true_), ("<sym>", bpNone, .ident)]

/-- the four built-in `led` entries, newest first -/
def builtinLeds : List (String × BP × Led) :=
  [("[", bpMember, .subscript), ("(", bpCall, .call), (".", bpMember, .dot),
    ("?", bpCond, .question)]

/-- the grammar before the four built-in `led`s are registered -/
def preGrammar (ops : List Operator) : Grammar :=
  (sortOps ops).foldl Grammar.addOp ⟨builtinNuds, []⟩

theorem newGrammar_eq (ops : List Operator) :
    newGrammar ops = ((((preGrammar ops).infix "?" bpCond .question).infix "." bpMember .dot).infix
      "(" bpCall .call).infix "[" bpMember .subscript := rfl

theorem newGrammar_entries (ops : List Operator) (hn : ∀ e ∈ builtinNuds, P e.1 e.2.1 e.2.2)
    (hl : ∀ e ∈ builtinLeds, Q e.1 e.2.1 e.2.2) (hops : ∀ o ∈ ops, o.Entries P Q) :
    (newGrammar ops).Entries P Q := by
  have hpre : (preGrammar ops).Entries P Q :=
    Grammar.Entries.foldl _ (fun o ho => hops o (mem_sortOps.mp ho)) ⟨hn, nofun⟩
  refine ⟨hpre.1, ?_⟩
  -- the four `infix` calls that end `newGrammar` put `builtinLeds` in front
  show ∀ e ∈ builtinLeds ++ (preGrammar ops).infixs, _
  exact List.forall_mem_append.2 ⟨hl, hpre.2⟩

theorem newGrammar_none {ops : List Operator} {k : String} (hk : ∀ o ∈ ops, o.kind ≠ k)
    (hn : ∀ e ∈ builtinNuds, e.1 ≠ k) (hl : ∀ e ∈ builtinLeds, e.1 ≠ k) :
    tableLookup k (newGrammar ops).prefixs = none ∧ tableLookup k (newGrammar ops).infixs = none :=
  have h := newGrammar_entries (P := fun k' _ _ => k' ≠ k) (Q := fun k' _ _ => k' ≠ k) ops hn hl
    fun o ho => ⟨fun _ => hk o ho, fun _ _ => hk o ho⟩
  ⟨Option.eq_none_iff_forall_ne_some.mpr fun e he => h.nud (bp := e.1) (n := e.2) he rfl,
    Option.eq_none_iff_forall_ne_some.mpr fun e he => h.led (bp := e.1) (l := e.2) he rfl⟩

theorem newGrammar_noEOF {ops : List Operator} (hops : ∀ o ∈ ops, o.kind ≠ tkEOF) :
    tableLookup tkEOF (newGrammar ops).prefixs = none ∧
    tableLookup tkEOF (newGrammar ops).infixs = none :=
  newGrammar_none hops (by decide) (by decide)

end Yae
