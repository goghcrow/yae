/-
  One motive for `Ann` and its four list forms, as `TypedInd` has it for `Typed`: one premise per rule
  of `WF.lean`, in the order of that file, named after the rule (`enil econs`, `pnil pcons`,
  `fnil fcons`, `anil acons` for the list forms).  `induct` is a `def` because a `theorem` must state
  its type, and the type written out is the 23 rules over again; `linter.defProp` would flag a `def`
  that is a proof, hence the option.
-/
import Yae.Spec.WF
namespace Yae.Sound

inductive AnnKind where
  | expr (e : Expr) (T : Ty)
  | elems (es : ExprList) (el : Ty)
  | pairs (ps : PairList) (kT vT : Ty)
  | fields (fs : FieldEList) (tys : FieldList)
  | args (es : ExprList) (tys : TyList)

namespace AnnKind

def Holds (Γ : TEnv) : AnnKind → Prop
  | .expr e T => Ann Γ e T
  | .elems es el => AnnElems Γ es el
  | .pairs ps kT vT => AnnPairs Γ ps kT vT
  | .fields fs tys => AnnFields Γ fs tys
  | .args es tys => AnnArgs Γ es tys

namespace Holds
set_option linter.defProp false

def induct {Γ : TEnv} {motive : (K : AnnKind) → K.Holds Γ → Prop} :=
  fun str num time bool listNil listCons mapNil mapCons obj ident callStatic callDyn subList subMap
      member enil econs pnil pcons fnil fcons anil acons {K} (h : K.Holds Γ) =>
    show motive K h from
    match K, h with
    | .expr _ _, h => @Ann.rec Γ (fun e T h => motive (.expr e T) h)
      (fun es el h => motive (.elems es el) h) (fun ps kT vT h => motive (.pairs ps kT vT) h)
      (fun fs tys h => motive (.fields fs tys) h) (fun es tys h => motive (.args es tys) h)
      str num time bool listNil listCons mapNil mapCons obj ident callStatic callDyn subList subMap
      member enil econs pnil pcons fnil fcons anil acons _ _ h
    | .elems _ _, h => @AnnElems.rec Γ (fun e T h => motive (.expr e T) h)
      (fun es el h => motive (.elems es el) h) (fun ps kT vT h => motive (.pairs ps kT vT) h)
      (fun fs tys h => motive (.fields fs tys) h) (fun es tys h => motive (.args es tys) h)
      str num time bool listNil listCons mapNil mapCons obj ident callStatic callDyn subList subMap
      member enil econs pnil pcons fnil fcons anil acons _ _ h
    | .pairs _ _ _, h => @AnnPairs.rec Γ (fun e T h => motive (.expr e T) h)
      (fun es el h => motive (.elems es el) h) (fun ps kT vT h => motive (.pairs ps kT vT) h)
      (fun fs tys h => motive (.fields fs tys) h) (fun es tys h => motive (.args es tys) h)
      str num time bool listNil listCons mapNil mapCons obj ident callStatic callDyn subList subMap
      member enil econs pnil pcons fnil fcons anil acons _ _ _ h
    | .fields _ _, h => @AnnFields.rec Γ (fun e T h => motive (.expr e T) h)
      (fun es el h => motive (.elems es el) h) (fun ps kT vT h => motive (.pairs ps kT vT) h)
      (fun fs tys h => motive (.fields fs tys) h) (fun es tys h => motive (.args es tys) h)
      str num time bool listNil listCons mapNil mapCons obj ident callStatic callDyn subList subMap
      member enil econs pnil pcons fnil fcons anil acons _ _ h
    | .args _ _, h => @AnnArgs.rec Γ (fun e T h => motive (.expr e T) h)
      (fun es el h => motive (.elems es el) h) (fun ps kT vT h => motive (.pairs ps kT vT) h)
      (fun fs tys h => motive (.fields fs tys) h) (fun es tys h => motive (.args es tys) h)
      str num time bool listNil listCons mapNil mapCons obj ident callStatic callDyn subList subMap
      member enil econs pnil pcons fnil fcons anil acons _ _ h

end Holds
end AnnKind

end Yae.Sound
