/-
  C20, intermediate layer: the *shape* of the text `sql.Compile` produces.

  A `Doc` is the produced text with its structure still visible: literals, back-quoted names,
  `from_unixtime(n)`, rows, parenthesised expressions, the conditions, and the connectives.
    * `dchars d`  — the characters of the text,
    * `dtoks d`   — the tokens the reference reader's tokenizer makes of it,
    * `ptree d`   — the tree the reference reader's precedence-climbing parser makes of the tokens
                    (`AND`/`OR` chains come out left-nested, exactly as `parseAndRest`/`parseOrRest`
                    build them; `pk` carries the accumulator of those loops),
    * `WF l d`    — `d` is a phrase of grammar level `l`: the connective/parenthesis discipline that makes
                    the reading unique.
-/
import Yae.Model.SqlRead
namespace Yae.SqlDoc
open Yae Yae.Sql

mutual
inductive Doc where
  | str (s : String)                 -- a quoted string literal (content `s`)
  | num (lex : String)               -- a numeric literal, as written
  | col (name : String)              -- a back-quoted column name
  | time (lex : String)              -- `from_unixtime(lex)`
  | list (ds : DocList)              -- `(d1, d2, …)`
  | paren (d : Doc)                  -- `(d)`
  | bin (op : String) (a b : Doc)    -- `a op b`, op a comparison or LIKE
  | inn (a : Doc) (ds : DocList)     -- `a IN (d1, …)`
  | between (a lo hi : Doc)          -- `a BETWEEN lo AND hi`
  | isnull (a : Doc)                 -- `a IS NULL`
  | not (d : Doc)                    -- `NOT d`
  | and (a b : Doc)                  -- `a AND b`
  | or (a b : Doc)                   -- `a OR b`
inductive DocList where
  | nil
  | cons (d : Doc) (ds : DocList)
end

instance : Inhabited Doc := ⟨.num "0"⟩

def DocList.length : DocList → Nat
  | .nil => 0
  | .cons _ ds => ds.length + 1

/-- the fixed pieces of text, as explicit character lists: `dchars d` then unfolds to the form `a ++ ' ' :: b`
that the tokenizer lemmas take (`Lexes.sp` in `SqlLex`), with no rewriting under `String.toList`; the `_eq` lemmas
tie them to the string literals the model writes -/
def cFromUnixtime : List Char := ['f', 'r', 'o', 'm', '_', 'u', 'n', 'i', 'x', 't', 'i', 'm', 'e', '(']
def cIn : List Char := [' ', 'I', 'N', ' ', '(']
def cBetween : List Char := [' ', 'B', 'E', 'T', 'W', 'E', 'E', 'N', ' ']
def cAnd : List Char := [' ', 'A', 'N', 'D', ' ']
def cOr : List Char := [' ', 'O', 'R', ' ']
def cNot : List Char := ['N', 'O', 'T', ' ']
def cIsNull : List Char := [' ', 'I', 'S', ' ', 'N', 'U', 'L', 'L']

theorem cFromUnixtime_eq : "from_unixtime(".toList = cFromUnixtime := by decide
theorem cIn_eq : " IN (".toList = cIn := by decide
theorem cBetween_eq : " BETWEEN ".toList = cBetween := by decide
theorem cAnd_eq : " AND ".toList = cAnd := by decide
theorem cOr_eq : " OR ".toList = cOr := by decide
theorem cNot_eq : "NOT ".toList = cNot := by decide
theorem cIsNull_eq : " IS NULL".toList = cIsNull := by decide

mutual
def dchars : Doc → List Char
  | .str s => (Num.quote s).toList
  | .num lex => lex.toList
  | .col name => '`' :: (name.toList ++ ['`'])
  | .time lex => cFromUnixtime ++ (lex.toList ++ [')'])
  | .list ds => '(' :: (itemsChars ds ++ [')'])
  | .paren d => '(' :: (dchars d ++ [')'])
  | .bin op a b => dchars a ++ (' ' :: (op.toList ++ (' ' :: dchars b)))
  | .inn a ds => dchars a ++ (cIn ++ (itemsChars ds ++ [')']))
  | .between a lo hi => dchars a ++ (cBetween ++ (dchars lo ++ (cAnd ++ dchars hi)))
  | .isnull a => dchars a ++ cIsNull
  | .not d => cNot ++ dchars d
  | .and a b => dchars a ++ (cAnd ++ dchars b)
  | .or a b => dchars a ++ (cOr ++ dchars b)
def itemsChars : DocList → List Char
  | .nil => []
  | .cons d ds =>
    match ds with
    | .nil => dchars d
    | .cons _ _ => dchars d ++ (',' :: ' ' :: itemsChars ds)
end

/-- binary operators of the dialect other than IN -/
def binOps : List String := ["=", "<>", ">", ">=", "<", "<=", "LIKE"]

def opTok (op : String) : Tok := if cmpOps.contains op then .sym op else .word op

mutual
def dtoks : Doc → List Tok
  | .str s => [.str s]
  | .num lex => [.num lex]
  | .col name => [.bq name]
  | .time lex => [.word "from_unixtime", .sym "(", .num lex, .sym ")"]
  | .list ds => .sym "(" :: (itemsToks ds ++ [.sym ")"])
  | .paren d => .sym "(" :: (dtoks d ++ [.sym ")"])
  | .bin op a b => dtoks a ++ (opTok op :: dtoks b)
  | .inn a ds => dtoks a ++ (.word "IN" :: .sym "(" :: (itemsToks ds ++ [.sym ")"]))
  | .between a lo hi => dtoks a ++ (.word "BETWEEN" :: (dtoks lo ++ (.word "AND" :: dtoks hi)))
  | .isnull a => dtoks a ++ [.word "IS", .word "NULL"]
  | .not d => .word "NOT" :: dtoks d
  | .and a b => dtoks a ++ (.word "AND" :: dtoks b)
  | .or a b => dtoks a ++ (.word "OR" :: dtoks b)
def itemsToks : DocList → List Tok
  | .nil => []
  | .cons d ds =>
    match ds with
    | .nil => dtoks d
    | .cons _ _ => dtoks d ++ (.sym "," :: itemsToks ds)
end

/-- the state of the reader's `AND`/`OR` loops: nothing read yet, or the tree accumulated so far -/
inductive Mode where
  | plain
  | andAcc (x : SqlTree)
  | orAcc (x : SqlTree)

def wrap : Mode → SqlTree → SqlTree
  | .plain, t => t
  | .andAcc x, t => .and (.cons x (.cons t .nil))
  | .orAcc x, t => .or (.cons x (.cons t .nil))

mutual
/-- `pk .plain d` is the tree read from `d`; `pk (.andAcc x) d` is what `parseAndRest` has
accumulated after reading `AND d` starting from `x` (and likewise for `OR`) -/
def pk : Mode → Doc → SqlTree
  | m, .str s => wrap m (.str s)
  | m, .num lex => wrap m (.num lex)
  | m, .col name => wrap m (.col name)
  | m, .time lex => wrap m (.time lex)
  | m, .list ds => wrap m (.list (pks ds))
  | m, .paren d => wrap m (pk .plain d)
  | m, .bin op a b => wrap m (.cond op (.cons (pk .plain a) (.cons (pk .plain b) .nil)))
  | m, .inn a ds => wrap m (.cond "IN" (.cons (pk .plain a) (.cons (.list (pks ds)) .nil)))
  | m, .between a lo hi =>
    wrap m (.cond "BETWEEN" (.cons (pk .plain a) (.cons (pk .plain lo) (.cons (pk .plain hi) .nil))))
  | m, .isnull a => wrap m (.cond "IS NULL" (.cons (pk .plain a) .nil))
  | m, .not d => wrap m (.not (pk .plain d))
  | m, .and u v =>
    match m with
    | .andAcc x => pk (.andAcc (pk (.andAcc x) u)) v
    | m => wrap m (pk (.andAcc (pk .plain u)) v)
  | m, .or u v =>
    match m with
    | .orAcc x => pk (.orAcc (pk (.orAcc x) u)) v
    | m => wrap m (pk (.orAcc (pk .plain u)) v)
def pks : DocList → SqlTreeList
  | .nil => .nil
  | .cons d ds => .cons (pk .plain d) (pks ds)
end

def ptree (d : Doc) : SqlTree := pk .plain d

mutual
/-- `d` is a phrase of level `l`: 0 = or-expression, 1 = and-expression, 2 = NOT-expression,
3 = predicate (a primary followed by a left-nested chain of comparisons / IN / BETWEEN / IS NULL),
4 = primary.  A phrase of a higher level is one of every lower level (`WF_mono`). -/
def WF : Nat → Doc → Prop
  | _, .str _ => True
  | _, .num _ => True
  | _, .col _ => True
  | _, .time _ => True
  | _, .list ds => 2 ≤ ds.length ∧ WFs ds
  | _, .paren d => WF 0 d
  | l, .bin op a b => l ≤ 3 ∧ op ∈ binOps ∧ WF 3 a ∧ WF 4 b
  | l, .inn a ds => l ≤ 3 ∧ WF 3 a ∧ 1 ≤ ds.length ∧ WFs ds
  | l, .between a lo hi => l ≤ 3 ∧ WF 3 a ∧ WF 4 lo ∧ WF 4 hi
  | l, .isnull a => l ≤ 3 ∧ WF 3 a
  | l, .not d => l ≤ 2 ∧ WF 2 d
  | l, .and a b => l ≤ 1 ∧ WF 1 a ∧ WF 1 b
  | l, .or a b => l = 0 ∧ WF 0 a ∧ WF 0 b
def WFs : DocList → Prop
  | .nil => True
  | .cons d ds => WF 0 d ∧ WFs ds
end

theorem WF_mono {l l' : Nat} (h : l' ≤ l) : ∀ {d : Doc}, WF l d → WF l' d
  | .str _, _ | .num _, _ | .col _, _ | .time _, _ => by simp [WF]
  | .list _, w | .paren _, w => by simpa [WF] using w
  | .bin .., w | .inn .., w | .between .., w | .isnull .., w | .not .., w | .and .., w | .or .., w => by
    simp only [WF] at w ⊢; exact ⟨by omega, w.2⟩

end Yae.SqlDoc
