/-
  Concrete criteria for C20, each taken through the three stages: `check` (`*_checked`), `toSql` (`*_text`),
  `c20Check` (`*_check`) — except `cNum`, whose numbers are variables: it stops at `num_text` / `num_ok`, the reader
  does not evaluate on a text that is not closed.

  `check` is not evaluated on a criterion as a whole: it is put together from lemmas that run it forwards one
  node at a time, so that a table or an environment is consulted in a hypothesis that mentions nothing else.
  Everything after the checker (`after`) and the reference reader evaluate in the kernel; where the reader agrees
  with the meaning, that is an instance of `c20Check_true`.
-/
import Yae.Model.SqlRead
import Yae.Proofs.CheckCall
import Yae.Proofs.TypingPolyOK
import Yae.Proofs.SqlStruct
namespace Yae.C20
open Yae.Sql

/-- `Except` has no decidable equality: "the text is `s`" as a Bool -/
def textIs (r : Except SqlErr String) (s : String) : Bool :=
  match r with
  | .ok t => t == s
  | .error _ => false

theorem textIs_iff {r : Except SqlErr String} {s : String} : textIs r s = true ↔ r = .ok s := by
  cases r <;> simp [textIs]

end Yae.C20

namespace Yae.SqlStruct.Wit
open Yae Yae.Sql Yae.PolyOK

def u := Pos.unknown
def el (xs : List Expr) := ExprList.ofList xs

def env (tenv : List (String × Ty)) : TEnv := { vars := tenv, funs := sqlFuns, reserved := reservedWords }

/-- The names used below have one byte, every reserved word has more. -/
theorem ident_checked {tenv : List (String × Ty)} {x : String} {T : Ty} {c : Nat} (hx : x.utf8ByteSize = 1)
    (hv : (env tenv).lookupVar x = some T) : check (env tenv) c (.ident u x) = .ok (T, .ident u x, c) :=
  check_ident (notReserved_short hx) hv

/-- an entry of `sqlTable` as `sqlFuns` holds it -/
def decl (id name : String) (ps : TyList) : FunDecl :=
  { ty := .fn name ps .bool, ref := .host id (.retArg 0), isLazy := false }

def two (T : Ty) : TyList := .cons T (.cons T .nil)

/-- the checked `l op r`, both operands of type `T`, under its monomorphic key -/
def binTree (op : String) (T : Ty) (l r : Expr) : Expr :=
  .call u (-1) (.ident u op) (.cons l (.cons r .nil)) (some (.fn op (two T) .bool))
    (overloadKey op (two T) .bot).1 (-1)

theorem bin_checked {tenv : List (String × Ty)} {op id : String} {T : Ty} {l l' r r' : Expr} {c c1 c2 : Nat}
    (hl : check (env tenv) c l = .ok (T, l', c1)) (hr : check (env tenv) c1 r = .ok (T, r', c2))
    (hmono : lookupMono sqlFuns (overloadKey op (two T) .bot).1 = some (decl id op (two T)))
    (hT : tyEq T T = true) :
    check (env tenv) c (mkCall op (.cons l (.cons r .nil))) = .ok (.bool, binTree op T l' r', c2) :=
  check_call_mono (checkArgs_cons hl (checkArgs_cons hr checkArgs_nil)) rfl hmono rfl rfl
    (by simp only [two, assertParams, typeAssert, hT, if_true]; rfl) ..

theorem eqStr_mono : lookupMono sqlFuns (overloadKey "=" (two .str) .bot).1 = some (decl "EQ_STR_STR" "=" (two .str)) := by
  rfl
theorem eqBool_mono :
    lookupMono sqlFuns (overloadKey "=" (two .bool) .bot).1 = some (decl "EQ_BOOL_BOOL" "=" (two .bool)) := by
  rfl
theorem gtTime_mono :
    lookupMono sqlFuns (overloadKey ">" (two .time) .bot).1 = some (decl "GT_TIME_TIME" ">" (two .time)) := by
  rfl
theorem gtNum_mono : lookupMono sqlFuns (overloadKey ">" (two .num) .bot).1 = some (decl "GT_NUM_NUM" ">" (two .num)) := by
  rfl
theorem and_mono :
    lookupMono sqlFuns (overloadKey "AND" (two .bool) .bot).1 = some (decl "LOGIC_AND_BOOL_BOOL" "AND" (two .bool)) := by
  rfl
theorem or_mono :
    lookupMono sqlFuns (overloadKey "OR" (two .bool) .bot).1 = some (decl "LOGIC_OR_BOOL_BOOL" "OR" (two .bool)) := by
  rfl
theorem not_mono : lookupMono sqlFuns (overloadKey "NOT" (.cons .bool .nil) .bot).1 =
    some (decl "LOGIC_NOT_BOOL" "NOT" (.cons .bool .nil)) := by
  rfl

/-! ### `IN`

`check` resolves `IN` through `inferFun`, whose `applySubst` is defined by well-founded recursion and does not
evaluate in the kernel.  The way round: by `PolyOK.sigOK_inferFun`, `inferFun` on the signature of `IN` *is* the
structurally recursive `instantiate`. -/

/-- the parameters of `IN` in `sqlTable` -/
def inPs : TyList := .cons (.var "a") (.cons (.list (.var "a")) .nil)

theorem in_sigOK : sigOK (.fn "IN" inPs .bool) = true := by decide

theorem in_poly : lookupPoly sqlFuns "∀.λ IN 2" = [decl "IN_LIST" "IN" inPs] := by rfl

def inTys (T : Ty) : TyList := .cons T (.cons (.list T) .nil)

theorem in_infer (ctr : Nat) {T : Ty} (hT : TyOK T = true) :
    inferFun ctr "IN" inPs .bool (inTys T) = .ok (inTys T, .bool) := by
  have hwf : tyEq T T = true := tyEq_refl' (TyOK_iff.1 hT).2.1
  have hA : TyOKList (inTys T) = true := by
    simp only [TyOK, Bool.and_eq_true] at hT
    simp [inTys, TyOKList, slotFreeList, wfList, noFnList, slotFree, Ty.wf, noFn, hT]
  rw [sigOK_inferFun in_sigOK hA ctr]
  simp [specInfer, instantiate, inPs, inTys, pmatchList, pmatch, Subst.get?, Subst.set, hwf, TyList.length, substG,
    slotFree]

/-- the checked `x IN rhs` at the element type `T` -/
def inCall (x : String) (T : Ty) (rhs : Expr) : Expr :=
  .call u (-1) (.ident u "IN") (.cons (.ident u x) (.cons rhs .nil)) (some (.fn "IN" (inTys T) .bool)) "∀.λ IN 2" 0

/-- `check` of `x IN rhs` at `(T, list[T])`: no monomorphic entry under that key (the one thing that is looked
up in the table for the given `T`), so the polymorphic one is instantiated, `'a := T`. -/
theorem check_in {tenv : List (String × Ty)} {x : String} {rhs rhs' : Expr} (T : Ty)
    (hx : check (env tenv) 0 (.ident u x) = .ok (T, .ident u x, 0))
    (hrhs : check (env tenv) 0 rhs = .ok (.list T, rhs', 0)) (hT : TyOK T = true)
    (hmono : lookupMono sqlFuns (overloadKey "IN" (inTys T) .bot).1 = none) :
    check (env tenv) 0 (Criteria.cond x "IN" (.cons rhs .nil)).expr = .ok (.bool, inCall x T rhs', 4) := by
  have hwf : tyEq T T = true := tyEq_refl' (TyOK_iff.1 hT).2.1
  have hk : "∀.λ " ++ "IN" ++ " " ++ toString (inTys T).length = "∀.λ IN 2" := by
    rw [show (inTys T).length = 2 from rfl]; decide +kernel
  exact check_call_poly (checkArgs_cons hx (checkArgs_cons hrhs checkArgs_nil)) rfl hmono hk in_poly rfl
    (in_infer _ hT) rfl (by simp only [inTys, assertParams, typeAssert, tyEq, hwf, if_true]; rfl) ..

/-- no monomorphic `IN` on strings: the `hmono` that `check_in` asks for -/
theorem in_str_mono : lookupMono sqlFuns (overloadKey "IN" (inTys .str) .bot).1 = none := by decide +kernel

def after (tenv : List (String × Ty)) (venv : List (String × Val)) (e : Expr) : Except SqlErr String := do
  if !compileOk e then throw .compilePanic
  envCheck tenv venv
  emit venv 0 e

theorem toSql_of_check {c : Criteria} {tenv : List (String × Ty)} {venv : List (String × Val)}
    {T : Ty} {e : Expr} {n : Nat} (h : check (env tenv) 0 c.expr = .ok (T, e, n)) :
    toSql c tenv venv = after tenv venv e := by
  unfold toSql checked after
  unfold env at h
  rw [h]
  rfl

/-- the verdict of `c20Check` on a criterion whose text is known: the reader alone is left to evaluate -/
theorem c20Check_of_text {c : Criteria} {tenv : List (String × Ty)} {venv : List (String × Val)} {text : String}
    {b : Bool} (ht : toSql c tenv venv = .ok text)
    (hr : (match readSql text, treeOf venv c with
      | some t, some w => flatten t == flatten w
      | _, _ => false) = b) : c20Check c tenv venv = some b := by
  unfold c20Check
  rw [ht, ← hr]
  show (match readSql text, treeOf venv c with
    | some t, some w => some (flatten t == flatten w)
    | _, _ => some false) = _
  cases readSql text <;> cases treeOf venv c <;> rfl

/-! ### SQL3 -/
def cSql3 : Criteria := .cond "a" "IN" (el [.ident u "l"])
def tSql3 : List (String × Ty) := [("a", .str), ("l", .list .str)]

theorem sql3_checked : check (env tSql3) 0 cSql3.expr =
    .ok (.bool, inCall "a" .str (.ident u "l"), 4) :=
  check_in .str (ident_checked rfl rfl) (ident_checked rfl rfl) (by decide) in_str_mono

theorem sql3_text : toSql cSql3 tSql3 [] = .ok "`a` IN `l`" := by
  rw [toSql_of_check sql3_checked]
  exact C20.textIs_iff.1 (by decide +kernel)

theorem sql3_check : c20Check cSql3 tSql3 [] = some false :=
  c20Check_of_text sql3_text (by decide +kernel)

/-! ### the empty list -/
def cEmpty : Criteria := .cond "z" "IN" (el [.list u .nil none])
def tEmpty : List (String × Ty) := [("z", .bot)]

theorem empty_checked : check (env tEmpty) 0 cEmpty.expr =
    .ok (.bool, inCall "z" .bot (.list u .nil (some (.list .bot))), 4) :=
  check_in .bot (ident_checked rfl rfl) (by rfl) (by decide) (by decide +kernel)

theorem empty_text : toSql cEmpty tEmpty [] = .ok "`z` IN ()" := by
  rw [toSql_of_check empty_checked]
  exact C20.textIs_iff.1 (by decide +kernel)

theorem empty_check : c20Check cEmpty tEmpty [] = some false :=
  c20Check_of_text empty_text (by decide +kernel)

/-! ### a one-element row that is not directly under IN -/
def cOne : Criteria :=
  .cond "l" "IN" (el [.list u (el [.list u (el [.str u "x"]) none, .list u (el [.str u "y"]) none]) none])
def tOne : List (String × Ty) := [("l", .list .str)]

theorem one_checked : check (env tOne) 0 cOne.expr =
    .ok (.bool, inCall "l" (.list .str)
      (.list u (.cons (.list u (.cons (.str u "x") .nil) (some (.list .str)))
        (.cons (.list u (.cons (.str u "y") .nil) (some (.list .str))) .nil)) (some (.list (.list .str)))), 4) :=
  check_in (.list .str) (ident_checked rfl rfl) (by rfl) (by decide) (by decide +kernel)

theorem one_text : toSql cOne tOne [] = .ok "`l` IN ((\"x\"), (\"y\"))" := by
  rw [toSql_of_check one_checked]
  exact C20.textIs_iff.1 (by decide +kernel)

theorem one_check : c20Check cOne tOne [] = some false :=
  c20Check_of_text one_text (by decide +kernel)

/-! ### a criteria tree that is translated correctly -/
def cGood : Criteria :=
  .group .and (.cons (.group .or (.cons (.cond "a" "=" (el [.str u "x"])) (.cons (.cond "t" ">" (el [.time u (-3)])) .nil)))
    (.cons (.group .not (.cons (.cond "c" "IN" (el [.list u (el [.str u "p", .ident u "n"]) none])) .nil)) .nil))
def tGood : List (String × Ty) := [("a", .str), ("t", .time), ("c", .str), ("n", .str)]
def vGood : List (String × Val) := [("n", .str "q\"`")]

/-- the checked `a = "x" OR y > lit`, the comparison at type `T` -/
def orTree (y : String) (T : Ty) (lit : Expr) : Expr :=
  binTree "OR" .bool (binTree "=" .str (.ident u "a") (.str u "x")) (binTree ">" T (.ident u y) lit)

/-- the checked `eOr AND NOT eIn` -/
def andNot (eOr eIn : Expr) : Expr :=
  binTree "AND" .bool eOr (.call u (-1) (.ident u "NOT") (.cons eIn .nil)
    (some (.fn "NOT" (.cons .bool .nil) .bool)) (overloadKey "NOT" (.cons .bool .nil) .bot).1 (-1))

theorem andNot_checked {tenv : List (String × Ty)} {cOr cIn : Criteria} {eOr eIn : Expr}
    (hor : check (env tenv) 0 cOr.expr = .ok (.bool, eOr, 0))
    (hin : check (env tenv) 0 cIn.expr = .ok (.bool, eIn, 4)) :
    check (env tenv) 0 (Criteria.group .and (.cons cOr (.cons (.group .not (.cons cIn .nil)) .nil))).expr =
      .ok (.bool, andNot eOr eIn, 4) :=
  bin_checked hor (check_call_mono (checkArgs_cons hin checkArgs_nil) rfl not_mono rfl (by decide) (by rfl) ..)
    and_mono rfl

def goodOr : Expr := orTree "t" .time (.time u (-3))

def goodIn : Expr :=
  inCall "c" .str (.list u (.cons (.str u "p") (.cons (.ident u "n") .nil)) (some (.list .str)))

theorem good_or : check (env tGood) 0
    (Criteria.group .or (.cons (.cond "a" "=" (el [.str u "x"])) (.cons (.cond "t" ">" (el [.time u (-3)])) .nil))).expr =
    .ok (.bool, goodOr, 0) :=
  bin_checked (bin_checked (ident_checked rfl rfl) rfl eqStr_mono rfl)
    (bin_checked (ident_checked rfl rfl) rfl gtTime_mono rfl) or_mono rfl

theorem good_in : check (env tGood) 0 (Criteria.cond "c" "IN" (el [.list u (el [.str u "p", .ident u "n"]) none])).expr =
    .ok (.bool, goodIn, 4) :=
  check_in .str (ident_checked rfl rfl)
    (check_list (T := .str) rfl (checkElems_cons (ident_checked rfl rfl) rfl checkElems_nil)) (by decide) in_str_mono

theorem good_checked : check (env tGood) 0 cGood.expr = .ok (.bool, andNot goodOr goodIn, 4) :=
  andNot_checked good_or good_in

theorem good_text : toSql cGood tGood vGood =
    .ok "(`a` = \"x\" OR `t` > from_unixtime(-3)) AND NOT `c` IN (\"p\", \"q\\\"`\")" := by
  rw [toSql_of_check good_checked]
  exact C20.textIs_iff.1 (by decide +kernel)

theorem good_check : c20Check cGood tGood vGood = some true :=
  c20Check_true _ _ _ _ good_text (by decide +kernel)

/-! ### the same shape with numbers (floats are opaque for the kernel: they stay variables) -/
def cNum (x3 x1 x2 : Float) : Criteria :=
  .group .and (.cons (.group .or (.cons (.cond "a" "=" (el [.str u "x"])) (.cons (.cond "b" ">" (el [.num u x3])) .nil)))
    (.cons (.group .not (.cons (.cond "c" "IN" (el [.list u (el [.num u x1, .num u x2]) none])) .nil)) .nil))
def tNum : List (String × Ty) := [("a", .str), ("b", .num), ("c", .num)]
def vNum (y : Float) : List (String × Val) := [("b", .num y)]

def numOr (x3 : Float) : Expr := orTree "b" .num (.num u x3)

def numIn (x1 x2 : Float) : Expr :=
  inCall "c" .num (.list u (.cons (.num u x1) (.cons (.num u x2) .nil)) (some (.list .num)))

theorem num_or (x3 : Float) : check (env tNum) 0
    (Criteria.group .or (.cons (.cond "a" "=" (el [.str u "x"])) (.cons (.cond "b" ">" (el [.num u x3])) .nil))).expr =
    .ok (.bool, numOr x3, 0) :=
  bin_checked (bin_checked (ident_checked rfl rfl) rfl eqStr_mono rfl)
    (bin_checked (ident_checked rfl rfl) rfl gtNum_mono rfl) or_mono rfl

theorem num_in (x1 x2 : Float) :
    check (env tNum) 0 (Criteria.cond "c" "IN" (el [.list u (el [.num u x1, .num u x2]) none])).expr =
    .ok (.bool, numIn x1 x2, 4) :=
  check_in .num (ident_checked rfl rfl) (by rfl) (by decide) (by decide +kernel)

theorem num_checked (x3 x1 x2 : Float) : check (env tNum) 0 (cNum x3 x1 x2).expr =
    .ok (.bool, andNot (numOr x3) (numIn x1 x2), 4) :=
  andNot_checked (num_or x3) (num_in x1 x2)

theorem num_text (x3 x1 x2 y : Float) : toSql (cNum x3 x1 x2) tNum (vNum y) =
    .ok ("(" ++ ("`a` = \"x\"" ++ " OR " ++ (Num.renderNum y ++ " " ++ ">" ++ " " ++ Num.renderNum x3)) ++ ")"
      ++ " AND " ++ ("NOT " ++ ("`c`" ++ " " ++ "IN" ++ " " ++
        joinStr [Num.renderNum x1, Num.renderNum x2] ", " "(" ")"))) := by
  rw [toSql_of_check (num_checked x3 x1 x2)]
  rfl

theorem num_ok (x3 x1 x2 y : Float) : ∃ text, toSql (cNum x3 x1 x2) tNum (vNum y) = .ok text :=
  ⟨_, num_text x3 x1 x2 y⟩

/-! ### an application as the FIRST operand of a condition, inside a list item -/
def tFirst : List (String × Ty) := [("b", .bool), ("c", .bool), ("s", .str), ("t", .str)]

/-- a connective application there: its operands are swallowed by the comparison -/
def cFirstBad : Criteria :=
  .cond "b" "IN" (el [.list u (el [mkCall "=" (el [mkCall "AND" (el [.ident u "b", .ident u "c"]), .ident u "b"])]) none])

def cFirstGood : Criteria :=
  .cond "b" "IN" (el [.list u (el [mkCall "=" (el [mkCall "=" (el [.ident u "s", .ident u "t"]), .ident u "b"])]) none])

/-- the checked `[inner = b]` -/
def firstItem (inner : Expr) : Expr :=
  .list u (.cons (binTree "=" .bool inner (.ident u "b")) .nil) (some (.list .bool))

def firstBadInner : Expr := binTree "AND" .bool (.ident u "b") (.ident u "c")

def firstGoodInner : Expr := binTree "=" .str (.ident u "s") (.ident u "t")

theorem first_checked {operand inner : Expr} (h : check (env tFirst) 0 operand = .ok (.bool, inner, 0)) :
    check (env tFirst) 0 (Criteria.cond "b" "IN"
      (.cons (.list u (.cons (mkCall "=" (.cons operand (.cons (.ident u "b") .nil))) .nil) none) .nil)).expr =
    .ok (.bool, inCall "b" .bool (firstItem inner), 4) :=
  check_in .bool (ident_checked rfl rfl)
    (check_list (bin_checked h (ident_checked rfl rfl) eqBool_mono rfl) checkElems_nil) (by decide)
    (by decide +kernel)

theorem firstBad_checked : check (env tFirst) 0 cFirstBad.expr =
    .ok (.bool, inCall "b" .bool (firstItem firstBadInner), 4) :=
  first_checked (bin_checked (ident_checked rfl rfl) (ident_checked rfl rfl) and_mono rfl)

theorem firstBad_text : toSql cFirstBad tFirst [] = .ok "`b` IN (`b` AND `c` = `b`)" := by
  rw [toSql_of_check firstBad_checked]
  exact C20.textIs_iff.1 (by decide +kernel)

theorem firstBad_check : c20Check cFirstBad tFirst [] = some false :=
  c20Check_of_text firstBad_text (by decide +kernel)

theorem firstGood_checked : check (env tFirst) 0 cFirstGood.expr =
    .ok (.bool, inCall "b" .bool (firstItem firstGoodInner), 4) :=
  first_checked (bin_checked (ident_checked rfl rfl) (ident_checked rfl rfl) eqStr_mono rfl)

theorem firstGood_text : toSql cFirstGood tFirst [] = .ok "`b` IN (`s` = `t` = `b`)" := by
  rw [toSql_of_check firstGood_checked]
  exact C20.textIs_iff.1 (by decide +kernel)

theorem firstGood_check : c20Check cFirstGood tFirst [] = some true :=
  c20Check_true _ _ _ _ firstGood_text (by decide +kernel)

end Yae.SqlStruct.Wit
#print axioms Yae.SqlStruct.Wit.ident_checked
#print axioms Yae.SqlStruct.Wit.bin_checked
#print axioms Yae.SqlStruct.Wit.eqStr_mono
#print axioms Yae.SqlStruct.Wit.eqBool_mono
#print axioms Yae.SqlStruct.Wit.gtTime_mono
#print axioms Yae.SqlStruct.Wit.gtNum_mono
#print axioms Yae.SqlStruct.Wit.or_mono
#print axioms Yae.SqlStruct.Wit.check_in
#print axioms Yae.SqlStruct.Wit.in_str_mono
#print axioms Yae.SqlStruct.Wit.in_sigOK
#print axioms Yae.SqlStruct.Wit.in_poly
#print axioms Yae.SqlStruct.Wit.in_infer
#print axioms Yae.SqlStruct.Wit.toSql_of_check
#print axioms Yae.SqlStruct.Wit.sql3_checked
#print axioms Yae.SqlStruct.Wit.sql3_text
#print axioms Yae.SqlStruct.Wit.sql3_check
#print axioms Yae.SqlStruct.Wit.empty_checked
#print axioms Yae.SqlStruct.Wit.empty_text
#print axioms Yae.SqlStruct.Wit.empty_check
#print axioms Yae.SqlStruct.Wit.one_checked
#print axioms Yae.SqlStruct.Wit.one_text
#print axioms Yae.SqlStruct.Wit.one_check
#print axioms Yae.SqlStruct.Wit.not_mono
#print axioms Yae.SqlStruct.Wit.and_mono
#print axioms Yae.SqlStruct.Wit.good_or
#print axioms Yae.SqlStruct.Wit.good_in
#print axioms Yae.SqlStruct.Wit.good_checked
#print axioms Yae.SqlStruct.Wit.good_text
#print axioms Yae.SqlStruct.Wit.good_check
#print axioms Yae.SqlStruct.Wit.num_or
#print axioms Yae.SqlStruct.Wit.num_in
#print axioms Yae.SqlStruct.Wit.num_checked
#print axioms Yae.SqlStruct.Wit.num_text
#print axioms Yae.SqlStruct.Wit.num_ok
#print axioms Yae.SqlStruct.Wit.first_checked
#print axioms Yae.SqlStruct.Wit.firstBad_checked
#print axioms Yae.SqlStruct.Wit.firstBad_text
#print axioms Yae.SqlStruct.Wit.firstBad_check
#print axioms Yae.SqlStruct.Wit.firstGood_checked
#print axioms Yae.SqlStruct.Wit.firstGood_text
#print axioms Yae.SqlStruct.Wit.firstGood_check
