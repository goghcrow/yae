/-
  C08: every node of a tree that yields `[i, j)` yields a sub-range.
-/
import Yae.Proofs.ParseYieldSpan
namespace Yae

def SubYield (env : PEnv) (i j : Nat) (n : Expr) : Prop :=
  ∃ a b, i ≤ a ∧ b ≤ j ∧ Yields env n a b

theorem SubYield.mono {env : PEnv} {i j i' j' : Nat} {n : Expr} (h : SubYield env i j n)
    (hi : i' ≤ i) (hj : j ≤ j') : SubYield env i' j' n := by
  obtain ⟨a, b, h1, h2, h3⟩ := h
  exact ⟨a, b, by omega, by omega, h3⟩

theorem YChain.sub {env : PEnv} : ∀ {es i j}, YChain env es i j → ∀ e ∈ es, SubYield env i j e
  | _ :: _, _, _, ⟨a, b, h1, h2, h3⟩, e, he => by
    rcases List.mem_cons.mp he with rfl | he
    · exact ⟨a, b, h1, by have := h3.le; omega, h2⟩
    · exact (h3.sub e he).mono (by have := h2.bounds; omega) (Nat.le_refl _)

/-- By induction on the length of the range: the children of a node yield shorter ranges (the
elements of a list form are found through `YChain.sub`). -/
theorem Yields.all_sub_of {env : PEnv} : ∀ (n : Nat) {t i j}, j - i ≤ n → Yields env t i j →
    ∀ {i' j'}, i' ≤ i → j ≤ j' → t.All (SubYield env i' j')
  | 0, _, _, _, hn, h, _, _, _, _ => by have := h.bounds; omega
  | n + 1, t, i, j, hn, h, i', j', hi, hj => by
    have ih {e a b} (he : Yields env e a b) (h1 : i < a ∨ b < j) (h2 : i ≤ a) (h3 : b ≤ j) :
        e.All (SubYield env i' j') :=
      Yields.all_sub_of n (by omega) he (by omega) (by omega)
    have ihs {es a b} (hs : YChain env es a b) (h1 : i < a) (h3 : b ≤ j) :
        ∀ e ∈ es, e.All (SubYield env i' j') := fun e he =>
      have ⟨_, _, g1, g2, g3⟩ := hs.sub e he
      ih g3 (.inl (by omega)) (by omega) (by omega)
    have here : SubYield env i' j' t := ⟨i, j, hi, hj, h⟩
    cases h with
    | ident | true_ | false_ | num | str => exact here
    | time _ he => obtain ⟨v, rfl⟩ := timeLit_ok he; exact here
    | emptyMap => exact ⟨here, trivial⟩
    | group _ he | pre _ he =>
      exact ⟨here, ih he (.inl (by omega)) (by omega) (by have := he.bounds; omega)⟩
    | list _ he => exact ⟨here, (allList_ofList _).mpr (ihs he.chain (by omega) (by omega))⟩
    | map _ he =>
      have := ihs he.chain (by omega) (by omega)
      exact ⟨here, (allPairs_ofList _).mpr fun kv hkv =>
        ⟨this _ (List.mem_flatMap.mpr ⟨kv, hkv, by simp⟩),
          this _ (List.mem_flatMap.mpr ⟨kv, hkv, by simp⟩)⟩⟩
    | obj _ he =>
      exact ⟨here, (allFields_ofList _).mpr fun nv hnv =>
        ihs he.chain (by omega) (by omega) _ (List.mem_map.mpr ⟨nv, hnv, rfl⟩)⟩
    | binary hl _ _ hr | subscript hl _ hr =>
      have := hl.bounds; have := hr.bounds
      exact ⟨here, ih hl (.inr (by omega)) (by omega) (by omega),
        ih hr (.inl (by omega)) (by omega) (by omega)⟩
    | post hl | member hl | memberEOF hl =>
      exact ⟨here, ih hl (.inr (by omega)) (by omega) (by omega)⟩
    | ternary hl _ hm _ hr =>
      have := hl.bounds; have := hm.bounds; have := hr.bounds
      exact ⟨here, ih hl (.inr (by omega)) (by omega) (by omega),
        ih hm (.inl (by omega)) (by omega) (by omega), ih hr (.inl (by omega)) (by omega) (by omega)⟩
    | call hc _ ha | methodCall hc _ _ ha =>
      have := hc.bounds; have := ha.bounds
      exact ⟨here, ih hc (.inr (by omega)) (by omega) (by omega),
        (allList_ofList _).mpr (ihs ha.chain (by omega) (by omega))⟩

theorem Yields.all_sub {env : PEnv} :
    ∀ {t i j}, Yields env t i j → t.All (SubYield env i j) :=
  fun h => Yields.all_sub_of _ (Nat.le_refl _) h (Nat.le_refl _) (Nat.le_refl _)

theorem SubYield.all {env : PEnv} {i j : Nat} {e : Expr} (h : SubYield env i j e) :
    e.All (SubYield env i j) :=
  have ⟨_, _, h1, h2, h3⟩ := h
  Yields.all_sub_of _ (Nat.le_refl _) h3 h1 h2

theorem YArgs.all_sub {env : PEnv} :
    ∀ {as i j}, YArgs env as i j → ∀ e ∈ as, e.All (SubYield env i j) :=
  fun h e he => (h.chain.sub e he).all
theorem YSeq.all_sub {env : PEnv} :
    ∀ {as i j}, YSeq env as i j → ∀ e ∈ as, e.All (SubYield env i j) :=
  fun h e he => (h.chain.sub e he).all
theorem YElems.all_sub {env : PEnv} :
    ∀ {as i j}, YElems env as i j → ∀ e ∈ as, e.All (SubYield env i j) :=
  fun h e he => (h.chain.sub e he).all
theorem YPairs.all_sub {env : PEnv} :
    ∀ {ps i j}, YPairs env ps i j →
      ∀ kv ∈ ps, kv.1.All (SubYield env i j) ∧ kv.2.All (SubYield env i j) :=
  fun h kv hkv =>
    ⟨(h.chain.sub _ (List.mem_flatMap.mpr ⟨kv, hkv, by simp⟩)).all,
      (h.chain.sub _ (List.mem_flatMap.mpr ⟨kv, hkv, by simp⟩)).all⟩
theorem YFields.all_sub {env : PEnv} :
    ∀ {fs i j}, YFields env fs i j → ∀ nv ∈ fs, nv.2.All (SubYield env i j) :=
  fun h nv hnv => (h.chain.sub _ (List.mem_map.mpr ⟨nv, hnv, rfl⟩)).all

/-- every node records exactly the span of the tokens it was read from -/
theorem Yields.all_span {env : PEnv} (ho : env.Ordered) {t : Expr} {i j : Nat}
    (h : Yields env t i j) :
    t.All (fun n => ∃ a b, i ≤ a ∧ b ≤ j ∧ Yields env n a b ∧ env.Span n.pos a b) :=
  Expr.All.imp (fun _ ⟨a, b, h1, h2, h3⟩ => ⟨a, b, h1, h2, h3, h3.span ho⟩) h.all_sub

end Yae
