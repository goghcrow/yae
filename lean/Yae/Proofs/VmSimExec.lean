/-
  C03.  The hypotheses of the simulation: `W e` (instructions that suffice for `e`; `C03.vmFuel e = W e + 1`),
  `wa funs e` with `callOk` (what the checker leaves on the tree, as far as the compiler relies on it:
  `C03.WellAnnotated`), `KA ρ e` (what the machine relies on for the values that occur: `C03.KindsAgree`).  The
  simulation: `Sim`, "from here the machine does what this run of the reference evaluator says", with its composition
  lemmas, and `SimE funs ρ P f`, the statement for laid-out expressions at evaluator fuel `f`, proved here for
  everything but calls (`simE_nocall`); calls and the induction on `f` are in `VmSimCall`.
-/
import Yae.Proofs.VmSimBase
import Yae.Proofs.VmSimLayout
namespace Yae.VmSim
open Yae Yae.Vm EvalM

mutual
/-- the `w` of `Sim`.  Call case: the factor 2 is for `CALL_BY_NEED` (one `CONST` per argument, then each forced
thunk runs on the fuel that is left); the constant 4 is not tight, the cases of `simE_call` use at most 2 -/
def W : Expr → Nat
  | .list _ es _ => WL es + 1
  | .map _ ps _ => WP ps + 1
  | .obj _ fs _ => WF fs + 1
  | .call _ _ c as _ _ _ => W c + 2 * WL as + 4
  | .subscript _ _ v i _ => W v + W i + 1
  | .member _ _ o _ _ _ _ => W o + 1
  | _ => 1
def WL : ExprList → Nat
  | .nil => 0
  | .cons e es => W e + WL es
def WP : PairList → Nat
  | .nil => 0
  | .cons k v ps => W k + W v + WP ps
def WF : FieldEList → Nat
  | .nil => 0
  | .cons _ e fs => W e + WF fs
end

theorem W_pos (e : Expr) : 1 ≤ W e := by cases e <;> simp [W] <;> omega

theorem length_le_WL : ∀ es : ExprList, es.length ≤ WL es
  | .nil => by simp [ExprList.length, WL]
  | .cons e es => by
    have := length_le_WL es; have := W_pos e
    simp [ExprList.length, WL]; omega

def listTyOk : ExprList → Option Ty → Bool
  | .nil, some (.list .bot) => true
  | .nil, _ => false
  | .cons _ _, some _ => true
  | .cons _ _, none => false
def mapTyOk : PairList → Option Ty → Bool
  | .nil, some (.map .bot .bot) => true
  | .nil, _ => false
  | .cons _ _ _, some _ => true
  | .cons _ _ _, none => false
def objTyOk (fs : FieldEList) : Option Ty → Bool
  | some (.obj tfs) => tfs.length == fs.length
  | _ => false
def subTyOk : Option Ty → Bool
  | some (.list _) => true
  | some (.map _ _) => true
  | _ => false
/-- a statically resolved call of a built-in has the built-in's arity, and the registered
declaration carries the built-in's laziness -/
def callOk (d : FunDecl) (n : Nat) : Bool :=
  match builtinOf d with
  | some b => n == arityOf b && d.isLazy == b.isLazy
  | none => true

theorem callOk_inv {d : FunDecl} {n idx : Nat} {b : BuiltinDecl} (h : callOk d n = true)
    (hr : d.ref = .builtin idx) (hb : builtins[idx]? = some b) :
    n = arityOf b ∧ d.isLazy = b.isLazy := by
  simp only [callOk, builtinOf, hr, hb, Bool.and_eq_true, beq_iff_eq] at h
  exact h

mutual
def wa (funs : List FunDecl) : Expr → Bool
  | .str .. => true
  | .num .. => true
  | .time .. => true
  | .bool .. => true
  | .ident .. => true
  | .list _ es ty => listTyOk es ty && waL funs es
  | .map _ ps ty => mapTyOk ps ty && waP funs ps
  | .obj _ fs ty => objTyOk fs ty && waF funs fs
  | .call _ _ callee args _ resolved index =>
    if resolved == "" then wa funs callee && waL funs args
    else (match resolveStatic funs resolved index with
          | some d => callOk d args.length
          | none => false) && waL funs args
  | .subscript _ _ var idx varTy => subTyOk varTy && wa funs var && wa funs idx
  | .member _ _ obj _ _ _ _ => wa funs obj
  | _ => false
def waL (funs : List FunDecl) : ExprList → Bool
  | .nil => true
  | .cons e es => wa funs e && waL funs es
def waP (funs : List FunDecl) : PairList → Bool
  | .nil => true
  | .cons k v ps => wa funs k && wa funs v && waP funs ps
def waF (funs : List FunDecl) : FieldEList → Bool
  | .nil => true
  | .cons _ e fs => wa funs e && waF funs fs
end

theorem wa_static {funs p col callee args cty resolved index d} (hres : (resolved == "") = false)
    (hrs : resolveStatic funs resolved index = some d)
    (hw : wa funs (.call p col callee args cty resolved index) = true) :
    callOk d args.length = true ∧ waL funs args = true := by
  simpa only [wa, hres, Bool.false_eq_true, ↓reduceIte, hrs, Bool.and_eq_true] using hw

def ValKind : Option Ty → Val → Prop
  | some (.list _), .list _ _ => True
  | some (.map _ _), .map _ _ => True
  | _, _ => False

/- What the machine relies on, for the values that occur: the operand of a subscript evaluates to a
value of the annotated kind (a consequence of type soundness, C01), and the callee of a dynamic call
does not evaluate to a lazy function value (no consequence of type soundness; it holds when no variable of the
environment holds a lazy function value: `noLazy_dynStrict`, `ck_ka` in `VmCheckedKinds`). -/
mutual
def KA (ρ : REnv) : Expr → Prop
  | .list _ es _ => KAL ρ es
  | .map _ ps _ => KAP ρ ps
  | .obj _ fs _ => KAF ρ fs
  | .call _ _ callee args _ resolved _ =>
    (resolved = "" → KA ρ callee ∧
      ∀ f l v l', eval f false ρ callee l = (.ok v, l') → ∀ ty ref, v ≠ .fn ty ref true) ∧
    KAL ρ args
  | .subscript _ _ var idx varTy =>
    KA ρ var ∧ KA ρ idx ∧ ∀ f l v l', eval f false ρ var l = (.ok v, l') → ValKind varTy v
  | .member _ _ obj _ _ _ _ => KA ρ obj
  | _ => True
def KAL (ρ : REnv) : ExprList → Prop
  | .nil => True
  | .cons e es => KA ρ e ∧ KAL ρ es
def KAP (ρ : REnv) : PairList → Prop
  | .nil => True
  | .cons k v ps => KA ρ k ∧ KA ρ v ∧ KAP ρ ps
def KAF (ρ : REnv) : FieldEList → Prop
  | .nil => True
  | .cons _ e fs => KA ρ e ∧ KAF ρ fs
end

/-- From `(o, s, l)` the machine does what `r` says: on success it reaches `o'` with the stack
`push a` and the log of `r`, using at most `w` instructions; a failure that is not an internal
fault is reproduced with its log.  `w` units of fuel are enough. -/
def Sim {α} (ρ : REnv) (P : Pool) (C : Code) (r : Except Fail α × List Event) (w o o' : Nat)
    (s : List Slot) (l : List Event) (push : α → List Slot) : Prop :=
  ∀ F, w ≤ F →
    match r with
    | (.ok a, l') => ∃ F', F ≤ F' + w ∧ run F ρ P C o s l = run F' ρ P C o' (push a) l'
    | (.error x, l') => NotStuck (.error x : Except Fail Unit) → run F ρ P C o s l = (.error x, l')

section sim
variable {ρ : REnv} {P : Pool} {C : Code}

theorem Sim.mono {α} {r : Except Fail α × List Event} {w w' o o' s l} {push : α → List Slot}
    (h : Sim ρ P C r w o o' s l push) (hw : w ≤ w') : Sim ρ P C r w' o o' s l push := by
  intro F hF
  have := h F (by omega)
  rcases r with ⟨_ | a, l'⟩
  · exact this
  · obtain ⟨F', h1, h2⟩ := this
    exact ⟨F', by omega, h2⟩

theorem Sim.stuck {α} {m l' w o o' s l} {push : α → List Slot}
    (hm : ¬ ExternMiss m := by decide) :
    Sim ρ P C ((.error (.stuck m), l') : Except Fail α × List Event) w o o' s l push := by
  intro F _ h; exact absurd h hm

theorem Sim.skip {α} {a : α} {w o s l} {push : α → List Slot} (hp : push a = s) :
    Sim ρ P C (.ok a, l) w o o s l push := by
  intro F _; exact ⟨F, by omega, by rw [hp]⟩

/-- one instruction whose outcome is `r`; the equation is asked for only when `r` is `NotStuck` (the `NS` of the
name) and `w` units of fuel are left after the instruction -/
theorem Sim.stepNS {α} {r : Except Fail α × List Event} {w o o' s l} {push : α → List Slot}
    (h : ∀ F0, w ≤ F0 → NotStuck r.1 → run (F0+1) ρ P C o s l =
      seq r (fun a l' => run F0 ρ P C o' (push a) l')) :
    Sim ρ P C r (w + 1) o o' s l push := by
  intro F hF
  obtain ⟨F0, rfl⟩ : ∃ F0, F = F0 + 1 := ⟨F - 1, by omega⟩
  rcases r with ⟨x | a, l'⟩
  · intro hs
    rw [h F0 (by omega) (by cases x <;> first | trivial | exact hs)]; rfl
  · exact ⟨F0, by omega, by rw [h F0 (by omega) trivial]; rfl⟩

theorem Sim.step' {α} {r : Except Fail α × List Event} {o o' s l} {push : α → List Slot}
    (h : ∀ F0, run (F0+1) ρ P C o s l =
      seq r (fun a l' => run F0 ρ P C o' (push a) l')) :
    Sim ρ P C r 1 o o' s l push :=
  Sim.stepNS (w := 0) fun F0 _ _ => h F0

theorem Sim.step {α : Type} {a : α} {o o' s l l'} {push : α → List Slot}
    (h : ∀ F0, run (F0+1) ρ P C o s l = run F0 ρ P C o' (push a) l') :
    Sim ρ P C (.ok a, l') 1 o o' s l push :=
  Sim.step' h

theorem Sim.seq {α β} {x : EvalM α} {k : α → EvalM β} {w1 w2 o o1 o' s l}
    {push1 : α → List Slot} {push2 : β → List Slot}
    (h1 : Sim ρ P C (x l) w1 o o1 s l push1)
    (h2 : ∀ a l1, x l = (.ok a, l1) → Sim ρ P C (k a l1) w2 o1 o' (push1 a) l1 push2) :
    Sim ρ P C ((x >>= k) l) (w1 + w2) o o' s l push2 := by
  intro F hF
  have h1' := h1 F (by omega)
  rcases hx : x l with ⟨e | a, l1⟩
  · rw [bind_err hx]; rw [hx] at h1'; exact h1'
  · rw [bind_ok hx]; rw [hx] at h1'
    obtain ⟨F1, hF1, hrun⟩ := h1'
    have h2' := h2 a l1 hx F1 (by omega)
    rcases hk : k a l1 with ⟨e | b, l2⟩
    · rw [hk] at h2'; intro hs; rw [hrun]; exact h2' hs
    · rw [hk] at h2'
      obtain ⟨F2, hF2, hrun2⟩ := h2'
      exact ⟨F2, by omega, by rw [hrun, hrun2]⟩

end sim

def SimE (funs : List FunDecl) (ρ : REnv) (P : Pool) (f : Nat) : Prop :=
  ∀ (e : Expr) (C : Code) (o o' : Nat) (s : List Slot) (l : List Event),
    e.depth < f → LayE funs P C e o o' → wa funs e = true → KA ρ e →
    Sim ρ P C (eval f false ρ e l) (W e) o o' s l (fun v => .val v :: s)

section lists
variable {funs : List FunDecl} {ρ : REnv} {P : Pool} {f : Nat}

theorem simL (hE : SimE funs ρ P f) :
    ∀ (es : ExprList) (C : Code) (o o' : Nat) (s : List Slot) (l : List Event),
      depthList es < f → LayL funs P C es o o' → waL funs es = true → KAL ρ es →
      Sim ρ P C (evalList f false ρ es l) (WL es) o o' s l (fun vs => pushVals vs.toList s)
  | .nil, C, o, o', s, l, _, hl, _, _ => by
    cases hl
    simp only [evalList]
    exact Sim.skip rfl
  | .cons e es, C, o, o', s, l, hd, hl, hw, hk => by
    cases hl with
    | cons h1 h2 =>
      simp only [waL, Bool.and_eq_true] at hw
      simp only [KAL] at hk
      have hd' : max e.depth (depthList es) < f := by simpa [depthList] using hd
      simp only [evalList]
      refine Sim.mono (Sim.seq (hE e C o _ s l (by omega) h1 hw.1 hk.1) fun v l1 _ =>
        Sim.seq (simL hE es C _ o' (.val v :: s) l1 (by omega) h2 hw.2 hk.2) fun vs l2 _ =>
          Sim.skip (w := 0) ?_) ?_
      · simp [ValList.toList, pushVals_cons]
      · simp [WL]

theorem simF (hE : SimE funs ρ P f) :
    ∀ (fs : FieldEList) (C : Code) (o o' : Nat) (s : List Slot) (l : List Event),
      depthFields fs < f → LayF funs P C fs o o' → waF funs fs = true → KAF ρ fs →
      Sim ρ P C (evalFields f false ρ fs l) (WF fs) o o' s l (fun vs => pushVals vs.toList s)
  | .nil, C, o, o', s, l, _, hl, _, _ => by
    cases hl
    simp only [evalFields]
    exact Sim.skip rfl
  | .cons n e fs, C, o, o', s, l, hd, hl, hw, hk => by
    cases hl with
    | cons h1 h2 =>
      simp only [waF, Bool.and_eq_true] at hw
      simp only [KAF] at hk
      have hd' : max e.depth (depthFields fs) < f := by simpa [depthFields] using hd
      simp only [evalFields]
      refine Sim.mono (Sim.seq (hE e C o _ s l (by omega) h1 hw.1 hk.1) fun v l1 _ =>
        Sim.seq (simF hE fs C _ o' (.val v :: s) l1 (by omega) h2 hw.2 hk.2) fun vs l2 _ =>
          Sim.skip (w := 0) ?_) ?_
      · simp [ValList.toList, pushVals_cons]
      · simp [WF]

/-- pairs, with what the evaluator does next: the machine has pushed all keys and values `kvs`, from which `NEW_MAP`
(`mapOfPairs`) builds the entries the evaluator has built; each `>>=` of `evalPairs` is one `Sim.seq` -/
theorem simP (hE : SimE funs ρ P f) {β} {k : EntryList → EvalM β} {C : Code} {w2 o' : Nat} {push2 : β → List Slot} :
    ∀ (ps : PairList) (o o1 : Nat) (s : List Slot) (l : List Event) (acc : EntryList),
      depthPairs ps < f → LayP funs P C ps o o1 → waP funs ps = true → KAP ρ ps →
      (∀ es kvs l1, kvs.length = 2 * ps.length → (∀ t l0, mapOfPairs t kvs acc l0 = (.ok es, l0)) →
        Sim ρ P C (k es l1) w2 o1 o' (pushVals kvs s) l1 push2) →
      Sim ρ P C ((evalPairs f false ρ ps acc >>= k) l) (WP ps + w2) o o' s l push2
  | .nil, o, o1, s, l, acc, _, hl, _, _, hk2 => by
    cases hl
    simp only [evalPairs, WP, Nat.zero_add]
    exact hk2 acc [] l rfl fun _ _ => rfl
  | .cons k0 v ps, o, o1, s, l, acc, hd, hl, hw, hk, hk2 => by
    cases hl with
    | cons h1 h2 h3 =>
      simp only [waP, Bool.and_eq_true] at hw
      simp only [KAP] at hk
      have hd' : max (max k0.depth v.depth) (depthPairs ps) < f := by simpa [depthPairs] using hd
      simp only [evalPairs, EvalM.bind_assoc]
      refine Sim.mono (w := W k0 + (W v + (WP ps + w2))) ?_ (by simp only [WP]; omega)
      refine Sim.seq (hE k0 C o _ s l (by omega) h1 hw.1.1 hk.1) fun kv l1 _ => ?_
      rcases hkey : kv.key? with _ | ⟨kt, ks⟩
      · exact Sim.stuck
      · simp only [EvalM.bind_assoc]
        refine Sim.seq (hE v C _ _ (.val kv :: s) l1 (by omega) h2 hw.1.2 hk.2.1) fun vv l2 _ => ?_
        refine simP hE ps _ o1 (.val vv :: .val kv :: s) l2 (acc.insert kt ks vv) (by omega) h3 hw.2 hk.2.2
          fun es kvs l3 hlen hmap => ?_
        have := hk2 es (kv :: vv :: kvs) l3 (by simp [PairList.length, hlen]; omega)
          fun t l0 => by simp only [mapOfPairs, hkey]; exact hmap t l0
        simpa [pushVals_cons] using this

end lists

theorem bind_recDbg {x : EvalM Val} {col : Int} {l : List Event} :
    (x >>= fun v => recDbg false v col) l = x l := by
  rw [bind_apply]; rcases x l with ⟨e | a, l1⟩ <;> rfl

theorem evalList_length {f dbg ρ} : ∀ (es : ExprList) (l : List Event) (vs : ValList) (l' : List Event),
    evalList f dbg ρ es l = (.ok vs, l') → vs.length = es.length
  | .nil, l, vs, l', h => by
    simp only [evalList, pure_apply] at h; cases h; rfl
  | .cons e es, l, vs, l', h => by
    simp only [evalList] at h
    rcases he : eval f dbg ρ e l with ⟨x | v, l1⟩
    · rw [bind_err he] at h; cases h
    · rw [bind_ok he] at h
      rcases hes : evalList f dbg ρ es l1 with ⟨x | vs', l2⟩
      · rw [bind_err hes] at h; cases h
      · rw [bind_ok hes] at h
        cases h
        simp only [ValList.length, ExprList.length, Nat.add_right_cancel_iff]
        exact evalList_length es _ _ _ hes

theorem evalFields_length {f dbg ρ} : ∀ (fs : FieldEList) (l : List Event) (vs : ValList) (l' : List Event),
    evalFields f dbg ρ fs l = (.ok vs, l') → vs.length = fs.length
  | .nil, l, vs, l', h => by
    simp only [evalFields, pure_apply] at h; cases h; rfl
  | .cons n e fs, l, vs, l', h => by
    simp only [evalFields] at h
    rcases he : eval f dbg ρ e l with ⟨x | v, l1⟩
    · rw [bind_err he] at h; cases h
    · rw [bind_ok he] at h
      rcases hes : evalFields f dbg ρ fs l1 with ⟨x | vs', l2⟩
      · rw [bind_err hes] at h; cases h
      · rw [bind_ok hes] at h
        cases h
        simp only [ValList.length, FieldEList.length, Nat.add_right_cancel_iff]
        exact evalFields_length fs _ _ _ hes

theorem listTyOk_nil {ty} (h : listTyOk .nil ty = true) : ty = some (.list .bot) := by
  unfold listTyOk at h; split at h <;> simp_all
theorem listTyOk_cons {e es ty} (h : listTyOk (.cons e es) ty = true) : ∃ t, ty = some t := by
  cases ty with
  | none => simp [listTyOk] at h
  | some t => exact ⟨t, rfl⟩
theorem mapTyOk_nil {ty} (h : mapTyOk .nil ty = true) : ty = some (.map .bot .bot) := by
  unfold mapTyOk at h; split at h <;> simp_all
theorem mapTyOk_cons {k v ps ty} (h : mapTyOk (.cons k v ps) ty = true) : ∃ t, ty = some t := by
  cases ty with
  | none => simp [mapTyOk] at h
  | some t => exact ⟨t, rfl⟩
theorem objTyOk_inv {fs ty} (h : objTyOk fs ty = true) : ∃ tfs, ty = some (.obj tfs) ∧ tfs.length = fs.length := by
  unfold objTyOk at h; split at h
  · exact ⟨_, rfl, by simpa using h⟩
  · cases h

section main
variable {funs : List FunDecl} {ρ : REnv} {P : Pool} {f : Nat}

theorem simE_lit {C : Code} {o o' i : Nat} {s l} {v : Val} {w : Nat} (hw : 1 ≤ w)
    (hdec : decodeAt C o = some (.const .CONST i, o')) (hp : P[i]? = some (.val v)) :
    Sim ρ P C (.ok v, l) w o o' s l (fun v => .val v :: s) :=
  Sim.mono (Sim.step fun _ => run_const_val hdec hp) hw

theorem simE_nocall (hE : SimE funs ρ P f)
    (e : Expr) (C : Code) (o o' : Nat) (s : List Slot) (l : List Event)
    (hd : e.depth < f + 1) (hl : LayE funs P C e o o') (hw : wa funs e = true) (hk : KA ρ e)
    (hnc : ∀ p col callee args cty resolved index, e ≠ .call p col callee args cty resolved index) :
    Sim ρ P C (eval (f+1) false ρ e l) (W e) o o' s l (fun v => .val v :: s) := by
  cases hl with
  | str hdec hp | num hdec hp | time hdec hp | bool hdec hp =>
    simp only [eval, pure_apply]
    exact simE_lit (W_pos _) hdec hp
  | ident hdec hp =>
    rename_i x
    simp only [eval]
    cases hlk : ρ.lookupVar x with
    | none => exact Sim.stuck
    | some v =>
      simp only [recDbg_false]
      refine Sim.mono (Sim.step fun F0 => ?_) (W_pos _)
      rw [run_load hdec hp, hlk]; rfl
  | list h1 hdec hp =>
    rename_i o1 i p es ty
    simp only [wa, Bool.and_eq_true] at hw
    simp only [KA] at hk
    cases es with
    | nil =>
      cases h1
      have hty := listTyOk_nil hw.1; subst hty
      simp only [eval, pure_apply]
      refine Sim.mono (Sim.step fun F0 => ?_) (W_pos _)
      exact run_newlist hdec hp (vs := []) rfl
    | cons e es =>
      obtain ⟨t, rfl⟩ := listTyOk_cons hw.1
      simp only [eval]
      refine Sim.seq (simL hE _ C o _ s l (by simpa [Expr.depth] using hd) h1 hw.2 hk)
        fun vs l1 hvs => Sim.step fun F0 => ?_
      have hlen := evalList_length _ _ _ _ hvs
      rw [run_newlist hdec hp (popN_pushVals vs.toList s l1 _ (by simp [hlen]))]
      simp
  | map h1 hdec hp =>
    rename_i o1 i p ps ty
    simp only [wa, Bool.and_eq_true] at hw
    simp only [KA] at hk
    cases ps with
    | nil =>
      cases h1
      have hty := mapTyOk_nil hw.1; subst hty
      simp only [eval, pure_apply]
      refine Sim.mono (Sim.step fun F0 => ?_) (W_pos _)
      rw [run_newmap hdec hp (kvs := []) rfl]; rfl
    | cons k v ps =>
      obtain ⟨t, rfl⟩ := mapTyOk_cons hw.1
      simp only [eval, W]
      refine simP hE _ o _ s l .nil (by simpa [Expr.depth] using hd) h1 hw.2 hk
        fun es kvs l1 hlen hmap => Sim.step' fun F0 => ?_
      rw [run_newmap hdec hp (popN_pushVals kvs s l1 _ hlen.symm), hmap]
      rfl
  | obj h1 hdec hp =>
    rename_i o1 i p fs ty
    simp only [wa, Bool.and_eq_true] at hw
    simp only [KA] at hk
    obtain ⟨tfs, rfl, htl⟩ := objTyOk_inv hw.1
    cases fs with
    | nil =>
      cases h1
      cases tfs with
      | cons _ _ _ => simp [FieldList.length, FieldEList.length] at htl
      | nil =>
        simp only [eval, pure_apply]
        refine Sim.mono (Sim.step fun F0 => ?_) (W_pos _)
        exact run_newobj hdec hp (vs := []) rfl
    | cons n e fs =>
      simp only [eval]
      refine Sim.seq (simF hE _ C o _ s l (by simpa [Expr.depth] using hd) h1 hw.2 hk)
        fun vs l1 hvs => Sim.step fun F0 => ?_
      have hlen := evalFields_length _ _ _ _ hvs
      rw [run_newobj hdec hp (popN_pushVals vs.toList s l1 _ (by simp [hlen, htl]))]
      simp
  | member h1 hdec hp =>
    rename_i o1 i p col obj field fp oty index
    simp only [wa] at hw
    simp only [KA] at hk
    simp only [eval]
    refine Sim.seq (hE obj C o _ s l (by simp [Expr.depth] at hd; omega) h1 hw hk) fun ov l1 _ => ?_
    cases ov with
    | obj ty vs =>
      refine Sim.step' fun F0 => ?_
      rw [run_objload hdec hp]
      dsimp only
      cases objGet? ty vs field <;> rfl
    | _ => exact Sim.stuck
  | subList h1 h2 hdec =>
    rename_i o1 o2 p col var idx el
    simp only [wa, Bool.and_eq_true] at hw
    simp only [KA] at hk
    simp only [eval]
    simp only [Expr.depth] at hd
    refine Sim.mono (w := W var + (W idx + 1)) ?_ (by simp only [W]; omega)
    refine Sim.seq (hE var C o _ s l (by omega) h1 hw.1.2 hk.1) fun x l1 hx => ?_
    have hkind := hk.2.2 _ _ _ _ hx
    cases x <;> simp only [ValKind] at hkind
    rename_i t vs
    simp only [bind_recDbg]
    refine Sim.seq (hE idx C _ _ _ l1 (by omega) h2 hw.2 hk.2.1) fun iv l2 _ => ?_
    cases iv with
    | num x =>
      refine Sim.step' fun F0 => ?_
      rw [run_listload hdec]
      dsimp only
      split
      · rfl
      · cases vs.get? (Num.toInt x).toNat <;> rfl
    | _ => exact Sim.stuck
  | subMap h1 h2 hdec =>
    rename_i o1 o2 p col var idx kt vt
    simp only [wa, Bool.and_eq_true] at hw
    simp only [KA] at hk
    simp only [eval]
    simp only [Expr.depth] at hd
    refine Sim.mono (w := W var + (W idx + 1)) ?_ (by simp only [W]; omega)
    refine Sim.seq (hE var C o _ s l (by omega) h1 hw.1.2 hk.1) fun x l1 hx => ?_
    have hkind := hk.2.2 _ _ _ _ hx
    cases x <;> simp only [ValKind] at hkind
    rename_i t es
    simp only [bind_recDbg]
    refine Sim.seq (hE idx C _ _ _ l1 (by omega) h2 hw.2 hk.2.1) fun kv l2 _ => ?_
    rcases hkey : kv.key? with _ | ⟨kt', ks⟩
    · simp only []; exact Sim.stuck
    · refine Sim.step' fun F0 => ?_
      rw [run_mapload hdec hkey]
      dsimp only
      cases es.find? kt' ks <;> rfl
  | _ => exact absurd rfl (hnc _ _ _ _ _ _ _)

end main

end Yae.VmSim
