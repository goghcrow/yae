/-
  The reference matcher `Re.m` of `Yae.Spec.Regex` against the declarative semantics `Re.Matches`, in closed form:
  `r.m s k` is the first success of `k` on `r.rests s` (`Re.m_eq_rests`), the list of what the matcher offers to its
  continuation in the order of priority, and that list holds exactly the rests of `s` after a prefix in the language
  of `r` (`Re.mem_rests`); `Re.m_sound` and `Re.m_complete` are read off these two.  `Re.loop_fuel` (the fuel of the
  loop is irrelevant once it exceeds the input length; `Re.m` always passes length + 1) is a remark on the
  definition, which the other proofs do not need.

  Which of several prefixes in the language is returned (the priorities) is by definition of `Re.m`; the lemmas for
  that (`Re.Scans`, `Re.Reads`) are in `Yae.Proofs.LexScan`.
-/
import Yae.Spec.Regex
namespace Yae
namespace Re

variable {β : Type}

@[simp] theorem orElse_some (r : β) (y : Unit → Option β) : orElse (some r) y = some r := rfl
@[simp] theorem orElse_none (y : Unit → Option β) : orElse none y = y () := rfl

theorem orElse_none_right (x : Option β) : orElse x (fun _ => none) = x := by
  cases x <;> rfl

theorem orElse_of_isSome {x : Option β} (y : Unit → Option β) (h : x.isSome = true) :
    orElse x y = x := by
  cases x with
  | none => simp at h
  | some r => rfl

theorem orElse_eq_some {x : Option β} {y : Unit → Option β} {r : β} :
    orElse x y = some r ↔ x = some r ∨ (x = none ∧ y () = some r) := by
  cases x <;> simp

theorem orElse_eq_none {x : Option β} {y : Unit → Option β} :
    orElse x y = none ↔ x = none ∧ y () = none := by
  cases x <;> simp

/-- `a` matches exactly one character, one that satisfies `p`. -/
def IsChar (a : Re) (p : Char → Bool) : Prop :=
  ∀ (β : Type) (s : List Char) (k : List Char → Option β),
    a.m s k = match s with
      | c :: cs => if p c = true then k cs else none
      | [] => none

theorem isChar_cls (neg : Bool) (items : List CItem) :
    IsChar (.cls neg items) (clsTest neg items) := by
  intro β s k; cases s <;> simp [Re.m]

theorem isChar_chr (c : Char) : IsChar (.chr c) (· == c) := by
  intro β s k; cases s <;> simp [Re.m]

theorem isChar_esc (c : Char) : IsChar (.esc c) (· == c) := by
  intro β s k; cases s <;> simp [Re.m]

theorem IsChar.congr {a : Re} {p q : Char → Bool} (h : IsChar a p) (hpq : ∀ c, p c = q c) :
    IsChar a q := by
  have : p = q := funext hpq
  subst this; exact h

theorem Matches.eps_inv {u : List Char} (h : Matches .eps u) : u = [] := by cases h; rfl

theorem Matches.chr_inv {c : Char} {u : List Char} (h : Matches (.chr c) u) : u = [c] := by
  cases h; rfl

theorem Matches.esc_inv {c : Char} {u : List Char} (h : Matches (.esc c) u) : u = [c] := by
  cases h; rfl

theorem Matches.cls_inv {neg items} {u : List Char} (h : Matches (.cls neg items) u) :
    ∃ x, u = [x] ∧ clsTest neg items x = true := by
  cases h with
  | cls hx => exact ⟨_, rfl, hx⟩

theorem Matches.cat_inv {a b : Re} {w : List Char} (h : Matches (.cat a b) w) :
    ∃ u v, w = u ++ v ∧ Matches a u ∧ Matches b v := by
  cases h with
  | cat hu hv => exact ⟨_, _, rfl, hu, hv⟩

theorem Matches.radix_split {letter : Char} {G : Re} {w : List Char}
    (h : (Re.cat (.chr '0') (.cat (.chr letter) G)).Matches w) :
    ∃ ds, w = '0' :: letter :: ds ∧ G.Matches ds := by
  obtain ⟨u1, r1, rfl, h1, hr1⟩ := Matches.cat_inv h
  have := h1.chr_inv; subst this
  obtain ⟨u2, r2, rfl, h2, h3⟩ := hr1.cat_inv
  have := h2.chr_inv; subst this
  exact ⟨r2, rfl, h3⟩

theorem Matches.delim_iff {q : Char} {r : Re} {w : List Char} :
    (Re.cat (.chr q) (.cat r (.chr q))).Matches w ↔ ∃ b, w = q :: b ++ [q] ∧ r.Matches b := by
  constructor
  · intro h
    obtain ⟨u1, u2, rfl, a1, a2⟩ := Matches.cat_inv h
    have := a1.chr_inv; subst this
    obtain ⟨b, u3, rfl, a3, a4⟩ := a2.cat_inv
    have := a4.chr_inv; subst this
    exact ⟨b, rfl, a3⟩
  · rintro ⟨b, rfl, hb⟩
    exact Matches.cat (u := [q]) (.chr q) (Matches.cat hb (.chr q))

theorem Matches.alt_inv {a b : Re} {u : List Char} (h : Matches (.alt a b) u) :
    Matches a u ∨ Matches b u := by
  cases h with
  | altL h => exact .inl h
  | altR h => exact .inr h

theorem Matches.grp_inv {a : Re} {u : List Char} (h : Matches (.grp a) u) : Matches a u := by
  cases h with
  | grp h => exact h

theorem Matches.opt_inv {a : Re} {u : List Char} (h : Matches (.opt a) u) :
    u = [] ∨ Matches a u := by
  cases h with
  | optNone => exact .inl rfl
  | optSome h => exact .inr h

theorem Matches.plus_inv {a : Re} {w : List Char} (h : Matches (.plus a) w) :
    ∃ u v, w = u ++ v ∧ Matches a u ∧ Matches (.star a) v := by
  cases h with
  | plus hu hv => exact ⟨_, _, rfl, hu, hv⟩

theorem Matches.rep_zero_inv {a : Re} {u : List Char} (h : Matches (.rep 0 a) u) : u = [] := by
  cases h; rfl

theorem Matches.rep_succ_inv {a : Re} {n : Nat} {w : List Char} (h : Matches (.rep (n + 1) a) w) :
    ∃ u v, w = u ++ v ∧ Matches a u ∧ Matches (.rep n a) v := by
  cases h with
  | repSucc hu hv => exact ⟨_, _, rfl, hu, hv⟩

theorem Matches.star_inv {a : Re} {w : List Char} (h : Matches (.star a) w) :
    w = [] ∨ ∃ u v, w = u ++ v ∧ Matches a u ∧ Matches (.star a) v := by
  cases h with
  | starNil => exact .inl rfl
  | starCons hu hv => exact .inr ⟨_, _, rfl, hu, hv⟩

theorem Matches.star_of_plus {a : Re} {w : List Char} (h : Matches (.plus a) w) :
    Matches (.star a) w := by
  obtain ⟨u, v, rfl, hu, hv⟩ := h.plus_inv
  exact .starCons hu hv

theorem Matches.star_induction {a : Re} {P : List Char → Prop} (nil : P [])
    (cons : ∀ u v, Matches a u → Matches (.star a) v → P v → P (u ++ v))
    {w : List Char} (h : Matches (.star a) w) : P w := by
  generalize hr : Re.star a = r at h
  induction h with
  | starNil => exact nil
  | @starCons a' u v hu hv _ ihv =>
    cases hr
    exact cons u v hu hv (ihv rfl)
  | _ => cases hr

theorem Matches.star_inv_ne {a : Re} {w : List Char} (h : Matches (.star a) w) :
    w = [] ∨ ∃ u v, w = u ++ v ∧ u ≠ [] ∧ Matches a u ∧ Matches (.star a) v := by
  apply Matches.star_induction _ _ h
  · exact .inl rfl
  · intro u v hu hv ih
    by_cases hne : u = []
    · subst hne
      simpa using ih
    · exact .inr ⟨u, v, rfl, hne, hu, hv⟩

theorem loop_fuel_eq (f : List Char → (List Char → Option β) → Option β)
    (k : List Char → Option β) :
    ∀ (n m : Nat) (s : List Char), s.length < n → s.length < m → loop f k n s = loop f k m s := by
  intro n
  induction n with
  | zero => intro m s h; omega
  | succ n ih =>
    intro m s hn hm
    cases m with
    | zero => omega
    | succ m =>
      simp only [loop]
      congr 2
      funext s'
      split
      · rename_i hlt
        exact ih m s' (by omega) (by omega)
      · rfl

theorem loop_fuel (f : List Char → (List Char → Option β) → Option β)
    (k : List Char → Option β) (n : Nat) (s : List Char) (h : s.length < n) :
    loop f k n s = loop f k (s.length + 1) s :=
  loop_fuel_eq f k n _ s h (Nat.lt_succ_self _)

theorem findSome?_flatMap {α γ : Type} (g : α → List γ) (k : γ → Option β) :
    ∀ l : List α, (l.flatMap g).findSome? k = l.findSome? fun x => (g x).findSome? k
  | [] => rfl
  | a :: l => by
    rw [List.flatMap_cons, List.findSome?_append, findSome?_flatMap g k l, List.findSome?_cons]
    cases (g a).findSome? k <;> rfl

theorem findSome?_congr {α : Type} {k k' : α → Option β} :
    ∀ {l : List α}, (∀ x ∈ l, k x = k' x) → l.findSome? k = l.findSome? k'
  | [], _ => rfl
  | a :: l, h => by
    rw [List.findSome?_cons, List.findSome?_cons, h a List.mem_cons_self,
      findSome?_congr fun x hx => h x (List.mem_cons_of_mem _ hx)]

theorem orElse_eq_or (x y : Option β) : orElse x (fun _ => y) = x.or y := by cases x <;> rfl

/-! `loopR`, `plusR`, `repR`, `charR`: the lists that `loop`, `plusM`, `repM` and a one-character expression search
(`loop_eq`, `plusM_eq`, `repM_eq`, `IsChar.eq_rests`), given the list for the body. -/

def loopR (F : List Char → List (List Char)) : Nat → List Char → List (List Char)
  | 0, _ => []
  | n + 1, s => ((F s).flatMap fun t => if t.length < s.length then loopR F n t else []) ++ [s]

def plusR (F : List Char → List (List Char)) (s : List Char) : List (List Char) :=
  (F s).flatMap fun t => if t.length < s.length then loopR F (t.length + 1) t else [t]

def repR (F : List Char → List (List Char)) : Nat → List Char → List (List Char)
  | 0, s => [s]
  | n + 1, s => (F s).flatMap (repR F n)

def charR (p : Char → Bool) : List Char → List (List Char)
  | c :: t => if p c = true then [t] else []
  | [] => []

def rests : Re → List Char → List (List Char)
  | .eps, s => [s]
  | .chr c, s => charR (· == c) s
  | .esc c, s => charR (· == c) s
  | .cls neg items, s => charR (clsTest neg items) s
  | .cat a b, s => (a.rests s).flatMap b.rests
  | .alt a b, s => a.rests s ++ b.rests s
  | .grp a, s => a.rests s
  | .star a, s => plusR a.rests s ++ [s]
  | .plus a, s => plusR a.rests s
  | .opt a, s => a.rests s ++ [s]
  | .rep n a, s => repR a.rests n s

section
variable {f : List Char → (List Char → Option β) → Option β} {F : List Char → List (List Char)}
  (hf : ∀ s k, f s k = (F s).findSome? k)
include hf

theorem loop_eq (k : List Char → Option β) : ∀ n s, loop f k n s = (loopR F n s).findSome? k
  | 0, _ => rfl
  | n + 1, s => by
    simp only [loop, loopR, hf, orElse_eq_or, List.findSome?_append, findSome?_flatMap,
      List.findSome?_singleton]
    congr 2; funext t; split
    · exact loop_eq k n t
    · rfl

theorem plusM_eq (s : List Char) (k : List Char → Option β) : plusM f s k = (plusR F s).findSome? k := by
  simp only [plusM, plusR, hf, findSome?_flatMap]
  congr 1; funext t; split
  · exact loop_eq hf k _ t
  · exact List.findSome?_singleton.symm

theorem repM_eq (k : List Char → Option β) : ∀ n s, repM f k n s = (repR F n s).findSome? k
  | 0, _ => List.findSome?_singleton.symm
  | n + 1, s => by
    simp only [repM, repR, hf, findSome?_flatMap]
    congr 1; funext t; exact repM_eq k n t

end

theorem IsChar.eq_rests {a : Re} {p : Char → Bool} (ha : IsChar a p) (s : List Char)
    (k : List Char → Option β) : a.m s k = (charR p s).findSome? k := by
  rw [ha]
  cases s with
  | nil => rfl
  | cons c t => simp only [charR]; split <;> simp

theorem m_eq_rests : ∀ (r : Re) (s : List Char) (k : List Char → Option β), r.m s k = (r.rests s).findSome? k
  | .eps, s, k => List.findSome?_singleton.symm
  | .chr c, s, k => (isChar_chr c).eq_rests s k
  | .esc c, s, k => (isChar_esc c).eq_rests s k
  | .cls neg items, s, k => (isChar_cls neg items).eq_rests s k
  | .cat a b, s, k => by
    simp only [Re.m, rests, findSome?_flatMap, m_eq_rests a]
    congr 1; funext t; exact m_eq_rests b t k
  | .alt a b, s, k => by
    simp only [Re.m, rests, orElse_eq_or, List.findSome?_append, m_eq_rests a, m_eq_rests b]
  | .grp a, s, k => by simp only [Re.m, rests, m_eq_rests a]
  | .star a, s, k => by
    simp only [Re.m, rests, orElse_eq_or, List.findSome?_append, List.findSome?_singleton,
      plusM_eq (m_eq_rests a)]
  | .plus a, s, k => by simp only [Re.m, rests, plusM_eq (m_eq_rests a)]
  | .opt a, s, k => by
    simp only [Re.m, rests, orElse_eq_or, List.findSome?_append, List.findSome?_singleton, m_eq_rests a]
  | .rep n a, s, k => by simp only [Re.m, rests, repM_eq (m_eq_rests a)]

def Splits (a : Re) (s t : List Char) : Prop := ∃ u, s = u ++ t ∧ Matches a u

theorem mem_charR {p : Char → Bool} {s t : List Char} : t ∈ charR p s ↔ ∃ c, s = c :: t ∧ p c = true := by
  cases s with
  | nil => simp [charR]
  | cons c s =>
    simp only [charR]
    split
    · next h =>
      simp only [List.mem_singleton, List.cons.injEq]
      exact ⟨fun e => ⟨c, ⟨rfl, e.symm⟩, h⟩, fun ⟨_, ⟨_, e⟩, _⟩ => e.symm⟩
    · next h =>
      simp only [List.not_mem_nil, false_iff, List.cons.injEq]
      rintro ⟨x, ⟨rfl, _⟩, hx⟩; exact h hx

section
variable {a : Re} {F : List Char → List (List Char)} (hF : ∀ s t, t ∈ F s ↔ Splits a s t)
include hF

theorem loopR_sound : ∀ n s t, t ∈ loopR F n s → Splits (star a) s t
  | 0, _, _, h => nomatch h
  | n + 1, s, t, h => by
    simp only [loopR, List.mem_append, List.mem_flatMap, List.mem_singleton] at h
    rcases h with ⟨t', ht', h⟩ | rfl
    · split at h
      · obtain ⟨u, rfl, hu⟩ := (hF _ _).1 ht'
        obtain ⟨v, rfl, hv⟩ := loopR_sound n t' t h
        exact ⟨u ++ v, by simp, .starCons hu hv⟩
      · cases h
    · exact ⟨[], rfl, .starNil⟩

/-- Nothing is lost by asking that an iteration shortens the input: `Matches.star_inv_ne`. -/
theorem loopR_complete : ∀ n s, s.length < n → ∀ t, Splits (star a) s t → t ∈ loopR F n s
  | 0, _, h, _, _ => by omega
  | n + 1, s, hn, t, ⟨w, hs, hw⟩ => by
    simp only [loopR, List.mem_append, List.mem_flatMap, List.mem_singleton]
    rcases hw.star_inv_ne with rfl | ⟨u1, u2, rfl, hne, h1, h2⟩
    · exact .inr hs.symm
    · refine .inl ⟨u2 ++ t, (hF _ _).2 ⟨u1, by simp [hs], h1⟩, ?_⟩
      have hlt : (u2 ++ t).length < s.length := by
        have := List.length_pos_iff.mpr hne
        subst hs; simp only [List.length_append] at *; omega
      rw [if_pos hlt]
      exact loopR_complete n _ (by omega) t ⟨u2, rfl, h2⟩

theorem mem_plusR (s t : List Char) : t ∈ plusR F s ↔ Splits (plus a) s t := by
  simp only [plusR, List.mem_flatMap]
  constructor
  · rintro ⟨t', ht', h⟩
    obtain ⟨u, rfl, hu⟩ := (hF _ _).1 ht'
    split at h
    · obtain ⟨v, rfl, hv⟩ := loopR_sound hF _ t' t h
      exact ⟨u ++ v, by simp, .plus hu hv⟩
    · obtain rfl := List.mem_singleton.1 h
      exact ⟨u, rfl, by simpa using Matches.plus hu .starNil⟩
  · rintro ⟨w, rfl, hw⟩
    obtain ⟨u1, u2, rfl, h1, h2⟩ := hw.plus_inv
    -- after a non-empty first iteration the loop is entered
    have key : ∀ x y, x ++ y = u1 ++ u2 → x ≠ [] → Matches a x → Matches (star a) y →
        ∃ t', t' ∈ F (u1 ++ u2 ++ t) ∧
          t ∈ if t'.length < (u1 ++ u2 ++ t).length then loopR F (t'.length + 1) t' else [t'] := by
      intro x y e hne hx hy
      refine ⟨y ++ t, (hF _ _).2 ⟨x, by rw [← e]; simp, hx⟩, ?_⟩
      have := List.length_pos_iff.mpr hne
      rw [if_pos (by rw [← e]; simp only [List.length_append]; omega)]
      exact loopR_complete hF _ _ (Nat.lt_succ_self _) t ⟨y, rfl, hy⟩
    by_cases hne : u1 = []
    · subst hne
      rcases h2.star_inv_ne with rfl | ⟨x, y, rfl, hx, hxa, hy⟩
      · exact ⟨t, (hF _ _).2 ⟨[], rfl, h1⟩, by simp⟩
      · exact key x y rfl hx hxa hy
    · exact key u1 u2 rfl hne h1 h2

theorem mem_repR : ∀ n s t, t ∈ repR F n s ↔ Splits (rep n a) s t
  | 0, s, t => by
    simp only [repR, List.mem_singleton]
    exact ⟨fun h => ⟨[], h ▸ rfl, .repZero⟩, fun ⟨u, hs, hu⟩ => by rw [hs, hu.rep_zero_inv]; rfl⟩
  | n + 1, s, t => by
    simp only [repR, List.mem_flatMap, hF, mem_repR n]
    constructor
    · rintro ⟨t', ⟨u, rfl, hu⟩, v, rfl, hv⟩
      exact ⟨u ++ v, by simp, .repSucc hu hv⟩
    · rintro ⟨w, rfl, hw⟩
      obtain ⟨u, v, rfl, hu, hv⟩ := hw.rep_succ_inv
      exact ⟨v ++ t, ⟨u, by simp, hu⟩, v, rfl, hv⟩

end

theorem charR_splits {a : Re} {p : Char → Bool} (hp : ∀ u, Matches a u ↔ ∃ c, u = [c] ∧ p c = true)
    (s t : List Char) : t ∈ charR p s ↔ Splits a s t := by
  rw [mem_charR]
  constructor
  · rintro ⟨c, rfl, hc⟩; exact ⟨[c], rfl, (hp _).2 ⟨c, rfl, hc⟩⟩
  · rintro ⟨u, rfl, hu⟩; obtain ⟨c, rfl, hc⟩ := (hp _).1 hu; exact ⟨c, rfl, hc⟩

theorem mem_rests : ∀ (r : Re) (s t : List Char), t ∈ r.rests s ↔ Splits r s t
  | .eps, s, t => by
    simp only [rests, List.mem_singleton]
    exact ⟨fun h => ⟨[], h ▸ rfl, .eps⟩, fun ⟨u, hs, hu⟩ => by rw [hs, hu.eps_inv]; rfl⟩
  | .chr c, s, t => charR_splits (p := (· == c)) (fun u =>
      ⟨fun h => ⟨c, h.chr_inv, beq_self_eq_true c⟩, fun ⟨x, e, hx⟩ => e ▸ beq_iff_eq.mp hx ▸ .chr c⟩) s t
  | .esc c, s, t => charR_splits (p := (· == c)) (fun u =>
      ⟨fun h => ⟨c, h.esc_inv, beq_self_eq_true c⟩, fun ⟨x, e, hx⟩ => e ▸ beq_iff_eq.mp hx ▸ .esc c⟩) s t
  | .cls neg items, s, t => charR_splits (fun u =>
      ⟨fun h => h.cls_inv, fun ⟨x, e, hx⟩ => e ▸ .cls hx⟩) s t
  | .cat a b, s, t => by
    simp only [rests, List.mem_flatMap, mem_rests a, mem_rests b]
    constructor
    · rintro ⟨t', ⟨u, rfl, hu⟩, v, rfl, hv⟩
      exact ⟨u ++ v, by simp, .cat hu hv⟩
    · rintro ⟨w, rfl, hw⟩
      obtain ⟨u, v, rfl, hu, hv⟩ := hw.cat_inv
      exact ⟨v ++ t, ⟨u, by simp, hu⟩, v, rfl, hv⟩
  | .alt a b, s, t => by
    simp only [rests, List.mem_append, mem_rests a, mem_rests b]
    exact ⟨fun h => h.elim (fun ⟨u, e, h⟩ => ⟨u, e, .altL h⟩) fun ⟨u, e, h⟩ => ⟨u, e, .altR h⟩,
      fun ⟨u, e, h⟩ => h.alt_inv.imp (⟨u, e, ·⟩) (⟨u, e, ·⟩)⟩
  | .grp a, s, t => by
    simp only [rests, mem_rests a]
    exact ⟨fun ⟨u, e, h⟩ => ⟨u, e, .grp h⟩, fun ⟨u, e, h⟩ => ⟨u, e, h.grp_inv⟩⟩
  | .star a, s, t => by
    simp only [rests, List.mem_append, List.mem_singleton, mem_plusR (mem_rests a)]
    constructor
    · rintro (⟨u, e, h⟩ | rfl)
      · exact ⟨u, e, h.star_of_plus⟩
      · exact ⟨[], rfl, .starNil⟩
    · rintro ⟨w, e, hw⟩
      rcases hw.star_inv with rfl | ⟨u, v, rfl, hu, hv⟩
      · exact .inr e.symm
      · exact .inl ⟨_, e, .plus hu hv⟩
  | .plus a, s, t => mem_plusR (mem_rests a) s t
  | .opt a, s, t => by
    simp only [rests, List.mem_append, List.mem_singleton, mem_rests a]
    constructor
    · rintro (⟨u, e, h⟩ | rfl)
      · exact ⟨u, e, .optSome h⟩
      · exact ⟨[], rfl, .optNone⟩
    · rintro ⟨w, e, hw⟩
      rcases hw.opt_inv with rfl | h
      · exact .inr e.symm
      · exact .inl ⟨_, e, h⟩
  | .rep n a, s, t => mem_repR (mem_rests a) n s t

theorem m_sound (r : Re) (s : List Char) (k : List Char → Option β) (x : β) (h : r.m s k = some x) :
    ∃ u v, s = u ++ v ∧ Matches r u ∧ k v = some x := by
  rw [m_eq_rests] at h
  obtain ⟨l₁, t, l₂, e, hk, _⟩ := List.findSome?_eq_some_iff.1 h
  obtain ⟨u, rfl, hu⟩ := (mem_rests r s t).1 (by rw [e]; simp)
  exact ⟨u, t, rfl, hu, hk⟩

/-- In particular the fuel of the loops never runs out. -/
theorem m_complete (r : Re) (s : List Char) (k : List Char → Option β) (h : r.m s k = none)
    (u v : List Char) (hs : s = u ++ v) (hu : Matches r u) : k v = none := by
  rw [m_eq_rests, List.findSome?_eq_none_iff] at h
  exact h v ((mem_rests r s v).2 ⟨u, hs, hu⟩)

theorem matchLen_sound {r : Re} {s : List Char} {n : Nat} (h : r.matchLen s = some n) :
    ∃ u v, s = u ++ v ∧ Matches r u ∧ n = u.length := by
  obtain ⟨u, v, rfl, hu, hk⟩ := m_sound r _ _ _ h
  refine ⟨u, v, rfl, hu, ?_⟩
  simp only [List.length_append, Option.some.injEq] at hk
  omega

theorem matchLen_complete {r : Re} {s : List Char} (h : r.matchLen s = none) :
    ∀ u v, s = u ++ v → ¬ Matches r u := by
  intro u v hs hu
  have := m_complete r _ _ h u v hs hu
  simp at this

theorem matchLen_isSome_iff {r : Re} {s : List Char} :
    (r.matchLen s).isSome = true ↔ ∃ u v, s = u ++ v ∧ Matches r u := by
  constructor
  · intro h
    obtain ⟨n, hn⟩ := Option.isSome_iff_exists.mp h
    obtain ⟨u, v, hs, hu, _⟩ := matchLen_sound hn
    exact ⟨u, v, hs, hu⟩
  · rintro ⟨u, v, hs, hu⟩
    cases h : r.matchLen s with
    | none => exact absurd hu (matchLen_complete h u v hs)
    | some n => rfl

theorem matchLen_take {r : Re} {s : List Char} {n : Nat} (h : r.matchLen s = some n) :
    n ≤ s.length ∧ Matches r (s.take n) := by
  obtain ⟨u, v, rfl, hu, rfl⟩ := matchLen_sound h
  simp [hu]

def UniquePrefix (r : Re) : Prop :=
  ∀ u v u' v', u ++ v = u' ++ v' → Matches r u → Matches r u' → u = u'

theorem uniquePrefix_of {r : Re} {f : List Char → Option Nat}
    (h1 : ∀ u v, Matches r u → f (u ++ v) = some u.length) : UniquePrefix r := by
  intro u v u' v' hs hu hu'
  have e1 := h1 u v hu
  have e2 := h1 u' v' hu'
  rw [hs, e2] at e1
  have hl : u'.length = u.length := by simpa using e1
  exact List.append_inj_left hs hl.symm

theorem matchLen_of_unique {r : Re} (hu : UniquePrefix r) {u v : List Char} (h : Matches r u) :
    r.matchLen (u ++ v) = some u.length := by
  cases hm : r.matchLen (u ++ v) with
  | none => exact absurd h (matchLen_complete hm u v rfl)
  | some n =>
    obtain ⟨u', v', hs, hu', rfl⟩ := matchLen_sound hm
    rw [hu u v u' v' hs h hu']

theorem nullable_of_matches {r : Re} {u : List Char} (h : Matches r u) :
    u = [] → r.nullable = true := by
  induction h with
  | eps | starNil | starCons _ _ _ _ | optNone | optSome _ _ | repZero => intro _; rfl
  | chr c | esc c | cls _ => intro h; cases h
  | cat _ _ iha ihb =>
    intro h
    have := List.append_eq_nil_iff.mp h
    simp [nullable, iha this.1, ihb this.2]
  | altL _ ih | altR _ ih => intro h; simp [nullable, ih h]
  | grp _ ih => intro h; simpa [nullable] using ih h
  | plus _ _ iha _ | repSucc _ _ iha _ =>
    intro h
    have := List.append_eq_nil_iff.mp h
    simp [nullable, iha this.1]

theorem not_matches_nil {a : Re} (hn : a.nullable = false) : ¬ Matches a [] := fun h => by
  rw [nullable_of_matches h rfl] at hn; cases hn

theorem matchLen_pos {r : Re} (hr : r.nullable = false) {s : List Char} {n : Nat}
    (h : r.matchLen s = some n) : 0 < n := by
  obtain ⟨u, v, _, hu, rfl⟩ := matchLen_sound h
  cases u with
  | nil => exact absurd hu (not_matches_nil hr)
  | cons c t => simp

/-- For an expression that is not nullable, Go's "`found == ""` is not matched" changes
nothing. -/
theorem find_eq_matchLen {r : Re} (hr : r.nullable = false) (s : List Char) :
    r.find s = r.matchLen s := by
  unfold find
  cases h : r.matchLen s with
  | none => rfl
  | some n =>
    have := matchLen_pos hr h
    cases n with
    | zero => omega
    | succ n => rfl

end Re
end Yae

#print axioms Yae.Re.m_sound
#print axioms Yae.Re.m_complete
#print axioms Yae.Re.loop_fuel
#print axioms Yae.Re.matchLen_of_unique
