/- C15, "contents equal the original", the content tree itself (`Yae/Spec/ConvContent.lean`): with distinct keys
   `Content.norm` is the identity; `Content.Equiv` (equality up to the order of map entries) is an equivalence,
   contains every permutation of an entry list, relates only entry lists with the same keys up to order, and
   preserves `distinctKeys`.
   TRAP: the declarations stand inside `namespace Yae.ConvVal`, so they are not members of `Yae.Content.Equiv` /
   `Yae.ContentEntries`: `h.symm`, `es.append ys` do not resolve; write `Content.Equiv.symm h` with `Yae.ConvVal` open. -/
import Yae.Spec.ConvContent
namespace Yae.ConvVal
open Yae

/-- what `ContentEntries.insert` and `ContentEntries.normInto` amount to when no key repeats -/
def ContentEntries.append : ContentEntries → ContentEntries → ContentEntries
  | .nil, ys => ys
  | .cons t k c es, ys => .cons t k c (ContentEntries.append es ys)

theorem ContentEntries.append_nil : ∀ es : ContentEntries, ContentEntries.append es .nil = es
  | .nil => rfl
  | .cons t k c es => by simp only [ContentEntries.append, ContentEntries.append_nil es]

theorem ContentEntries.append_assoc : ∀ a b c : ContentEntries,
    ContentEntries.append (ContentEntries.append a b) c =
      ContentEntries.append a (ContentEntries.append b c)
  | .nil, _, _ => rfl
  | .cons t k x a, b, c => by simp only [ContentEntries.append, ContentEntries.append_assoc a b c]

theorem ContentEntries.hasKey_append : ∀ (a b : ContentEntries) (t : Kind) (k : String),
    (ContentEntries.append a b).hasKey t k = (a.hasKey t k || b.hasKey t k)
  | .nil, b, t, k => by simp [ContentEntries.append, ContentEntries.hasKey]
  | .cons t' k' c a, b, t, k => by
    simp only [ContentEntries.append, ContentEntries.hasKey, ContentEntries.hasKey_append a b t k,
      Bool.or_assoc]

theorem ContentEntries.insert_of_not_hasKey : ∀ (acc : ContentEntries) (t : Kind) (k : String)
    (c : Content), acc.hasKey t k = false →
    acc.insert t k c = ContentEntries.append acc (.cons t k c .nil)
  | .nil, _, _, _, _ => rfl
  | .cons t' k' c' es, t, k, c, h => by
    simp only [ContentEntries.hasKey, Bool.or_eq_false_iff, Bool.and_eq_false_iff] at h
    have hne : ¬ (t' = t ∧ k' = k) := by
      rintro ⟨rfl, rfl⟩
      rcases h.1 with h1 | h1 <;> simp at h1
    simp only [ContentEntries.insert, if_neg hne, ContentEntries.append,
      ContentEntries.insert_of_not_hasKey es t k c h.2]

mutual
theorem norm_of_distinct : ∀ c : Content, c.distinctKeys = true → c.norm = c
  | .num _, _ | .str _, _ | .bool _, _ | .time _, _ | .absent, _ | .other, _ => rfl
  | .seq xs, h => by
    simp only [Content.distinctKeys] at h
    simp only [Content.norm, normList_of_distinct xs h]
  | .entries es, h => by
    simp only [Content.distinctKeys, Bool.and_eq_true] at h
    simp only [Content.norm]
    rw [normInto_of_distinct es .nil h.1 h.2 (fun _ _ _ => rfl)]
    rfl
  | .fields fs, h => by
    simp only [Content.distinctKeys] at h
    simp only [Content.norm, normFields_of_distinct fs h]
  | .present c, h => by
    simp only [Content.distinctKeys] at h
    simp only [Content.norm, norm_of_distinct c h]
theorem normList_of_distinct : ∀ cs : ContentList, ContentList.distinctKeys cs = true →
    ContentList.norm cs = cs
  | .nil, _ => rfl
  | .cons c cs, h => by
    simp only [ContentList.distinctKeys, Bool.and_eq_true] at h
    simp only [ContentList.norm, norm_of_distinct c h.1, normList_of_distinct cs h.2]
theorem normInto_of_distinct : ∀ (es acc : ContentEntries), es.keysNodup = true →
    ContentEntries.distinctKeys es = true →
    (∀ t k, es.hasKey t k = true → acc.hasKey t k = false) →
    ContentEntries.normInto es acc = ContentEntries.append acc es
  | .nil, acc, _, _, _ => by
    simp only [ContentEntries.normInto, ContentEntries.append_nil]
  | .cons t k c es, acc, hn, hd, hdis => by
    simp only [ContentEntries.keysNodup, Bool.and_eq_true, Bool.not_eq_true'] at hn
    simp only [ContentEntries.distinctKeys, Bool.and_eq_true] at hd
    have hacc : acc.hasKey t k = false := hdis t k (by simp [ContentEntries.hasKey])
    simp only [ContentEntries.normInto, norm_of_distinct c hd.1,
      ContentEntries.insert_of_not_hasKey acc t k c hacc]
    rw [normInto_of_distinct es _ hn.2 hd.2, ContentEntries.append_assoc]
    · rfl
    · intro t' k' hk
      rw [ContentEntries.hasKey_append, hdis t' k' (by simp [ContentEntries.hasKey, hk])]
      cases h : (t == t' && k == k')
      · simp [ContentEntries.hasKey, h]
      · simp only [Bool.and_eq_true, beq_iff_eq] at h
        rw [← h.1, ← h.2, hn.1] at hk
        cases hk
theorem normFields_of_distinct : ∀ fs : ContentFields, ContentFields.distinctKeys fs = true →
    ContentFields.norm fs = fs
  | .nil, _ => rfl
  | .cons n c fs, h => by
    simp only [ContentFields.distinctKeys, Bool.and_eq_true] at h
    simp only [ContentFields.norm, norm_of_distinct c h.1, normFields_of_distinct fs h.2]
end

/-! `≈` (`Content.Equiv`) is a mutual inductive over the four kinds of tree; what is not a plain structural
recursion is proved with its recursor, one motive per kind.  The eighteen minor premises (`equiv_all`,
`Content.Equiv.trans`) stand in the order of the constructors in `Spec/ConvContent.lean`: `num str bool time absent
other present seq entries fields`; `nil cons` of lists; `nil cons swap trans` of entry lists; `nil cons` of field
lists. -/

mutual
theorem Content.Equiv.refl : ∀ c : Content, Content.Equiv c c
  | .num x => .num x | .str s => .str s | .bool b => .bool b | .time t => .time t
  | .absent => .absent | .other => .other
  | .present c => .present (Content.Equiv.refl c)
  | .seq xs => .seq (ContentList.Equiv.refl xs)
  | .entries es => .entries (ContentEntries.Equiv.refl es)
  | .fields fs => .fields (ContentFields.Equiv.refl fs)
theorem ContentList.Equiv.refl : ∀ cs : ContentList, ContentList.Equiv cs cs
  | .nil => .nil
  | .cons c cs => .cons (Content.Equiv.refl c) (ContentList.Equiv.refl cs)
theorem ContentEntries.Equiv.refl : ∀ es : ContentEntries, ContentEntries.Equiv es es
  | .nil => .nil
  | .cons _ _ c es => .cons (Content.Equiv.refl c) (ContentEntries.Equiv.refl es)
theorem ContentFields.Equiv.refl : ∀ fs : ContentFields, ContentFields.Equiv fs fs
  | .nil => .nil
  | .cons _ c fs => .cons (Content.Equiv.refl c) (ContentFields.Equiv.refl fs)
end

def ContentEntries.ofList : List ((Kind × String) × Content) → ContentEntries
  | [] => .nil
  | ((t, k), c) :: es => .cons t k c (ContentEntries.ofList es)

theorem ContentEntries.ofList_toList : ∀ es : ContentEntries,
    ContentEntries.ofList es.toList = es
  | .nil => rfl
  | .cons t k c es => by
    simp only [ContentEntries.toList, ContentEntries.ofList, ContentEntries.ofList_toList es]

theorem ContentEntries.toList_ofList : ∀ l : List ((Kind × String) × Content),
    (ContentEntries.ofList l).toList = l
  | [] => rfl
  | ((t, k), c) :: es => by
    simp only [ContentEntries.toList, ContentEntries.ofList, ContentEntries.toList_ofList es]

theorem ContentEntries.Equiv.of_perm_list {l1 l2 : List ((Kind × String) × Content)}
    (h : l1.Perm l2) :
    ContentEntries.Equiv (ContentEntries.ofList l1) (ContentEntries.ofList l2) := by
  induction h with
  | nil => exact .nil
  | cons x _ ih =>
    obtain ⟨⟨t, k⟩, c⟩ := x
    exact .cons (Content.Equiv.refl c) ih
  | swap x y l =>
    obtain ⟨⟨t, k⟩, c⟩ := x
    obtain ⟨⟨t', k'⟩, c'⟩ := y
    exact .swap
  | trans _ _ ih1 ih2 => exact .trans ih1 ih2

theorem ContentEntries.Equiv.of_perm {es fs : ContentEntries} (h : es.toList.Perm fs.toList) :
    ContentEntries.Equiv es fs := by
  have := ContentEntries.Equiv.of_perm_list h
  rwa [ContentEntries.ofList_toList, ContentEntries.ofList_toList] at this

theorem hasKey_eq_true_iff : ∀ (es : ContentEntries) (t : Kind) (k : String),
    es.hasKey t k = true ↔ (t, k) ∈ es.toList.map Prod.fst
  | .nil, t, k => by simp [ContentEntries.hasKey, ContentEntries.toList]
  | .cons t' k' c es, t, k => by
    simp only [ContentEntries.hasKey, ContentEntries.toList, List.map_cons, List.mem_cons,
      Bool.or_eq_true, Bool.and_eq_true, beq_iff_eq, hasKey_eq_true_iff es t k, Prod.mk.injEq,
      @eq_comm _ t', @eq_comm _ k']

theorem keysNodup_eq_true_iff : ∀ es : ContentEntries,
    es.keysNodup = true ↔ (es.toList.map Prod.fst).Nodup
  | .nil => by simp [ContentEntries.keysNodup, ContentEntries.toList]
  | .cons t k c es => by
    simp only [ContentEntries.keysNodup, ContentEntries.toList, List.map_cons, List.nodup_cons,
      Bool.and_eq_true, Bool.not_eq_true', keysNodup_eq_true_iff es]
    rw [← Bool.not_eq_true, hasKey_eq_true_iff]

/-- `[]` for every shape but an entry list: lets `MotC` carry the statement about keys through `entries` -/
private def keysOf : Content → List (Kind × String)
  | .entries es => es.toList.map Prod.fst
  | _ => []

/-- what `≈` preserves, for the recursor.  The first component is the relation REVERSED: built up alongside, it
is symmetry; the `trans` constructor of `ContentEntries.Equiv` is answered by `trans` with the parts swapped. -/
private def MotC (c d : Content) : Prop :=
  Content.Equiv d c ∧ c.distinctKeys = d.distinctKeys ∧ (keysOf c).Perm (keysOf d)

theorem keysNodup_perm {es fs : ContentEntries}
    (h : (es.toList.map Prod.fst).Perm (fs.toList.map Prod.fst)) :
    es.keysNodup = fs.keysNodup := by
  rw [Bool.eq_iff_iff, keysNodup_eq_true_iff, keysNodup_eq_true_iff]
  exact h.nodup_iff

private theorem equiv_all {c d : Content} (h : Content.Equiv c d) : MotC c d :=
  @Content.Equiv.rec (motive_1 := fun c d _ => MotC c d)
    (motive_2 := fun cs ds _ =>
      ContentList.Equiv ds cs ∧ ContentList.distinctKeys cs = ContentList.distinctKeys ds)
    (motive_3 := fun es fs _ =>
      ContentEntries.Equiv fs es ∧ (es.toList.map Prod.fst).Perm (fs.toList.map Prod.fst) ∧
        ContentEntries.distinctKeys es = ContentEntries.distinctKeys fs)
    (motive_4 := fun fs gs _ =>
      ContentFields.Equiv gs fs ∧ ContentFields.distinctKeys fs = ContentFields.distinctKeys gs)
    (fun x => ⟨.num x, rfl, .nil⟩) (fun s => ⟨.str s, rfl, .nil⟩) (fun b => ⟨.bool b, rfl, .nil⟩)
    (fun t => ⟨.time t, rfl, .nil⟩) ⟨.absent, rfl, .nil⟩ ⟨.other, rfl, .nil⟩
    (fun _ ih => ⟨.present ih.1, by simp only [Content.distinctKeys, ih.2.1], .nil⟩)
    (fun _ ih => ⟨.seq ih.1, by simp only [Content.distinctKeys, ih.2], .nil⟩)
    (fun _ ih => ⟨.entries ih.1, by
      simp only [Content.distinctKeys, ih.2.2, keysNodup_perm ih.2.1], ih.2.1⟩)
    (fun _ ih => ⟨.fields ih.1, by simp only [Content.distinctKeys, ih.2], .nil⟩)
    ⟨.nil, rfl⟩
    (fun _ _ ih1 ih2 => ⟨.cons ih1.1 ih2.1, by
      simp only [ContentList.distinctKeys, ih1.2.1, ih2.2]⟩)
    ⟨.nil, List.Perm.refl _, rfl⟩
    (fun _ _ ih1 ih2 => ⟨.cons ih1.1 ih2.1, by
      simp only [ContentEntries.toList, List.map_cons]; exact ih2.2.1.cons _, by
      simp only [ContentEntries.distinctKeys, ih1.2.1, ih2.2.2]⟩)
    (fun {t k c t' k' c' es} => ⟨.swap, by
      simp only [ContentEntries.toList, List.map_cons]; exact List.Perm.swap _ _ _, by
      simp only [ContentEntries.distinctKeys]
      cases c.distinctKeys <;> cases c'.distinctKeys <;> rfl⟩)
    (fun _ _ ih1 ih2 => ⟨.trans ih2.1 ih1.1, ih1.2.1.trans ih2.2.1, ih1.2.2.trans ih2.2.2⟩)
    ⟨.nil, rfl⟩
    (fun _ _ ih1 ih2 => ⟨.cons ih1.1 ih2.1, by
      simp only [ContentFields.distinctKeys, ih1.2.1, ih2.2]⟩) c d h

theorem Content.Equiv.symm {c d : Content} (h : Content.Equiv c d) : Content.Equiv d c :=
  (equiv_all h).1

theorem Content.Equiv.distinctKeys_eq {c d : Content} (h : Content.Equiv c d) :
    c.distinctKeys = d.distinctKeys :=
  (equiv_all h).2.1

theorem ContentEntries.Equiv.keys_perm {es fs : ContentEntries} (h : ContentEntries.Equiv es fs) :
    (es.toList.map Prod.fst).Perm (fs.toList.map Prod.fst) :=
  (equiv_all (.entries h)).2.2

/-- By the recursor on the first derivation, the motives quantifying over the second.  Entry lists need no
motive: `ContentEntries.Equiv` has `trans` as a constructor, which the `entries` case uses directly. -/
theorem Content.Equiv.trans {c d e : Content} (h1 : Content.Equiv c d) (h2 : Content.Equiv d e) :
    Content.Equiv c e :=
  @Content.Equiv.rec (motive_1 := fun c d _ => ∀ e, Content.Equiv d e → Content.Equiv c e)
    (motive_2 := fun cs ds _ => ∀ es, ContentList.Equiv ds es → ContentList.Equiv cs es)
    (motive_3 := fun _ _ _ => True)
    (motive_4 := fun fs gs _ => ∀ hs, ContentFields.Equiv gs hs → ContentFields.Equiv fs hs)
    (fun _ _ h => h) (fun _ _ h => h) (fun _ _ h => h) (fun _ _ h => h) (fun _ h => h)
    (fun _ h => h)
    (fun _ ih e h => by cases h with | present h' => exact .present (ih _ h'))
    (fun _ ih e h => by cases h with | seq h' => exact .seq (ih _ h'))
    (fun he _ e h => by cases h with | entries h' => exact .entries (.trans he h'))
    (fun _ ih e h => by cases h with | fields h' => exact .fields (ih _ h'))
    (fun _ h => h)
    (fun _ _ ihc ihl es h => by cases h with | cons h1 h2 => exact .cons (ihc _ h1) (ihl _ h2))
    trivial (fun _ _ _ _ => trivial) trivial (fun _ _ _ _ => trivial)
    (fun _ h => h)
    (fun _ _ ihc ihl es h => by cases h with | cons h1 h2 => exact .cons (ihc _ h1) (ihl _ h2))
    c d h1 e h2

end Yae.ConvVal
