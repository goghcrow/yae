/-
  C03, checked programs: concrete programs.
  * `D20`: the environment binds, inside an object, a function VALUE with the lazy flag, and the program calls it
    dynamically, `h.f(1)`: machine and evaluator differ.  `NoLazyEnv` and `DynStrict` fail, the rest holds.
  * `Ex`: `[o.a, 2][1] + 2`, for which all hypotheses of the end-to-end theorem hold.
  * `Deep`: `!!…!true` (13 negations): a checked program whose `W`-bound exceeds the fuel `runVm` passes.
-/
import Yae.Proofs.VmCheckedKinds
import Yae.Proofs.TypingPolyOK
import Yae.Proofs.SoundnessExample2
namespace Yae.VmChk.D20
open Yae Yae.Vm Yae.VmSim

def p0 : Pos := Pos.unknown
def lzTy : Ty := .fn "lz" (.cons .num .nil) .num
/-- a lazy host function as a first-class value: it forces its only argument -/
def lzVal : Val := .fn lzTy (.host "lz" (.force [0])) true
def hTy : Ty := .obj (.cons "f" lzTy .nil)
def hVal : Val := .obj hTy (.cons lzVal .nil)
def Γ : TEnv := ⟨[("h", hTy)], [], reservedWords⟩
def ρ : REnv := ⟨[("h", hVal)], [], {}⟩

/-- `h.f(1)` as parsed -/
def prog : Expr :=
  .call p0 0 (.member p0 0 (.ident p0 "h") "f" p0 none 0) (.cons (.num p0 1) .nil) none "" 0
def prog' : Expr :=
  .call p0 0 (.member p0 0 (.ident p0 "h") "f" p0 (some hTy) 0) (.cons (.num p0 1) .nil)
    (some lzTy) "" (-1)

/-- `LOAD h; OBJ_LOAD f; CONST 1; DYNAMIC_CALL 1; RETURN` -/
def code : Code := #[3, 0, 0, 45, 0, 1, 2, 0, 2, 52, 1, 1]
def pool : Pool := #[.name "h", .name "f", .val (.num 1)]

theorem funsOK : Sound.FunsOK Γ.funs := fun d hd => by cases hd

theorem envOK : Sound.EnvOK Γ ρ := Sound.envOK_single (by decide) (by decide) (by decide)

theorem inferred (ctr : Nat) :
    inferFun ctr "lz" (.cons .num .nil) .num (.cons .num .nil) = .ok (.cons .num .nil, .num) := by
  rw [PolyOK.sigOK_inferFun (by decide) (by decide)]
  rfl

theorem checkedCallee : check Γ 0 (.member p0 0 (.ident p0 "h") "f" p0 none 0) =
    .ok (lzTy, .member p0 0 (.ident p0 "h") "f" p0 (some hTy) 0, 0) := by rfl

theorem checked : check Γ 0 prog = .ok (.num, prog', 2) := by
  have hn : check Γ 0 (.num p0 1) = .ok (.num, .num p0 1, 0) := rfl
  rw [prog, check]
  simp only [checkArgs, hn, Yae.CR.ok_bind, Yae.CR.pure_eq, checkedCallee, lzTy, inferred, liftU]
  rfl

theorem compiled : compile Γ.funs prog' = .ok (code, pool) := by
  simp only [compile, prog', compileE, compileList, Expr.depth, depthList, Nat.reduceAdd,
    Nat.max_def, Nat.reduceLeDiff, ↓reduceIte, beq_self_eq_true]
  rfl

theorem annotated : wa Γ.funs prog' = true := by decide

/-- only the lazy callee is in the way -/
theorem notNoLazy : ¬ NoLazyEnv ρ := by decide

theorem calleeEval : eval 2 false ρ (.member p0 0 (.ident p0 "h") "f" p0 (some hTy) 0) [] =
    (.ok lzVal, []) := by
  have hl : ρ.lookupVar "h" = some hVal := rfl
  simp only [eval, hl, hVal, hTy, objGet?, recDbg, Option.bind]
  rfl

theorem notDynStrict : ¬ DynStrict ρ prog' := by
  intro h
  simp only [prog', DynStrict] at h
  exact (h.1 trivial).2 _ _ _ _ calleeEval _ _ rfl

theorem depth_prog' : prog'.depth = 3 := by decide

/-- the evaluator builds a thunk for the argument, logs the host call and forces the thunk -/
theorem evaluated :
    eval (prog'.depth + 1) false ρ prog' [] = (.ok (.num 1), [.call "lz" []]) := by
  have hl : ρ.lookupVar "h" = some hVal := rfl
  rw [depth_prog']
  simp only [prog', eval, hl, hVal, hTy, lzVal, lzTy, callFun, forceSeq,
    objGet?, FieldList.indexOf?, ValList.get?, ExprList.get?, recDbg, Option.bind,
    beq_self_eq_true, if_true, Bool.false_eq_true, if_false, Nat.reduceAdd,
    Sound.Example.EvalM.pure_bind']
  rfl

theorem run_dyn_lazy {ρ : REnv} {P : Pool} {C : Code} {pc nx : Nat} {st : List Slot}
    {l : List Event} {F : Nat} {argc : Nat} {ty : Ty} {ref : FunRef} {args : List Val}
    {st' : List Slot} (hd : decodeAt C pc = some (.dyn argc, nx))
    (hpop : popN argc st [] l = (.ok (args, .val (.fn ty ref true) :: st'), l)) :
    run (F+1) ρ P C pc st l = (.error (.stuck "dynamic call of a lazy function"), l) := by
  rw [run]; simp only [hd]; rw [EvalM.bind_ok hpop]; simp [EvalM.bind_apply]

/-- the machine evaluates the argument, then refuses the lazy callee (in Go, defect D20: it goes
on and hands the VALUE to a function that expects a thunk) -/
theorem ran (F : Nat) (hF : 5 ≤ F) :
    run F ρ pool code 0 [] [] = (.error (.stuck "dynamic call of a lazy function"), []) := by
  obtain ⟨F0, rfl⟩ : ∃ F0, F = F0 + 5 := ⟨F - 5, by omega⟩
  rw [run_load (i := 0) (x := "h") (nx := 3) rfl rfl,
    show (ρ.lookupVar "h").getD .nil = hVal from rfl, hVal,
    run_objload (i := 1) (f := "f") (nx := 6) rfl rfl]
  simp only [hTy, objGet?, FieldList.indexOf?, ValList.get?, Option.bind, if_true]
  rw [run_const_val (i := 2) (v := .num 1) (nx := 9) rfl rfl]
  exact run_dyn_lazy (argc := 1) (nx := 11) (args := [.num 1]) (st' := []) rfl rfl

end Yae.VmChk.D20

namespace Yae.VmChk.Ex
open Yae Yae.Vm Yae.VmSim Yae.Sound.Example

/-- `[o.a, 2][1] + 2` as parsed, in the environment of `Yae.Sound.Example` (all built-ins
registered, `o : {a: num, b: str}` bound to a value whose own type lists `b` first) -/
def prog : Expr :=
  .call p0 0 (.ident p0 "+")
    (.cons (.subscript p0 0
        (.list p0 (.cons (.member p0 0 (.ident p0 "o") "a" p0 none 0) (.cons (.num p0 2) .nil)) none)
        (.num p0 one) none)
      (.cons (.num p0 2) .nil)) none "" 0

def prog' : Expr :=
  .call p0 0 (.ident p0 "+")
    (.cons (.subscript p0 0
        (.list p0 (.cons (.member p0 0 (.ident p0 "o") "a" p0 (some objT) 0) (.cons (.num p0 2) .nil))
          (some (.list .num)))
        (.num p0 one) (some (.list .num)))
      (.cons (.num p0 2) .nil))
    (some (.fn "+" (.cons .num (.cons .num .nil)) .num)) "λ + (num, num)" (-1)

theorem checked : check Γ 0 prog = .ok (.num, prog', 0) := check_plus plusMono rfl rfl rfl ..

theorem noLazy : NoLazyEnv ρ := by decide

/-- `.builtin 2` is the position of `ADD_NUM_NUM` in `builtins` -/
theorem compiled : ∃ code pool, compile Γ.funs prog' = .ok (code, pool) := by
  have hr : resolveStatic Γ.funs "λ + (num, num)" (-1) =
      some ⟨.fn "+" (.cons .num (.cons .num .nil)) .num, .builtin 2, false⟩ := resolved
  have hb : Option.map (fun x => x.id) builtins[2]? = some BId.ADD_NUM_NUM := rfl
  have hne : ("λ + (num, num)" == "") = false := by decide
  simp only [compile, prog', compileE, compileList, Expr.depth, depthList, Nat.reduceAdd,
    Nat.max_def, Nat.reduceLeDiff, ↓reduceIte, hr, hb, hne, Bool.false_eq_true]
  exact ⟨_, _, rfl⟩

end Yae.VmChk.Ex

/-! `W` doubles at every call argument (it may be compiled in line or as a deferred body, run by a forcing), the
code grows by one byte.  Thirteen negations: 17 bytes of code, `runVm` passes `1000 * (17 + 1)` = 18 000 units of fuel,
`W + 1 = 6 * 2 ^ 13 - 4 = 49 148`. -/

namespace Yae.VmChk.Deep
open Yae Yae.Vm Yae.VmSim Yae.Sound.Example

/-- `!!…!true`, `n` negations, as parsed -/
def nots : Nat → Expr
  | 0 => .bool p0 true
  | n+1 => .call p0 0 (.ident p0 "!") (.cons (nots n) .nil) none "" 0

def nots' : Nat → Expr
  | 0 => .bool p0 true
  | n+1 => .call p0 0 (.ident p0 "!") (.cons (nots' n) .nil)
      (some (.fn "!" (.cons .bool .nil) .bool)) "λ ! (bool)" (-1)

theorem notMono : lookupMono Γ.funs "λ ! (bool)" =
    some ⟨.fn "!" (.cons .bool .nil) .bool, .builtin 31, false⟩ :=
  (funs_eq ▸ builtin_not : lookupMono funs "λ ! (bool)" = some builtinNot)

/-- Stated about a variable environment: with the table of built-ins in the statement, the kernel unfolds it
at every step. -/
theorem check_nots {Γ : TEnv} (h : lookupMono Γ.funs "λ ! (bool)" =
    some ⟨.fn "!" (.cons .bool .nil) .bool, .builtin 31, false⟩) :
    ∀ n, check Γ 0 (nots n) = .ok (.bool, nots' n, 0)
  | 0 => rfl
  | n+1 =>
    check_call_mono (checkArgs_cons (check_nots h n) checkArgs_nil) (by decide +kernel) h rfl rfl rfl ..

theorem checked : check Γ 0 (nots 13) = .ok (.bool, nots' 13, 0) := check_nots notMono 13

theorem W_nots' : ∀ n, W (nots' n) + 5 = 6 * 2 ^ n
  | 0 => rfl
  | n+1 => by
    have := W_nots' n
    simp only [nots', W, WL]
    omega

theorem depth_nots' : ∀ n, (nots' n).depth = n + 1
  | 0 => rfl
  | n+1 => by simp [nots', Expr.depth, depthList, depth_nots' n]

def code13 : Code := #[2, 0, 0, 55, 55, 55, 55, 55, 55, 55, 55, 55, 55, 55, 55, 55, 1]
def pool13 : Pool := #[.val (.bool true)]

theorem compiled : compile Γ.funs (nots' 13) = .ok (code13, pool13) := by
  have hr := resolveStatic_mono notMono
  have hb : Option.map (fun x => x.id) builtins[31]? = some BId.LOGIC_NOT_BOOL := rfl
  have hne : ("λ ! (bool)" == "") = false := by decide
  unfold compile
  rw [depth_nots']
  simp only [nots', compileE, hr, hb, hne,
    Bool.false_eq_true, ↓reduceIte, Nat.reduceAdd]
  rfl

theorem exceeds : 1000 * (totalCodeSize code13 pool13 + 1) < W (nots' 13) + 1 := by
  have := W_nots' 13
  have h : totalCodeSize code13 pool13 = 17 := by decide
  rw [h]; omega

end Yae.VmChk.Deep
