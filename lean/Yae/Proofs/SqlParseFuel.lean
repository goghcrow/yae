/-
  Fuel of the reference SQL reader's parser (`Yae/Model/SqlRead.lean`).  One induction (`Yae.SqlParse.low_all`): what a parser
  function returns with SOME fuel it returns with every fuel from a bound linear in the number of tokens on,
  and the rest it leaves is no longer than its input.  `parseOr_fuel_ok`: at `parseFuel`, the fuel `readSql` uses.
-/
import Yae.Model.SqlRead
namespace Yae.SqlParse
open Yae Yae.Sql

/-- results of one parser function on one input with two fuels -/
def Run {α : Type} (n : Nat) (a a' : Option (α × List Tok)) : Prop :=
  ∀ p, a = some p → p.2.length ≤ n ∧ a' = some p

theorem Run.none {α : Type} {n : Nat} {a' : Option (α × List Tok)} : Run n none a' := fun _ h => nomatch h

theorem Run.pure {α : Type} (x : α) (ts : List Tok) : Run ts.length (some (x, ts)) (some (x, ts)) :=
  fun _ h => ⟨by cases h; exact Nat.le_refl _, h⟩

theorem Run.mono {α : Type} {n m : Nat} {a a' : Option (α × List Tok)} (h : Run n a a') (hn : n ≤ m) :
    Run m a a' := fun p hp => ⟨Nat.le_trans (h p hp).1 hn, (h p hp).2⟩

theorem Run.bind {α β : Type} {n1 n : Nat} {a a' : Option (α × List Tok)}
    {k k' : α × List Tok → Option (β × List Tok)} (ha : Run n1 a a')
    (hk : ∀ v, v.2.length ≤ n1 → Run n (k v) (k' v)) : Run n (a >>= k) (a' >>= k') := by
  intro p h
  obtain ⟨v, hv, hp⟩ := Option.bind_eq_some_iff.1 h
  obtain ⟨hl, hv'⟩ := ha v hv
  rw [hv']
  exact hk v hl p hp

/-- The eight statements of the induction: `g` any fuel, `f` a fuel above the bound.  Every call spends one unit of
fuel, so a function that calls another on an input that is not shorter needs a constant one above the callee's:
`parseItems` (5) → `parseOr` (4) → `parseAnd`, `parseOrRest` (3) → `parseNot`, `parseAndRest` (2) → `parsePrimary`,
`parsePredRest` (1).  A call made after a token is consumed may go to any of them (`parsePrimary` to `parseItems`
after `(`): the 8 per token, the factor of `parseFuel`, covers the climb from 1 back to 5 and the unit of the call. -/
structure Low (g f : Nat) : Prop where
  or_ : ∀ ts, 8 * ts.length + 4 ≤ f → Run ts.length (parseOr g ts) (parseOr f ts)
  orRest : ∀ x ts, 8 * ts.length + 3 ≤ f → Run ts.length (parseOrRest g x ts) (parseOrRest f x ts)
  and_ : ∀ ts, 8 * ts.length + 3 ≤ f → Run ts.length (parseAnd g ts) (parseAnd f ts)
  andRest : ∀ x ts, 8 * ts.length + 2 ≤ f → Run ts.length (parseAndRest g x ts) (parseAndRest f x ts)
  not_ : ∀ ts, 8 * ts.length + 2 ≤ f → Run ts.length (parseNot g ts) (parseNot f ts)
  predRest : ∀ x ts, 8 * ts.length + 1 ≤ f → Run ts.length (parsePredRest g x ts) (parsePredRest f x ts)
  items : ∀ ts, 8 * ts.length + 5 ≤ f → Run ts.length (parseItems g ts) (parseItems f ts)
  primary : ∀ ts, 8 * ts.length + 1 ≤ f → Run ts.length (parsePrimary g ts) (parsePrimary f ts)

theorem low_all : ∀ g f, Low g f
  | 0, _ => by constructor <;> intros <;> exact Run.none
  | _+1, 0 => by constructor <;> intros <;> omega
  | g+1, f+1 => by
    have ih := low_all g f
    constructor
    · intro ts hf
      simp only [parseOr]
      exact (ih.and_ ts (by omega)).bind fun v hv =>
        (ih.orRest _ _ (by omega)).mono hv
    · intro x ts hf
      simp only [parseOrRest]
      split
      · simp only [List.length_cons] at hf ⊢
        exact (ih.and_ _ (by omega)).bind fun v hv =>
          (ih.orRest _ _ (by omega)).mono (by omega)
      · exact Run.pure x ts
    · intro ts hf
      simp only [parseAnd]
      exact (ih.not_ ts (by omega)).bind fun v hv =>
        (ih.andRest _ _ (by omega)).mono hv
    · intro x ts hf
      simp only [parseAndRest]
      split
      · simp only [List.length_cons] at hf ⊢
        exact (ih.not_ _ (by omega)).bind fun v hv =>
          (ih.andRest _ _ (by omega)).mono (by omega)
      · exact Run.pure x ts
    · intro ts hf
      simp only [parseNot]
      split
      · simp only [List.length_cons] at hf ⊢
        exact (ih.not_ _ (by omega)).bind fun v hv => (Run.pure _ _).mono (by omega)
      · exact (ih.primary ts (by omega)).bind fun v hv =>
          (ih.predRest _ _ (by omega)).mono hv
    · intro x ts hf
      simp only [parsePredRest]
      split
      · split
        · simp only [List.length_cons] at hf ⊢
          exact (ih.primary _ (by omega)).bind fun v hv =>
            (ih.predRest _ _ (by omega)).mono (by omega)
        · exact Run.pure x _
      · simp only [List.length_cons] at hf ⊢
        exact (ih.items _ (by omega)).bind fun v hv =>
          (ih.predRest _ _ (by omega)).mono (by omega)
      · simp only [List.length_cons] at hf ⊢
        exact (ih.primary _ (by omega)).bind fun v hv =>
          (ih.predRest _ _ (by omega)).mono (by omega)
      · simp only [List.length_cons] at hf ⊢
        refine (ih.primary _ (by omega)).bind fun ⟨lo, ts1⟩ hv => ?_
        split
        · rename_i e
          subst e
          simp only [List.length_cons] at hv
          exact (ih.primary _ (by omega)).bind fun w hw =>
            (ih.predRest _ _ (by omega)).mono (by omega)
        · exact Run.none
      · simp only [List.length_cons] at hf ⊢
        exact (ih.predRest _ _ (by omega)).mono (by omega)
      · exact Run.pure x ts
    · intro ts hf
      simp only [parseItems]
      refine (ih.or_ ts (by omega)).bind fun ⟨x, ts1⟩ hv => ?_
      split
      · rename_i e
        subst e
        simp only [List.length_cons] at hv
        exact (Run.pure _ _).mono (by omega)
      · rename_i e
        subst e
        simp only [List.length_cons] at hv
        exact (ih.items _ (by omega)).bind fun w hw => (Run.pure _ _).mono (by omega)
      · exact Run.none
    · intro ts hf
      simp only [parsePrimary]
      split
      · exact (Run.pure _ _).mono (Nat.le_succ _)
      · exact (Run.pure _ _).mono (Nat.le_succ _)
      · exact (Run.pure _ _).mono (Nat.le_succ _)
      · exact (Run.pure _ _).mono (by simp only [List.length_cons]; omega)
      · simp only [List.length_cons] at hf ⊢
        refine (ih.items _ (by omega)).bind fun ⟨xs, ts1⟩ hv => ?_
        split <;> exact (Run.pure _ _).mono (by omega)
      · exact Run.none

/-- above the bound two fuels agree on failures too (`Run` speaks of the successes of its first fuel only) -/
theorem Run.eq {α : Type} {P : Nat → Option (α × List Tok)} {n b : Nat}
    (h : ∀ g f, b ≤ f → Run n (P g) (P f)) {f g : Nat} (hb : b ≤ f) (hg : f ≤ g) : P g = P f := by
  cases hG : P g with
  | some p => exact ((h g f hb p hG).2).symm
  | none =>
    cases hF : P f with
    | none => rfl
    | some p => exact hG.symm.trans (h f g (Nat.le_trans hb hg) p hF).2

theorem parseOr_length {f ts r ts'} (h : parseOr f ts = some (r, ts')) :
    ts'.length ≤ ts.length := ((low_all f _).or_ _ (Nat.le_refl _) _ h).1
theorem parseOrRest_length {f x ts r ts'} (h : parseOrRest f x ts = some (r, ts')) :
    ts'.length ≤ ts.length := ((low_all f _).orRest _ _ (Nat.le_refl _) _ h).1
theorem parseAnd_length {f ts r ts'} (h : parseAnd f ts = some (r, ts')) :
    ts'.length ≤ ts.length := ((low_all f _).and_ _ (Nat.le_refl _) _ h).1
theorem parseAndRest_length {f x ts r ts'} (h : parseAndRest f x ts = some (r, ts')) :
    ts'.length ≤ ts.length := ((low_all f _).andRest _ _ (Nat.le_refl _) _ h).1
theorem parseNot_length {f ts r ts'} (h : parseNot f ts = some (r, ts')) :
    ts'.length ≤ ts.length := ((low_all f _).not_ _ (Nat.le_refl _) _ h).1
theorem parsePredRest_length {f x ts r ts'} (h : parsePredRest f x ts = some (r, ts')) :
    ts'.length ≤ ts.length := ((low_all f _).predRest _ _ (Nat.le_refl _) _ h).1
theorem parseItems_length {f ts r ts'} (h : parseItems f ts = some (r, ts')) :
    ts'.length ≤ ts.length := ((low_all f _).items _ (Nat.le_refl _) _ h).1
theorem parsePrimary_length {f ts r ts'} (h : parsePrimary f ts = some (r, ts')) :
    ts'.length ≤ ts.length := ((low_all f _).primary _ (Nat.le_refl _) _ h).1

theorem parseOr_fuel {f g ts} (hb : 8 * ts.length + 4 ≤ f) (hg : f ≤ g) :
    parseOr g ts = parseOr f ts := Run.eq (fun g f => (low_all g f).or_ ts) hb hg
theorem parseOrRest_fuel {f g x ts} (hb : 8 * ts.length + 3 ≤ f) (hg : f ≤ g) :
    parseOrRest g x ts = parseOrRest f x ts := Run.eq (fun g f => (low_all g f).orRest x ts) hb hg
theorem parseAnd_fuel {f g ts} (hb : 8 * ts.length + 3 ≤ f) (hg : f ≤ g) :
    parseAnd g ts = parseAnd f ts := Run.eq (fun g f => (low_all g f).and_ ts) hb hg
theorem parseAndRest_fuel {f g x ts} (hb : 8 * ts.length + 2 ≤ f) (hg : f ≤ g) :
    parseAndRest g x ts = parseAndRest f x ts := Run.eq (fun g f => (low_all g f).andRest x ts) hb hg
theorem parseNot_fuel {f g ts} (hb : 8 * ts.length + 2 ≤ f) (hg : f ≤ g) :
    parseNot g ts = parseNot f ts := Run.eq (fun g f => (low_all g f).not_ ts) hb hg
theorem parsePredRest_fuel {f g x ts} (hb : 8 * ts.length + 1 ≤ f) (hg : f ≤ g) :
    parsePredRest g x ts = parsePredRest f x ts := Run.eq (fun g f => (low_all g f).predRest x ts) hb hg
theorem parseItems_fuel {f g ts} (hb : 8 * ts.length + 5 ≤ f) (hg : f ≤ g) :
    parseItems g ts = parseItems f ts := Run.eq (fun g f => (low_all g f).items ts) hb hg
theorem parsePrimary_fuel {f g ts} (hb : 8 * ts.length + 1 ≤ f) (hg : f ≤ g) :
    parsePrimary g ts = parsePrimary f ts := Run.eq (fun g f => (low_all g f).primary ts) hb hg

theorem parseOr_fuel_ok (ts : List Tok) (r : SqlTree × List Tok)
    (h : ∃ f0, ∀ f, f0 ≤ f → parseOr f ts = some r) : parseOr (parseFuel ts) ts = some r := by
  obtain ⟨f0, h⟩ := h
  exact ((low_all f0 _).or_ ts (by unfold parseFuel; omega) r (h f0 (Nat.le_refl _))).2

end Yae.SqlParse

#print axioms Yae.SqlParse.parseOr_fuel_ok
