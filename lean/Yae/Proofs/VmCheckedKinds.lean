/-
  C03, checked programs: the hypothesis `KA` (`C03.KindsAgree`) of the simulation theorem for the tree the
  checker returns (`ck_ka`: from `CK` of `VmCheckedAnn`, an environment that fits the typing environment, and
  `DynStrict`; `noLazy_dynStrict`: `NoLazyEnv` gives `DynStrict`).

  Subscripts: by type soundness (C01) the operand evaluates to a value of its static list / map type, which
  is the annotation.

  Dynamic calls: the machine refuses `DYNAMIC_CALL` of a lazy function value (in Go: it passes evaluated
  arguments where the function expects thunks, defect D20), the evaluator builds thunks.  The two agree on
  programs in which no lazy function value ever reaches the callee position of a dynamic call
  (`DynStrict ρ e`, the part of `KA` that type soundness does not give).  Function values are not created
  by evaluation (literals, built-ins and the host behaviours of the model only pass them on), so it is
  enough that the environment holds none, at any depth inside a value (`NoLazyEnv`, decidable; `eval_noLazy`, for
  any expression, fuel and log, with or without debug recording; no typing is needed).
-/
import Yae.Proofs.VmCheckedAnn
import Yae.Proofs.EvalWalk
namespace Yae.VmChk
open Yae Yae.VmSim

mutual
def noLazy : Val → Bool
  | .fn _ _ isLazy => !isLazy
  | .list _ vs => noLazyL vs
  | .map _ es => noLazyE es
  | .obj _ vs => noLazyL vs
  | .just _ v => noLazy v
  | _ => true
def noLazyL : ValList → Bool
  | .nil => true
  | .cons v vs => noLazy v && noLazyL vs
def noLazyE : EntryList → Bool
  | .nil => true
  | .cons _ _ v es => noLazy v && noLazyE es
end

def NoLazyEnv (ρ : REnv) : Prop := ρ.vars.all (fun p => noLazy p.2) = true

instance (ρ : REnv) : Decidable (NoLazyEnv ρ) := by unfold NoLazyEnv; infer_instance

theorem noLazyEnv_iff {ρ : REnv} : NoLazyEnv ρ ↔ ∀ p ∈ ρ.vars, noLazy p.2 = true :=
  List.all_eq_true

theorem NoLazyEnv.lookup {ρ : REnv} (h : NoLazyEnv ρ) {x : String} {v : Val}
    (hx : ρ.lookupVar x = some v) : noLazy v = true :=
  noLazyEnv_iff.1 h _ (assoc_some_mem hx)

theorem noLazyL_iff : ∀ vs : ValList, noLazyL vs = true ↔ ∀ v ∈ vs.toList, noLazy v = true
  | .nil => by simp [noLazyL, ValList.toList]
  | .cons x xs => by
    simp only [noLazyL, Bool.and_eq_true, ValList.toList, List.mem_cons, forall_eq_or_imp,
      noLazyL_iff xs]

theorem noLazyE_iff : ∀ es : EntryList, noLazyE es = true ↔ ∀ x ∈ es.toList, noLazy x.2.2 = true
  | .nil => by simp [noLazyE, EntryList.toList]
  | .cons _ _ v es => by
    simp only [noLazyE, Bool.and_eq_true, EntryList.toList, List.mem_cons, forall_eq_or_imp,
      noLazyE_iff es]

theorem noLazyInv : ValInv fun v => noLazy v = true where
  num _ := rfl
  str _ := rfl
  bool _ := rfl
  time _ := rfl
  list _ vs := noLazyL_iff vs
  obj _ vs := noLazyL_iff vs
  map _ es := noLazyE_iff es
  just _ _ h := h

/-- the strict built-ins pass function values on, they do not make them -/
theorem applyBuiltin_noLazy {ext : Externs} {id : BId} {args : List Val} {v : Val}
    {evs : List Event} (ha : ∀ a ∈ args, noLazy a = true)
    (h : applyBuiltin ext id args = .ok (v, evs)) : noLazy v = true :=
  (applyBuiltin_cases noLazyInv h).1 ha

open EngineEval in
theorem eval_noLazy {ρ : REnv} (hρ : NoLazyEnv ρ) {f : Nat} {dbg : Bool} {e : Expr}
    {l l' : List Event} {v : Val} (h : eval f dbg ρ e l = (.ok v, l')) : noLazy v = true :=
  -- a run compared with itself, with nothing asked of the logs
  have W : Walk (fun _ _ => True) (fun v => noLazy v = true) dbg dbg ρ ρ (fun _ => True)
      (fun _ _ => True) True :=
    { val := noLazyInv, ext := rfl, call := fun _ _ _ _ _ => trivial, dbg := fun _ _ _ _ _ => trivial,
      var := fun _ _ => ⟨rfl, fun _ => hρ.lookup⟩,
      fn := fun _ _ _ => ⟨rfl, fun _ _ => .inl fun _ _ _ _ => trivial⟩,
      dyn := fun _ _ _ _ _ => .inl fun _ _ _ _ => trivial }
  (W.eval f e (All.top e) l l trivial).2.2 v (by rw [h])

theorem subAnn_kind {Γ : TEnv} {ρ : REnv} (hf : Sound.FunsOK Γ.funs) (henv : Sound.EnvOK Γ ρ)
    {var : Expr} {vty : Option Ty} (h : SubAnn Γ var vty) {f : Nat} {l l' : List Event} {v : Val}
    (he : eval f false ρ var l = (.ok v, l')) : ValKind vty v := by
  rcases h with ⟨el, rfl, hA⟩ | ⟨k, x, rfl, hA⟩
  · obtain ⟨el', vs, rfl, _⟩ := (Sound.ann_sound hf henv hA he).list_inv
    trivial
  · obtain ⟨k', v', es, rfl, _⟩ := (Sound.ann_sound hf henv hA he).map_inv
    trivial

mutual
def DynStrict (ρ : REnv) : Expr → Prop
  | .list _ es _ => DynStrictL ρ es
  | .map _ ps _ => DynStrictP ρ ps
  | .obj _ fs _ => DynStrictF ρ fs
  | .call _ _ callee args _ resolved _ =>
    (resolved = "" → DynStrict ρ callee ∧
      ∀ f l v l', eval f false ρ callee l = (.ok v, l') → ∀ ty ref, v ≠ .fn ty ref true) ∧
    DynStrictL ρ args
  | .subscript _ _ var idx _ => DynStrict ρ var ∧ DynStrict ρ idx
  | .member _ _ obj _ _ _ _ => DynStrict ρ obj
  | _ => True
def DynStrictL (ρ : REnv) : ExprList → Prop
  | .nil => True
  | .cons e es => DynStrict ρ e ∧ DynStrictL ρ es
def DynStrictP (ρ : REnv) : PairList → Prop
  | .nil => True
  | .cons k v ps => DynStrict ρ k ∧ DynStrict ρ v ∧ DynStrictP ρ ps
def DynStrictF (ρ : REnv) : FieldEList → Prop
  | .nil => True
  | .cons _ e fs => DynStrict ρ e ∧ DynStrictF ρ fs
end

section
set_option linter.unusedSectionVars false
variable {ρ : REnv} (hnl : NoLazyEnv ρ)
include hnl

mutual
theorem noLazy_dynStrict : ∀ e : Expr, DynStrict ρ e
  | .str .. | .num .. | .time .. | .bool .. | .ident .. => trivial
  | .unary .. | .binary .. | .ternary .. | .group .. => trivial
  | .list _ es _ => noLazy_dynStrictL es
  | .map _ ps _ => noLazy_dynStrictP ps
  | .obj _ fs _ => noLazy_dynStrictF fs
  | .call _ _ callee args _ _ _ =>
    ⟨fun _ => ⟨noLazy_dynStrict callee, fun _ _ _ _ hv _ _ hfn =>
      Bool.false_ne_true (hfn ▸ eval_noLazy hnl hv :)⟩, noLazy_dynStrictL args⟩
  | .subscript _ _ var idx _ => ⟨noLazy_dynStrict var, noLazy_dynStrict idx⟩
  | .member _ _ obj _ _ _ _ => noLazy_dynStrict obj
theorem noLazy_dynStrictL : ∀ es : ExprList, DynStrictL ρ es
  | .nil => trivial
  | .cons e es => ⟨noLazy_dynStrict e, noLazy_dynStrictL es⟩
theorem noLazy_dynStrictP : ∀ ps : PairList, DynStrictP ρ ps
  | .nil => trivial
  | .cons k v ps => ⟨noLazy_dynStrict k, noLazy_dynStrict v, noLazy_dynStrictP ps⟩
theorem noLazy_dynStrictF : ∀ fs : FieldEList, DynStrictF ρ fs
  | .nil => trivial
  | .cons _ e fs => ⟨noLazy_dynStrict e, noLazy_dynStrictF fs⟩
end

end

mutual
/-- `DynStrict` is a part of `KA`, hence necessary for the hypothesis of the simulation theorem -/
theorem ka_dynStrict {ρ : REnv} : ∀ e : Expr, KA ρ e → DynStrict ρ e
  | .str .., _ | .num .., _ | .time .., _ | .bool .., _ | .ident .., _ => trivial
  | .unary .., _ | .binary .., _ | .ternary .., _ | .group .., _ => trivial
  | .list _ es _, h => kal_dynStrict es h
  | .map _ ps _, h => kap_dynStrict ps h
  | .obj _ fs _, h => kaf_dynStrict fs h
  | .call _ _ callee args _ _ _, h =>
    ⟨fun hr => ⟨ka_dynStrict callee (h.1 hr).1, (h.1 hr).2⟩, kal_dynStrict args h.2⟩
  | .subscript _ _ var idx _, h => ⟨ka_dynStrict var h.1, ka_dynStrict idx h.2.1⟩
  | .member _ _ obj _ _ _ _, h => ka_dynStrict obj h
theorem kal_dynStrict {ρ : REnv} : ∀ es : ExprList, KAL ρ es → DynStrictL ρ es
  | .nil, _ => trivial
  | .cons e es, h => ⟨ka_dynStrict e h.1, kal_dynStrict es h.2⟩
theorem kap_dynStrict {ρ : REnv} : ∀ ps : PairList, KAP ρ ps → DynStrictP ρ ps
  | .nil, _ => trivial
  | .cons k v ps, h => ⟨ka_dynStrict k h.1, ka_dynStrict v h.2.1, kap_dynStrict ps h.2.2⟩
theorem kaf_dynStrict {ρ : REnv} : ∀ fs : FieldEList, KAF ρ fs → DynStrictF ρ fs
  | .nil, _ => trivial
  | .cons _ e fs, h => ⟨ka_dynStrict e h.1, kaf_dynStrict fs h.2⟩
end

section
set_option linter.unusedSectionVars false
variable {Γ : TEnv} {ρ : REnv} (hf : Sound.FunsOK Γ.funs) (henv : Sound.EnvOK Γ ρ)
include hf henv

mutual
theorem ck_ka : ∀ e : Expr, CK Γ e → DynStrict ρ e → KA ρ e
  | .str .., _, _ | .num .., _, _ | .time .., _, _ | .bool .., _, _ | .ident .., _, _ => trivial
  | .unary .., _, _ | .binary .., _, _ | .ternary .., _, _ | .group .., _, _ => trivial
  | .list _ es _, h, hd => ckl_ka es h.2 hd
  | .map _ ps _, h, hd => ckp_ka ps h.2 hd
  | .obj _ fs _, h, hd => ckf_ka fs h.2 hd
  | .call _ _ callee args _ resolved _, h, hd =>
    ⟨fun hr => by
      have h1 := h.1
      rw [hr, if_pos (beq_self_eq_true _)] at h1
      exact ⟨ck_ka callee h1.1 (hd.1 hr).1, (hd.1 hr).2⟩, ckl_ka args h.2 hd.2⟩
  | .subscript _ _ var idx _, h, hd =>
    ⟨ck_ka var h.1 hd.1, ck_ka idx h.2.1 hd.2, fun _ _ _ _ hv => subAnn_kind hf henv h.2.2 hv⟩
  | .member _ _ obj _ _ _ _, h, hd => ck_ka obj h hd
theorem ckl_ka : ∀ es : ExprList, CKL Γ es → DynStrictL ρ es → KAL ρ es
  | .nil, _, _ => trivial
  | .cons e es, h, hd => ⟨ck_ka e h.1 hd.1, ckl_ka es h.2 hd.2⟩
theorem ckp_ka : ∀ ps : PairList, CKP Γ ps → DynStrictP ρ ps → KAP ρ ps
  | .nil, _, _ => trivial
  | .cons k v ps, h, hd => ⟨ck_ka k h.1 hd.1, ck_ka v h.2.1 hd.2.1, ckp_ka ps h.2.2 hd.2.2⟩
theorem ckf_ka : ∀ fs : FieldEList, CKF Γ fs → DynStrictF ρ fs → KAF ρ fs
  | .nil, _, _ => trivial
  | .cons _ e fs, h, hd => ⟨ck_ka e h.1 hd.1, ckf_ka fs h.2 hd.2⟩
end

end

end Yae.VmChk
