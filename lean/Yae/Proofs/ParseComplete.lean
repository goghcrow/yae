/-
  Completeness: a tree that yields a token range and respects the declarations of a well-formed
  grammar is what the parser returns on that range.  One induction on the yield derivation for the
  tree and its five list forms (`Completes`, by `YieldKind.Holds.induct`); the parser's run is put together
  from the rules of `Big`.
-/
import Yae.Proofs.ParseCompleteGood
import Yae.Proofs.ParseYieldInd
namespace Yae

theorem YSeq.first_ne {env : PEnv} {as : List Expr} {i j : Nat} (h : YSeq env as i j) {k : String}
    (hk : tableLookup k env.g.prefixs = none) : (env.peek i).kind ≠ k := by
  cases h with
  | one h => exact h.first_ne hk
  | cons h _ _ => exact h.first_ne hk

/-- The `nud` of `[` reads what `pList` reads, provided the first token is neither `:` nor `]`: it
runs the first round itself (a `:` after the first element would decide for a map). -/
theorem Big.list_of_pl {env : PEnv} {t : Token} {i k : Nat} {bp : BP} {els : List Expr} {rg : Pos}
    (h1 : (env.peek i).kind ≠ ":") (h2 : (env.peek i).kind ≠ "]")
    (hl : Big env (.list [] i (els, k))) (hk : env.kindAt k "]")
    (hr : Pos.range t.pos (env.peek k).pos = .ok rg) :
    Big env (.nud t i bp .listMap (.list rg (ExprList.ofList els.reverse) none) (k + 1)) := by
  cases hl with
  | lnil h => exact absurd h.2 h2
  | lone _ he _ => exact .list1 h1 h2 he hk hr
  | lcons _ he hc hl => exact .listN h1 h2 he hc hl hk hr

theorem Big.map_of_pm {env : PEnv} {t : Token} {i n : Nat} {bp : BP} {ps : List (Expr × Expr)}
    {rg : Pos} (h1 : (env.peek i).kind ≠ ":") (h2 : (env.peek i).kind ≠ "]")
    (hm : Big env (.map [] i (ps, n))) (hb : env.kindAt n "]")
    (hr : Pos.range t.pos (env.peek n).pos = .ok rg) :
    Big env (.nud t i bp .listMap (.map rg (PairList.ofList ps.reverse) none) (n + 1)) := by
  cases hm with
  | mnil h => exact absurd h.2 h2
  | mone _ hk hc hv _ => exact .map1 h1 h2 hk hc hv hb hr
  | mcons _ hk hc hv hcm hm => exact .mapN h1 h2 hk hc hv hcm hm hb hr

theorem YElems.nud {env : PEnv} (W : WFGrammar env.g) {es : List Expr} {i j : Nat}
    (hs : YElems env es i j) (pl : PL env [] i (es.reverse, j)) (hk : env.kindAt j "]")
    {t : Token} {bp : BP} {rg : Pos} (hr : Pos.range t.pos (env.peek j).pos = .ok rg) :
    Big env (.nud t i bp .listMap (.list rg (ExprList.ofList es) none) (j + 1)) := by
  cases hs with
  | nil => exact .emptyList hk hr
  | one h | cons h _ _ =>
    simpa using Big.list_of_pl (h.first_ne W.preColon) (h.first_ne W.preRbrack) pl.big hk hr

theorem YPairs.nud {env : PEnv} (W : WFGrammar env.g) {ps : List (Expr × Expr)} {i j : Nat}
    (hs : YPairs env ps i j) (hne : ps ≠ []) (pm : PM env [] i (ps.reverse, j))
    (hk : env.kindAt j "]") {t : Token} {bp : BP} {rg : Pos}
    (hr : Pos.range t.pos (env.peek j).pos = .ok rg) :
    Big env (.nud t i bp .listMap (.map rg (PairList.ofList ps) none) (j + 1)) := by
  cases hs with
  | nil => exact absurd rfl hne
  | one h | cons h _ _ _ _ =>
    simpa using Big.map_of_pm (h.first_ne W.preColon) (h.first_ne W.preRbrack) pm.big hk hr

/-! After `.`: the name is whatever token comes next (`env.adv` does not move past the end of the
input), then a `(` makes it a method call.  `lr_member`, `lr_memberEOF`, `lr_methodCall` are the rules `Big.member`
and `Big.methodCall` of `ledRes` with `env.adv` computed in the three situations. -/

theorem lr_member {env : PEnv} {l : Expr} {i : Nat} {bp : BP} {rg : Pos}
    (hi : i + 1 < env.toks.size) (hg : Pos.range l.pos (env.peek (i + 1)).pos = .ok rg)
    (hp : (env.peek (i + 2)).kind ≠ "(") :
    Big env (.led l (env.peek i) (i + 1) bp .dot (.member rg (env.peek i).pos.col l
      (env.peek (i + 1)).lexeme (env.peek (i + 1)).pos none (-1)) (i + 2)) := by
  have h := Big.member (t := env.peek i) (bp := bp) hg
  rw [env.adv_lt hi] at h
  exact h hp

theorem lr_memberEOF {env : PEnv} {l : Expr} {i : Nat} {bp : BP} {rg : Pos}
    (hi : i + 1 = env.toks.size) (hg : Pos.range l.pos eofToken.pos = .ok rg) :
    Big env (.led l (env.peek i) (i + 1) bp .dot
      (.member rg (env.peek i).pos.col l eofToken.lexeme eofToken.pos none (-1)) (i + 1)) := by
  have hpk : env.peek (i + 1) = eofToken := by unfold PEnv.peek; rw [dif_neg (by omega)]
  have h := Big.member (env := env) (l := l) (t := env.peek i) (i := i + 1) (bp := bp) (rg := rg)
  rw [env.adv_ge (by omega), hpk] at h
  exact h hg (by decide)

theorem lr_methodCall {env : PEnv} {l : Expr} {i : Nat} {bp : BP} {rg : Pos} {e : Expr}
    {j : Nat} (hi : i + 1 < env.toks.size)
    (hg : Pos.range l.pos (env.peek (i + 1)).pos = .ok rg) (hp : env.kindAt (i + 2) "(")
    (hc : Big env (.call (.member rg (env.peek i).pos.col l (env.peek (i + 1)).lexeme
      (env.peek (i + 1)).pos none (-1)) (env.peek (i + 2)) (i + 3) (e, j))) :
    Big env (.led l (env.peek i) (i + 1) bp .dot e j) := by
  have h := Big.methodCall (t := env.peek i) (bp := bp) (e := e) (j := j) hg
  rw [env.adv_lt hi] at h
  exact h hp hc

def Completes (env : PEnv) : YieldKind → Nat → Nat → Prop
  | .expr t, i, j => Good env.g t → ∀ rbp, t.leftAbove env.g rbp → Compl env t i j rbp
  | .args as, i, j => (∀ a ∈ as, Good env.g a ∧ a.leftAbove env.g 0) →
      env.kindAt j ")" → ∀ (c : Expr) (t : Token) (rg : Pos),
      Pos.range c.pos (env.peek j).pos = .ok rg →
      PC env c t i (.call rg t.pos.col c (ExprList.ofList as) none "" (-1), j + 1)
  | .seq as, i, j => (∀ a ∈ as, Good env.g a ∧ a.leftAbove env.g 0) →
      tableLookup (env.peek j).kind env.g.infixs = none → (env.peek j).kind ≠ "(" →
      (env.peek j).kind ≠ "," → ∀ acc, PA env acc i (as.reverse ++ acc, j)
  | .elems es, i, j => (∀ a ∈ es, Good env.g a ∧ a.leftAbove env.g 0) →
      env.kindAt j "]" → ∀ acc, PL env acc i (es.reverse ++ acc, j)
  | .pairs ps, i, j =>
      (∀ kv ∈ ps, (Good env.g kv.1 ∧ kv.1.leftAbove env.g 0) ∧
        (Good env.g kv.2 ∧ kv.2.leftAbove env.g 0)) →
      env.kindAt j "]" → ∀ acc, PM env acc i (ps.reverse ++ acc, j)
  | .fields fs, i, j => (∀ nv ∈ fs, Good env.g nv.2 ∧ nv.2.leftAbove env.g 0) →
      env.kindAt j "}" → ∀ acc, PO env acc i (fs.reverse ++ acc, j)

/-- `expr(0)` reads `t` from `i` and stops at `j` when the token there (`hk`) is no infix operator (`hc`) and not `(`
(`hne`): the closers `)`, `]`, `}`, `,`, `:`.  Every delimited position of `Holds.complete` is this. -/
theorem Completes.closed {env : PEnv} (W : WFGrammar env.g) {t : Expr} {i j : Nat} {k : String}
    (h : Completes env (.expr t) i j) (hG : Good env.g t ∧ t.leftAbove env.g 0) (hk : env.kindAt j k)
    (hc : tableLookup k env.g.infixs = none) (hne : k ≠ "(" := by decide) : PE env 0 i (t, j) :=
  (h hG.1 0 hG.2).pe0 W hG.1 hG.2 (by rw [hk.2]; exact hc) (by rw [hk.2]; exact hne)

theorem YieldKind.Holds.complete {env : PEnv} (W : WFGrammar env.g) (hL : env.OpLex) {K : YieldKind} {i j : Nat}
    (h : K.Holds env i j) : Completes env K i j := by
  induction h using YieldKind.Holds.induct
  all_goals simp only [Completes] at *
  case ident _ _ hn =>
    intro _ _ _
    exact compl_nud hn .ident rfl
  case true_ _ _ hn =>
    intro _ _ _
    exact compl_nud hn .true_ rfl
  case false_ _ _ hn =>
    intro _ _ _
    exact compl_nud hn .false_ rfl
  case num _ _ _ hn hv =>
    intro _ _ _
    exact compl_nud hn (.num hv) rfl
  case str _ _ _ hn hv =>
    intro _ _ _
    exact compl_nud hn (.str hv) rfl
  case time _ _ _ hn he =>
    intro _ _ _
    obtain ⟨v, rfl⟩ := timeLit_ok he
    exact compl_nud hn (.time he) rfl
  case group _ _ _ _ _ hn he hk hr ih_he =>
    intro hG _ _
    have pe := Completes.closed W ih_he (good_group hG) hk W.rparen
    exact compl_nud hn (.group pe.big hk hr) rfl
  case pre i _ bp _ _ hn he hr ih_he =>
    intro hG rbp _
    obtain ⟨Ge, hab⟩ := good_pre hG
    have hbp := hL.pre hn
    rw [hbp] at hab
    have hC := ih_he Ge bp hab
    refine ⟨fun hF r hPI => ?_, fun hm => by cases hm⟩
    obtain ⟨hs, hFe⟩ := Follow.pre.mp hF
    exact pe_of_nud hn (.pre (hC.pe Ge hFe (hbp ▸ hs)).big hr) hPI
  case emptyMap _ _ _ hn h1 h2 hr =>
    intro _ _ _
    exact compl_nud hn (.emptyMap h1 h2 hr) rfl
  case list _ _ _ _ _ hn hs hk hr ih_hs =>
    intro hG _ _
    exact compl_nud hn (hs.nud W (by simpa using ih_hs (good_list hG) hk []) hk hr) rfl
  case map _ _ _ _ _ hn hs hne hk hr ih_hs =>
    intro hG _ _
    exact compl_nud hn (hs.nud W hne (by simpa using ih_hs (good_map hG) hk []) hk hr) rfl
  case obj _ _ bp _ _ hn hf hk hr ih_hf =>
    intro hG _ _
    have po := ih_hf (good_obj hG) hk []
    have := Big.obj (t := env.peek _) (bp := bp) po.big hk hr
    simp only [List.append_nil, List.reverse_reverse] at this
    exact compl_nud hn this rfl
  case binary _ j _ bp led fx l _ _ hl hd hfx hr hg ih_hl ih_hr =>
    intro hG rbp hab
    obtain ⟨Gl, Gr, habr, hrol, hnc⟩ := good_binary hG
    obtain ⟨hlex, hbp⟩ := hL.led hd
    simp only [Expr.leftAbove] at hab
    rw [binRbp_led hfx hbp] at habr
    have hFl := follow_led W hd (by rintro rfl; cases hfx) (hlex ▸ hrol)
    have hCl := ih_hl Gl rbp hab.2
    have hCr := ih_hr Gr _ habr
    refine ⟨fun hF => ?_, fun hm => by cases hm⟩
    obtain ⟨hs, hFr⟩ := Follow.binary.mp hF
    rw [binRbp_led hfx hbp] at hs
    exact reach_led hCl hFl hd (by rw [← hlex]; exact hab.1)
      (.binary hfx (hCr.pe Gr hFr hs).big hg) (infixNCheck_of_noChain hnc)
  case post _ j bp l _ hl hd hg ih_hl =>
    intro hG rbp hab
    obtain ⟨Gl, hrol⟩ := good_post hG
    have hlex := (hL.led hd).1
    simp only [Expr.leftAbove] at hab
    have hFl := follow_led W hd (by decide) (hlex ▸ hrol)
    have hCl := ih_hl Gl rbp hab.2
    exact ⟨fun _ => reach_led hCl hFl hd (by rw [← hlex]; exact hab.1) (.post hg) rfl,
      fun hm => by cases hm⟩
  case ternary _ j _ _ bp l _ _ _ hl hd hm hk hr hg ih_hl ih_hm ih_hr =>
    intro hG rbp hab
    obtain ⟨Gl, Gm, Gr, hrol, m0, habr⟩ := good_ternary hG
    obtain ⟨hlex, hbp⟩ := hL.led hd
    simp only [Expr.leftAbove] at hab
    rw [hbp] at habr
    have hFl := follow_led W hd (by decide) (hlex ▸ hrol)
    have hCl := ih_hl Gl rbp hab.2
    have pm := Completes.closed W ih_hm ⟨Gm, m0⟩ hk W.colon
    have hCr := ih_hr Gr _ habr
    refine ⟨fun hF => ?_, fun hm => by cases hm⟩
    obtain ⟨hs, hFr⟩ := Follow.ternary.mp hF
    rw [hbp] at hs
    exact reach_led hCl hFl hd (by rw [← hlex]; exact hab.1)
      (.ternary pm.big hk (hCr.pe Gr hFr hs).big hg) rfl
  case call _ j _ bp c _ _ hc hd ha hk hg ih_hc ih_ha =>
    intro hG rbp hab
    obtain ⟨Gc, hcond, Gas⟩ := good_call hG
    have hkind : (env.peek j).kind = "(" := W.ledKinds.call _ _ hd.2
    simp only [Expr.leftAbove] at hab
    have hCc := ih_hc Gc rbp hab.2
    have pc := ih_ha Gas hk c (env.peek j) _ hg
    refine ⟨fun _ r hPI => ?_, fun hm => by cases hm⟩
    by_cases hmem : c.isMember = true
    · exact hCc.method hmem ⟨hd.1, hkind⟩ _ _ r pc rfl hPI
    · have hcond' := hcond.resolve_left hmem
      have hgt := hab.1.resolve_left hmem
      have hFc : Follow env.g (env.peek j).kind c := by
        rw [hkind]
        exact ⟨hcond'.1, fun h => by rw [hcond'.2] at h; cases h⟩
      exact reach_led hCc hFc hd (by rw [hkind]; exact hgt) (.call pc.big) rfl r hPI
  case methodCall _ j _ c _ _ hc hm hp ha hk hg ih_hc ih_ha =>
    intro hG rbp hab
    obtain ⟨Gc, _, Gas⟩ := good_call hG
    simp only [Expr.leftAbove] at hab
    have hCc := ih_hc Gc rbp hab.2
    have pc := ih_ha Gas hk c (env.peek j) _ hg
    exact ⟨fun _ r hPI => hCc.method hm hp _ _ r pc rfl hPI, fun hm => by cases hm⟩
  case' member _ j bp o _ hl hd hi hg ih_hl | memberEOF _ j bp o _ hl hd hi hg ih_hl =>
    intro hG rbp hab
    obtain ⟨Go, hroo⟩ := good_member hG
    have hkind : (env.peek j).kind = "." := W.ledKinds.dot _ _ hd.2
    simp only [Expr.leftAbove] at hab
    have hFo := follow_led W hd (by decide) (hkind ▸ hroo)
    have hCo := ih_hl Go rbp hab.2
    have hgt : rbp < env.g.infixLbp (env.peek j).kind := by rw [hkind]; exact hab.1
  case member =>
    refine ⟨fun hF => reach_led hCo hFo hd hgt (lr_member hi hg (Follow.member.mp hF)) rfl, ?_⟩
    intro _ hp e' j' r hPC hc' hPI
    exact hCo.reach hFo r (pi_step hd hgt (lr_methodCall hi hg hp hPC.big) hc' hPI)
  case memberEOF =>
    refine ⟨fun _ => reach_led hCo hFo hd hgt (lr_memberEOF hi hg) rfl, ?_⟩
    intro _ hp
    have := hp.1
    omega
  case subscript _ j _ bp v _ _ hv hd hx hk hg ih_hv ih_hx =>
    intro hG rbp hab
    obtain ⟨Gv, Gx, hrov, x0⟩ := good_subscript hG
    have hkind : (env.peek j).kind = "[" := W.ledKinds.subscript _ _ hd.2
    simp only [Expr.leftAbove] at hab
    have hFv := follow_led W hd (by decide) (hkind ▸ hrov)
    have hCv := ih_hv Gv rbp hab.2
    have hgt : rbp < env.g.infixLbp (env.peek j).kind := by rw [hkind]; exact hab.1
    have px := Completes.closed W ih_hx ⟨Gx, x0⟩ hk W.rbrack
    exact ⟨fun _ => reach_led hCv hFv hd hgt (.subscript px.big hk hg) rfl, fun hm => by cases hm⟩
  case anil =>
    intro _ hk _ _ _ hg
    exact (Big.cnil hk hg).run
  case asome _ _ _ hs ih_hs =>
    intro hG hk c t rg hg
    have pa := ih_hs hG (by rw [hk.2]; exact W.rparen) hk.ne
      hk.ne []
    have h := Big.cargs (c := c) (t := t) (hs.first_ne W.preRparen) pa.big hk hg
    simp only [List.append_nil, List.reverse_reverse] at h
    exact h.run
  case sone e _ _ h ih_h =>
    intro hG hk hk1 hk2 acc
    obtain ⟨Ge, h0⟩ := List.forall_mem_singleton.1 hG
    have pe := (ih_h Ge 0 h0).pe0 W Ge h0 hk hk1
    exact (Big.aone pe.big hk2).run
  case scons e _ _ _ _ h hc hs ih_h ih_hs =>
    intro hG hk hk1 hk2 acc
    obtain ⟨he, hG'⟩ := List.forall_mem_cons.1 hG
    have pe := Completes.closed W ih_h he hc W.comma
    have pa := ih_hs hG' hk hk1 hk2 (e :: acc)
    simp only [List.reverse_cons, List.append_assoc, List.singleton_append]
    exact (Big.acons pe.big hc pa.big).run
  case enil =>
    intro _ hk acc
    exact (Big.lnil hk).run
  case eone e _ _ h ih_h =>
    intro hG hk acc
    have pe := Completes.closed W ih_h (hG _ (.head _)) hk W.rbrack
    exact (Big.lone (h.first_ne W.preRbrack) pe.big hk.ne).run
  case econs e _ _ _ _ h hc hs ih_h ih_hs =>
    intro hG hk acc
    obtain ⟨he, hG'⟩ := List.forall_mem_cons.1 hG
    have pe := Completes.closed W ih_h he hc W.comma
    have pl := ih_hs hG' hk (e :: acc)
    simp only [List.reverse_cons, List.append_assoc, List.singleton_append]
    exact (Big.lcons (h.first_ne W.preRbrack) pe.big hc pl.big).run
  case pnil =>
    intro _ hk acc
    exact (Big.mnil hk).run
  case pone k v _ _ _ h1 hc h2 ih_h1 ih_h2 =>
    intro hG hb acc
    obtain ⟨gk, gv⟩ := List.forall_mem_singleton.1 hG
    have pk := Completes.closed W ih_h1 gk hc W.colon
    have pv := Completes.closed W ih_h2 gv hb W.rbrack
    exact (Big.mone (h1.first_ne W.preRbrack) pk.big hc pv.big hb.ne).run
  case pcons k v _ _ _ _ _ h1 hc h2 hcm hs ih_h1 ih_h2 ih_hs =>
    intro hG hb acc
    obtain ⟨⟨gk, gv⟩, hG'⟩ := List.forall_mem_cons.1 hG
    have pk := Completes.closed W ih_h1 gk hc W.colon
    have pv := Completes.closed W ih_h2 gv hcm W.comma
    have pm := ih_hs hG' hb ((k, v) :: acc)
    simp only [List.reverse_cons, List.append_assoc, List.singleton_append]
    exact (Big.mcons (h1.first_ne W.preRbrack) pk.big hc pv.big hcm pm.big).run
  case fnil =>
    intro _ hk acc
    exact (Big.onil hk).run
  case fone v _ _ hn hc h ih_h =>
    intro hG hk acc
    have pv := Completes.closed W ih_h (hG _ (.head _)) hk W.rbrace
    exact (Big.oone hn hc pv.big hk.ne).run
  case fcons v _ i _ _ hn hc h hcm hs ih_h ih_hs =>
    intro hG hk acc
    obtain ⟨gv, hG'⟩ := List.forall_mem_cons.1 hG
    have pv := Completes.closed W ih_h gv hcm W.comma
    have po := ih_hs hG' hk (((env.peek i).lexeme, v) :: acc)
    simp only [List.reverse_cons, List.append_assoc, List.singleton_append]
    exact (Big.ocons hn hc pv.big hcm po.big).run

theorem Yields.complete {env : PEnv} (W : WFGrammar env.g) (hL : env.OpLex) :
    ∀ {t i j}, Yields env t i j → Good env.g t → ∀ rbp, t.leftAbove env.g rbp →
      Compl env t i j rbp :=
  fun h => YieldKind.Holds.complete W hL (K := .expr _) h
theorem YArgs.complete {env : PEnv} (W : WFGrammar env.g) (hL : env.OpLex) :
    ∀ {as i j}, YArgs env as i j → (∀ a ∈ as, Good env.g a ∧ a.leftAbove env.g 0) →
      env.kindAt j ")" → ∀ (c : Expr) (t : Token) (rg : Pos),
      Pos.range c.pos (env.peek j).pos = .ok rg →
      PC env c t i (.call rg t.pos.col c (ExprList.ofList as) none "" (-1), j + 1) :=
  fun h => YieldKind.Holds.complete W hL (K := .args _) h
theorem YSeq.complete {env : PEnv} (W : WFGrammar env.g) (hL : env.OpLex) :
    ∀ {as i j}, YSeq env as i j → (∀ a ∈ as, Good env.g a ∧ a.leftAbove env.g 0) →
      tableLookup (env.peek j).kind env.g.infixs = none → (env.peek j).kind ≠ "(" →
      (env.peek j).kind ≠ "," → ∀ acc, PA env acc i (as.reverse ++ acc, j) :=
  fun h => YieldKind.Holds.complete W hL (K := .seq _) h
theorem YElems.complete {env : PEnv} (W : WFGrammar env.g) (hL : env.OpLex) :
    ∀ {es i j}, YElems env es i j → (∀ a ∈ es, Good env.g a ∧ a.leftAbove env.g 0) →
      env.kindAt j "]" → ∀ acc, PL env acc i (es.reverse ++ acc, j) :=
  fun h => YieldKind.Holds.complete W hL (K := .elems _) h
theorem YPairs.complete {env : PEnv} (W : WFGrammar env.g) (hL : env.OpLex) :
    ∀ {ps i j}, YPairs env ps i j →
      (∀ kv ∈ ps, (Good env.g kv.1 ∧ kv.1.leftAbove env.g 0) ∧
        (Good env.g kv.2 ∧ kv.2.leftAbove env.g 0)) →
      env.kindAt j "]" → ∀ acc, PM env acc i (ps.reverse ++ acc, j) :=
  fun h => YieldKind.Holds.complete W hL (K := .pairs _) h
theorem YFields.complete {env : PEnv} (W : WFGrammar env.g) (hL : env.OpLex) :
    ∀ {fs i j}, YFields env fs i j → (∀ nv ∈ fs, Good env.g nv.2 ∧ nv.2.leftAbove env.g 0) →
      env.kindAt j "}" → ∀ acc, PO env acc i (fs.reverse ++ acc, j) :=
  fun h => YieldKind.Holds.complete W hL (K := .fields _) h

end Yae
