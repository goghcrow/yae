/-
  The non-vacuity witness of C01 / C02, and the evaluation lemmas behind `C02.exact_index` and
  `C02.exact_key`.  All built-ins registered as the engine does, one variable
  `o : {a: num, b: str}` bound to an object VALUE whose own type lists the fields in the other
  order (as host data may); program `o.a + 2`.
-/
import Yae.Proofs.EvalMLemmas
import Yae.Proofs.CheckCall
import Yae.Proofs.BuiltinTable

theorem Yae.Sound.envOK_single {x : String} {T : Ty} {v : Val} {fs : List FunDecl}
    {rs : List String} {ext : Externs} (hv : HasTy v T) (hw : T.wf = true)
    (hs : slotFree T = true) : EnvOK ⟨[(x, T)], fs, rs⟩ ⟨[(x, v)], fs, ext⟩ where
  vars := by
    intro y U h
    simp only [TEnv.lookupVar, List.find?] at h
    split at h
    · next hx =>
      cases h
      refine ⟨v, ?_, hv⟩
      simp only [REnv.lookupVar, List.find?, hx]; rfl
    · cases h
  funs := rfl
  tys := by
    intro p hp
    cases List.mem_singleton.1 hp
    exact ⟨hw, hs⟩

namespace Yae.Sound.Example
open Yae

def funs : List FunDecl :=
  (List.range builtins.length).filterMap fun i =>
    builtins[i]?.map fun b => ⟨b.ty, .builtin i, b.isLazy⟩

theorem funs_eq : funs = builtinDecls := by rfl

def objT  : Ty := .obj (.cons "a" .num (.cons "b" .str .nil))
def objT' : Ty := .obj (.cons "b" .str (.cons "a" .num .nil))

def Γ : TEnv := ⟨[("o", objT)], funs, reservedWords⟩
/-- positional values in the order of the value's OWN type `{b, a}` -/
def oVal : Val := .obj objT' (.cons (.str "x") (.cons (.num 1) .nil))
def ρ : REnv := ⟨[("o", oVal)], funs, {}⟩
def p0 : Pos := Pos.unknown

/-- `o.a + 2` as the parser/desugarer produces it (no attachments yet) -/
def prog : Expr :=
  .call p0 0 (.ident p0 "+")
    (.cons (.member p0 0 (.ident p0 "o") "a" p0 none 0) (.cons (.num p0 2) .nil)) none "" 0

def prog' : Expr :=
  .call p0 0 (.ident p0 "+")
    (.cons (.member p0 0 (.ident p0 "o") "a" p0 (some objT) 0) (.cons (.num p0 2) .nil))
    (some (.fn "+" (.cons .num (.cons .num .nil)) .num)) "λ + (num, num)" (-1)

theorem funsOK : FunsOK Γ.funs := (funs_eq ▸ Api.builtinDecls_funsOK : FunsOK funs)

theorem envOK : EnvOK Γ ρ := envOK_single (by decide) (by decide) (by decide)

theorem plusKey : (overloadKey "+" (.cons .num (.cons .num .nil)) .bot).1 = "λ + (num, num)" := by
  decide +kernel

theorem plusMono : lookupMono funs "λ + (num, num)" =
    some ⟨.fn "+" (.cons .num (.cons .num .nil)) .num, .builtin 2, false⟩ :=
  funs_eq ▸ builtin_plus

/-- for any environment that registers `+` on numbers: with the table of built-ins in the
statement the kernel would unfold it at every step -/
theorem check_plus {Γ : TEnv} {d : FunDecl} (hm : lookupMono Γ.funs "λ + (num, num)" = some d)
    (hty : d.ty = .fn "+" (.cons .num (.cons .num .nil)) .num) {c c1 c2 : Nat} {x y x' y' : Expr}
    (hx : check Γ c x = .ok (.num, x', c1)) (hy : check Γ c1 y = .ok (.num, y', c2))
    (p : Pos) (col : Int) (cp : Pos) (cty : Option Ty) (res : String) (idx : Int) :
    check Γ c (.call p col (.ident cp "+") (.cons x (.cons y .nil)) cty res idx) =
      .ok (.num, .call p col (.ident cp "+") (.cons x' (.cons y' .nil))
        (some (.fn "+" (.cons .num (.cons .num .nil)) .num)) "λ + (num, num)" (-1), c2) :=
  check_call_mono (checkArgs_cons hx (checkArgs_cons hy checkArgs_nil)) plusKey hm hty rfl rfl
    p col cp cty res idx

theorem checked : check Γ 0 prog = .ok (.num, prog', 0) := check_plus plusMono rfl rfl rfl ..

theorem resolved : resolveStatic ρ.funs "λ + (num, num)" (-1) =
    some ⟨.fn "+" (.cons .num (.cons .num .nil)) .num, .builtin 2, false⟩ := plusMono

/-- by name through the permuted object -/
theorem evaluated : eval 3 false ρ prog' [] = (.ok (.num ((1 : Float) + 2)), []) := by
  have hb : builtins[2]? =
      some ⟨.ADD_NUM_NUM, .fn "+" (.cons .num (.cons .num .nil)) .num, false⟩ := rfl
  have ho : ρ.lookupVar "o" = some oVal := rfl
  simp only [prog', eval, resolved, callFun, hb, evalList, ho, oVal, recDbg]
  rfl

theorem depth_prog' : prog'.depth = 3 := by decide

end Yae.Sound.Example

namespace Yae.Sound

theorem bind_recDbg_fst {dbg : Bool} {col : Int} (x : EvalM Val) (l : List Event) :
    ((x >>= fun v => recDbg dbg v col) l).1 = (x l).1 := by
  rcases h : x l with ⟨_ | v, l'⟩
  · rw [EvalM.bind_err h]
  · rw [EvalM.bind_ok h, recDbg_fst]

theorem eval_subscript_list {fuel : Nat} {dbg : Bool} {ρ : REnv} {p : Pos} {col : Int}
    {var idx : Expr} {vty : Option Ty} {log log1 log2 : List Event} {ty : Ty} {vs : ValList}
    {f : Float}
    (hvar : eval fuel dbg ρ var log = (.ok (.list ty vs), log1))
    (hidx : eval fuel dbg ρ idx log1 = (.ok (.num f), log2)) :
    (eval (fuel+1) dbg ρ (.subscript p col var idx vty) log).1 =
      if Num.toInt f < 0 ∨ Num.toInt f ≥ vs.length then .error .indexOutOfRange
      else match vs.get? (Num.toInt f).toNat with
        | some v => .ok v
        | none => .error .indexOutOfRange := by
  simp only [eval]
  rw [EvalM.bind_ok hvar]
  simp only []
  rw [bind_recDbg_fst, EvalM.bind_ok hidx]
  simp only [Bool.or_eq_true, decide_eq_true_eq]
  split
  · rfl
  · cases vs.get? (Num.toInt f).toNat <;> rfl

theorem eval_subscript_map {fuel : Nat} {dbg : Bool} {ρ : REnv} {p : Pos} {col : Int}
    {var idx : Expr} {vty : Option Ty} {log log1 log2 : List Event} {ty : Ty} {es : EntryList}
    {k : Val} {t : Kind} {ks : String}
    (hvar : eval fuel dbg ρ var log = (.ok (.map ty es), log1))
    (hidx : eval fuel dbg ρ idx log1 = (.ok k, log2)) (hk : k.key? = some (t, ks)) :
    (eval (fuel+1) dbg ρ (.subscript p col var idx vty) log).1 =
      match es.find? t ks with
      | some v => .ok v
      | none => .error .missingKey := by
  simp only [eval]
  rw [EvalM.bind_ok hvar]
  simp only []
  rw [bind_recDbg_fst, EvalM.bind_ok hidx]
  simp only [hk]
  cases es.find? t ks <;> rfl
end Yae.Sound
