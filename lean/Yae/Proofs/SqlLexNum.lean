/-
  Numeric lexemes (`IsNumLex`) and `Delim`, the context in which the whole tokenizer proof reads a lexeme.  A
  numeric lexeme followed by a delimiter is read by the reference tokenizer as exactly one `.num` token
  (`tokenize_num`); what `renderNumBits` / `toString (n : Int)` print is a numeric lexeme (for `fmtFloatBits` on
  every bit pattern: that or one of three words).
-/
import Yae.Proofs.ListLemmas
import Yae.Model.SqlRead
import Yae.Proofs.NumLemmas
namespace Yae.SqlLex
open Yae Yae.Sql
open Yae.Re (NoHead)

/-- what may follow a lexeme in the produced text: nothing, a blank, `)` or `,` -/
def Delim (rest : List Char) : Prop := rest = [] ∨ ∃ c r, rest = c :: r ∧ (c = ' ' ∨ c = ')' ∨ c = ',')

/-- `-?digits(.digits)?` -/
def IsNumLex (cs : List Char) : Prop :=
  ∃ (neg : Bool) (ip fp : List Char),
    cs = (if neg then ['-'] else []) ++ ip ++ (if fp = [] then [] else '.' :: fp) ∧
    ip ≠ [] ∧ (∀ c ∈ ip, isDigit c = true) ∧ (∀ c ∈ fp, isDigit c = true)

theorem isDigit_eq_num (c : Char) : Sql.isDigit c = Num.isDigit c := rfl

theorem digit_ne (x : Char) (hx : isDigit x = false) (c : Char) (h : isDigit c = true) : c ≠ x := by
  intro e; subst e; rw [hx] at h; cases h

theorem digit_not_space (c : Char) (h : isDigit c = true) : isSpace c = false := by
  have h1 := digit_ne ' ' (by decide) c h
  have h2 := digit_ne '\t' (by decide) c h
  have h3 := digit_ne '\n' (by decide) c h
  have h4 := digit_ne '\r' (by decide) c h
  simp [isSpace, h1, h2, h3, h4]

theorem Delim.noHead {rest : List Char} (hd : Delim rest) (p : Char → Bool)
    (hp : p ' ' = false ∧ p ')' = false ∧ p ',' = false) : NoHead p rest := by
  rcases hd with rfl | ⟨c, r, rfl, rfl | rfl | rfl⟩
  · exact .nil p
  · exact .cons _ hp.1
  · exact .cons _ hp.2.1
  · exact .cons _ hp.2.2

theorem spanDigits_append (ds r : List Char) (hds : ∀ c ∈ ds, isDigit c = true)
    (hr : NoHead isDigit r) : spanDigits (ds ++ r) = (ds, r) := hr.span hds

theorem numBody_num (cs : List Char) (h : IsNumLex cs) (rest : List Char) (hd : Delim rest) :
    numBody (cs ++ rest) = some (String.ofList cs, rest) := by
  obtain ⟨neg, ip, fp, rfl, hne, hip, hfp⟩ := h
  obtain ⟨d, ip, rfl⟩ := List.exists_cons_of_ne_nil hne
  have hm : d ≠ '-' := digit_ne '-' (by decide) d (hip d (by simp))
  cases fp with
  | nil =>
    have hs := spanDigits_append (d :: ip) rest hip (hd.noHead _ (by decide))
    unfold numBody
    cases neg <;> rcases hd with rfl | ⟨c, r, rfl, rfl | rfl | rfl⟩ <;> simp at hs <;> simp [hm, hs]
  | cons f fp =>
    have hs := spanDigits_append (d :: ip) ('.' :: f :: (fp ++ rest)) hip
      (.cons _ (by decide))
    have hs2 := spanDigits_append (f :: fp) rest hfp (hd.noHead _ (by decide))
    unfold numBody
    cases neg <;> rcases hd with rfl | ⟨c, r, rfl, rfl | rfl | rfl⟩ <;> simp at hs hs2 <;>
      simp [hm, hs, hs2]

theorem tokenize_digit (fuel : Nat) (d : Char) (tl : List Char) (acc : List Tok) (hd : isDigit d = true)
    (s : String) (r : List Char) (hnb : numBody (d :: tl) = some (s, r)) :
    tokenize (fuel + 1) (d :: tl) acc = tokenize fuel r (.num s :: acc) := by
  have h1 := digit_not_space d hd
  have h2 := digit_ne '"' (by decide) d hd
  have h3 := digit_ne '`' (by decide) d hd
  simp [tokenize, h1, h2, h3, hd, hnb]

theorem tokenize_minus (fuel : Nat) (d : Char) (tl : List Char) (acc : List Tok) (hd : isDigit d = true)
    (s : String) (r : List Char) (hnb : numBody ('-' :: d :: tl) = some (s, r)) :
    tokenize (fuel + 1) ('-' :: d :: tl) acc = tokenize fuel r (.num s :: acc) := by
  have h4 : isDigit '-' = false := by decide
  simp [tokenize, hd, isSpace, h4, hnb]

theorem tokenize_num (cs : List Char) (h : IsNumLex cs) (fuel : Nat) (rest : List Char) (acc : List Tok)
    (hd : Delim rest) :
    tokenize (fuel + 1) (cs ++ rest) acc = tokenize fuel rest (Tok.num (String.ofList cs) :: acc) := by
  have hnb := numBody_num cs h rest hd
  obtain ⟨neg, ip, fp, rfl, hne, hip, _⟩ := h
  obtain ⟨d, ip, rfl⟩ := List.exists_cons_of_ne_nil hne
  have hdd := hip d (by simp)
  cases neg <;> simp only [if_true, Bool.false_eq_true, if_false, List.cons_append, List.nil_append,
    List.append_assoc] at hnb ⊢
  · exact tokenize_digit fuel d _ acc hdd _ _ hnb
  · exact tokenize_minus fuel d _ acc hdd _ _ hnb

/-- `toString` on `Int` is what prints the `n` of `from_unixtime(n)` -/
theorem toString_int_isNumLex (n : Int) : IsNumLex (toString n).toList := by
  have hdig : ∀ m : Nat, ∀ c ∈ Nat.toDigits 10 m, isDigit c = true := fun m c hc =>
    Nat.isDigit_of_mem_toDigits (by decide) (by decide) hc
  rw [Int.toString_eq_repr]
  cases n with
  | ofNat m =>
    refine ⟨false, Nat.toDigits 10 m, [], ?_, Nat.toDigits_ne_nil, hdig m, by simp⟩
    simp [Int.repr]
  | negSucc m =>
    refine ⟨true, Nat.toDigits 10 (m + 1), [], ?_, Nat.toDigits_ne_nil, hdig _, by simp⟩
    simp [Int.repr]

/-- positional rendering of a non-empty digit string: `digits+ ('.' digits+)?` wherever the point is -/
theorem fmtPositional_shape (ds : List Char) (dp : Int) (hne : ds ≠ [])
    (hds : ∀ c ∈ ds, isDigit c = true) :
    ∃ ip fp : List Char, Num.fmtPositional ds dp = ip ++ (if fp = [] then [] else '.' :: fp) ∧
      ip ≠ [] ∧ (∀ c ∈ ip, isDigit c = true) ∧ (∀ c ∈ fp, isDigit c = true) := by
  have hlen : 0 < ds.length := List.length_pos_iff.mpr hne
  have htake : ∀ n, ∀ c ∈ ds.take n, isDigit c = true := fun n c hc => hds c (List.mem_of_mem_take hc)
  have hdrop : ∀ n, ∀ c ∈ ds.drop n, isDigit c = true := fun n c hc => hds c (List.mem_of_mem_drop hc)
  refine ⟨if dp > 0 then ds.take dp.toNat ++ List.replicate (dp.toNat - ds.length) '0' else ['0'],
    if (ds.length : Int) > dp then
      List.replicate (if dp < 0 then (-dp).toNat else 0) '0' ++ ds.drop dp.toNat else [], ?_, ?_, ?_, ?_⟩
  · unfold Num.fmtPositional
    by_cases h : (ds.length : Int) > dp
    · have hd : ds.drop dp.toNat ≠ [] := by
        intro e
        have := List.drop_eq_nil_iff.mp e
        omega
      simp [h, hd]
    · simp [h]
  · by_cases h : dp > 0
    · have ht : ds.take dp.toNat ≠ [] := by
        intro e
        rcases List.take_eq_nil_iff.mp e with e | e
        · omega
        · exact hne e
      simp [h, ht]
    · simp [h]
  · by_cases h : dp > 0
    · simp only [h, if_true]
      exact List.forall_mem_append.2 ⟨htake _, List.forall_mem_replicate.2 (.inr (by decide))⟩
    · simp only [h, if_false]
      exact List.forall_mem_singleton.2 (by decide)
  · by_cases h : (ds.length : Int) > dp
    · simp only [h, if_true]
      exact List.forall_mem_append.2 ⟨List.forall_mem_replicate.2 (.inr (by decide)), hdrop _⟩
    · simp [h]

theorem fmtInt_isNumLex (n : Int) : IsNumLex (Num.fmtInt n).toList := by
  cases n with
  | ofNat k =>
    refine ⟨false, Num.natDigits k, [], ?_, Num.natDigits_ne_nil k, Num.natDigits_all_digits k, by simp⟩
    simp [Num.fmtInt, Num.fmtNat]
  | negSucc k =>
    refine ⟨true, Num.natDigits (k + 1), [], ?_, Num.natDigits_ne_nil _, Num.natDigits_all_digits _, by simp⟩
    simp [Num.fmtInt]

theorem fmtFloatBits_isNumLex (b : UInt64) (h : Num.expField b ≠ 2047) :
    IsNumLex (Num.fmtFloatBits b).toList := by
  unfold Num.fmtFloatBits
  rw [if_neg (by simp [Num.bitsIsNaN, h]), if_neg (by simp [Num.bitsIsInf, h])]
  rcases Num.decompose b with ⟨m, e⟩
  simp only []
  by_cases hm : (m == 0) = true
  · rw [if_pos hm, String.toList_ofList]
    exact ⟨Num.signBit b, ['0'], [], by simp, by simp, by decide, by simp⟩
  · rw [if_neg hm]
    rcases Num.shortest m e with ⟨d, k⟩
    obtain ⟨ip, fp, he, hne, hip, hfp⟩ := fmtPositional_shape (Num.natDigits d)
      ((Num.natDigits d).length + k) (Num.natDigits_ne_nil _) (Num.natDigits_all_digits _)
    exact ⟨Num.signBit b, ip, fp, by rw [String.toList_ofList, he, List.append_assoc], hne, hip, hfp⟩

/-- with the three words of the non-finite patterns, the whole of what `fmtFloatBits` prints -/
theorem fmtFloatBits_words_or_lex (b : UInt64) :
    Num.fmtFloatBits b ∈ ["NaN", "-Inf", "+Inf"] ∨ IsNumLex (Num.fmtFloatBits b).toList := by
  by_cases h : Num.expField b = 2047
  · left
    unfold Num.fmtFloatBits
    by_cases hn : Num.bitsIsNaN b = true
    · rw [if_pos hn]; decide
    · rw [if_neg hn, if_pos (by simpa [Num.bitsIsNaN, Num.bitsIsInf, h] using hn)]
      cases Num.signBit b <;> decide
  · exact .inr (fmtFloatBits_isNumLex b h)

/-- the format is strconv's 'f' (no exponent), so every finite number comes out as a numeric lexeme -/
theorem renderNumBits_isNumLex (b : UInt64) (h : Num.expField b ≠ 2047) :
    IsNumLex (Num.renderNumBits b).toList := by
  unfold Num.renderNumBits
  by_cases hi : Num.isIntBits b = true
  · rw [if_pos hi]
    exact fmtInt_isNumLex _
  · rw [if_neg hi]
    exact fmtFloatBits_isNumLex b h

#print axioms tokenize_num
#print axioms renderNumBits_isNumLex
#print axioms toString_int_isNumLex

end Yae.SqlLex
