/-
  The symbol pattern, the raw-string and time patterns and `keywordPostfix` against the reference matcher
  (scanners composed as in `Yae.Proofs.LexScan`).
-/
import Yae.Proofs.LexScan
namespace Yae
namespace Re

theorem clsTest_identStart (c : Char) :
    clsTest false [.range 'a' 'z', .range 'A' 'Z', .letter, .ch '_'] c = isIdentStart c := by
  simp [clsTest, CItem.test, isIdentStart, isAsciiAlpha, Bool.or_assoc]

theorem clsTest_identCont (c : Char) :
    clsTest false [.range 'a' 'z', .range 'A' 'Z', .range '0' '9', .letter, .ch '_'] c
      = isIdentCont c := by
  simp [clsTest, CItem.test, isIdentCont, isAsciiAlpha, isDigit, Bool.or_assoc]

/-- the class of `keywordPostfix`, with `\d` where the symbol pattern has `0-9` -/
theorem clsTest_identCont' (c : Char) :
    clsTest false [.range 'a' 'z', .range 'A' 'Z', .digit, .letter, .ch '_'] c
      = isIdentCont c := by
  simp [clsTest, CItem.test, isIdentCont, isAsciiAlpha, Bool.or_assoc]

theorem isChar_identStart : IsChar identStart isIdentStart :=
  (isChar_cls _ _).congr clsTest_identStart
theorem isChar_identCont : IsChar identCont isIdentCont :=
  (isChar_cls _ _).congr clsTest_identCont

/-- `[a-zA-Z\p{L}_][a-zA-Z0-9\p{L}_]*` -/
theorem scans_sym : Scans (reOf .sym) (sCat (sChar isIdentStart) (sStar isIdentCont)) isIdentCont :=
  Scans.cons isChar_identStart (Scans.starChar isChar_identCont)

theorem sym_reads : Reads (reOf .sym) reSym isIdentCont :=
  ⟨_, scans_sym, fun s => by
    cases s with
    | nil => rfl
    | cons c cs => cases hc : isIdentStart c <;> simp [reSym, sCat, sChar, sStar, hc]⟩

theorem reUntil_eq {p stops : Char → Bool} {close : Char} (hs : ∀ c, stops c = !p c)
    (hc : p close = false) (cs : List Char) :
    reUntil close stops cs = match (skipWhile p cs).2 with
      | x :: _ => if x = close then some ((skipWhile p cs).1 + 1) else none
      | [] => none := by
  induction cs with
  | nil => simp [reUntil, skipWhile]
  | cons x t ih =>
    simp only [reUntil]
    cases hx : p x
    · rw [skipWhile_neg t hx]
      by_cases hxc : x = close
      · simp [hxc]
      · simp [hxc, hs, hx]
    · have hxc : x ≠ close := by rintro rfl; rw [hc] at hx; cases hx
      rw [skipWhile_pos t hx, ih]
      simp only [beq_iff_eq, hxc, if_false, hs, hx, Bool.not_true, Bool.false_eq_true]
      cases (skipWhile p t).2 with
      | nil => rfl
      | cons y _ => by_cases hy : y = close <;> simp [hy]

/-- The class loop runs to the first stop; what follows is the closing character, which is a
stop, so giving back class characters cannot help, whatever the continuation. -/
theorem until_reads {C : Re} {p stops : Char → Bool} {o close : Char} (hC : IsChar C p)
    (hs : ∀ c, stops c = !p c) (hc : p close = false) {f : List Char → Option Nat}
    (hf : ∀ s, f s = match s with
      | c :: cs => if c = o then (reUntil close stops cs).map (· + 1) else none
      | [] => none) : Reads (cat (chr o) (cat (star C) (chr close))) f (fun _ => false) :=
  ⟨_, Scans.cons (isChar_chr o) ((Scans.starChar hC).cat (Scans.char (isChar_chr close))
      fun c t h => (starts_char _).fails (by rw [beq_eq_false_iff_ne]; rintro rfl; rw [hc] at h; cases h) t),
    fun s => by
    rw [hf]
    cases s with
    | nil => rfl
    | cons c cs =>
      by_cases hco : c = o
      · dsimp only
        rw [if_pos hco, reUntil_eq hs hc]
        rcases h : (skipWhile p cs).2 with _ | ⟨y, t⟩
        · simp [sCat, sChar, sStar, hco, h]
        · by_cases hy : y = close <;> simp [sCat, sChar, sStar, hco, h, hy, Nat.add_comm]
      · simp [sCat, sChar, hco]⟩

/-- `` `[^`]*` `` (raw string) -/
theorem raw_reads : Reads (reOf .raw) reRaw (fun _ => false) :=
  until_reads (isChar_cls _ _) (stops := (· == '`')) (by intro c; simp [clsTest, CItem.test])
    (by decide) (by intro s; cases s <;> simp [reRaw])

/-- ``'[^`"']*'`` -/
theorem time_reads : Reads (reOf .time) reTime (fun _ => false) :=
  until_reads (isChar_cls _ _) (stops := fun c => c == '`' || c == '"' || c == '\'')
    (by intro c; simp [clsTest, CItem.test, Bool.or_assoc]) (by decide)
    (by intro s; cases s <;> simp [reTime])

/-- `keywordPostfix.MatchString(t)`: `t` starts with an identifier character. -/
theorem keywordPostfix_matchPrefix (t : List Char) :
    reKeywordPostfix.matchPrefix t = match t with
      | c :: _ => isIdentCont c
      | [] => false := by
  unfold matchPrefix reKeywordPostfix
  rw [(Scans.plusChar ((isChar_cls _ _).congr clsTest_identCont')).matchLen]
  cases t with
  | nil => rfl
  | cons c cs => cases h : isIdentCont c <;> simp [sPlus, skipWhile_pos cs, skipWhile_neg cs, h]

end Re
end Yae
