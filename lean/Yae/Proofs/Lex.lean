/-
  Lemmas about the lexer loop (`Yae.lexLoop`, `Yae.lex`) for C09 / C12:
  the layout invariant (tokens partition the input up to white space, positions are the
  `Pos.move` cursor), progress (every successful round consumes a rune) and fuel.

  `fun_induction lexLoop` gives five cases in the order of the definition: out of fuel; only
  white space left; no rule matches; a token and the rest lexed; a token and the rest fails.
-/
import Yae.Model.Lexer
namespace Yae

/-- A global instance: the instances of `lex … = .ok …` / `.error …` in `Props/C09` and `Props/C12` are closed by
`decide +kernel` through it. -/
instance exceptDecEq {ε α : Type} [DecidableEq ε] [DecidableEq α] : DecidableEq (Except ε α)
  | .ok a, .ok b =>
    if h : a = b then isTrue (by rw [h]) else isFalse (by intro h'; cases h'; exact h rfl)
  | .error a, .error b =>
    if h : a = b then isTrue (by rw [h]) else isFalse (by intro h'; cases h'; exact h rfl)
  | .ok _, .error _ => isFalse (by intro h; cases h)
  | .error _, .ok _ => isFalse (by intro h; cases h)

/-- The cursor after moving over a run of characters (`(*Pos).Move` iterated). -/
def Pos.moves (p : Pos) (cs : List Char) : Pos := cs.foldl Pos.move p

@[simp] theorem Pos.moves_nil (p : Pos) : p.moves [] = p := rfl
@[simp] theorem Pos.moves_cons (p : Pos) (c : Char) (cs : List Char) :
    p.moves (c :: cs) = (p.move c).moves cs := rfl
theorem Pos.moves_append (p : Pos) (a b : List Char) :
    p.moves (a ++ b) = (p.moves a).moves b := by simp [Pos.moves, List.foldl_append]

/-- Number of characters after the last `'\n'` (all of them when there is none). -/
def colOf (cs : List Char) : Nat := (cs.reverse.takeWhile (· ≠ '\n')).length

/-- The cursor in closed form: runes, line breaks, and runes since the last line break (the start column is
carried until the first one). -/
theorem Pos.moves_eq (p : Pos) (cs : List Char) :
    p.moves cs = ⟨p.idx + cs.length, p.idxEnd,
      (if '\n' ∈ cs then 0 else p.col) + colOf cs, p.line + cs.count '\n'⟩ := by
  suffices h : ∀ rs : List Char, p.moves rs.reverse = ⟨p.idx + rs.length, p.idxEnd,
      (if '\n' ∈ rs then 0 else p.col) + (rs.takeWhile (· ≠ '\n')).length, p.line + rs.count '\n'⟩ by
    simpa [colOf] using h cs.reverse
  intro rs
  induction rs with
  | nil => simp
  | cons c rs ih =>
    rw [List.reverse_cons, Pos.moves_append, ih]
    by_cases h : c = '\n'
    · subst h; simp [Pos.move]; omega
    · have hne : ¬ ('\n' = c) := fun h' => h h'.symm
      simp [Pos.move, h, hne]
      omega

theorem Pos.moves_idx (p : Pos) (cs : List Char) : (p.moves cs).idx = p.idx + cs.length := by
  rw [Pos.moves_eq]

theorem Pos.moves_idxEnd (p : Pos) (cs : List Char) : (p.moves cs).idxEnd = p.idxEnd := by
  rw [Pos.moves_eq]

/-- The position recorded in a token whose text `lexeme` starts at cursor `p`. -/
def tokPos (p : Pos) (lexeme : List Char) : Pos := { p with idxEnd := (p.moves lexeme).idx }

theorem skipSpace_of_nonspace {c : Char} (r : List Char) (p : Pos) (h : isSpace c = false) :
    skipSpace (c :: r) p = (c :: r, p) := by simp [skipSpace, h]

theorem skipSpace_spec (cs : List Char) (p : Pos) :
    ∃ ws, cs = ws ++ (skipSpace cs p).1 ∧ (∀ c ∈ ws, isSpace c = true) ∧
      (skipSpace cs p).2 = p.moves ws ∧
      (∀ c r, (skipSpace cs p).1 = c :: r → isSpace c = false) := by
  induction cs generalizing p with
  | nil => exact ⟨[], by simp [skipSpace]⟩
  | cons c cs ih =>
    cases h : isSpace c
    · rw [skipSpace_of_nonspace cs p h]
      refine ⟨[], rfl, by simp, rfl, ?_⟩
      intro x r hx
      cases hx
      exact h
    · obtain ⟨ws, h1, h2, h3, h4⟩ := ih (p.move c)
      simp only [skipSpace, h, if_true]
      refine ⟨c :: ws, ?_, List.forall_mem_cons.2 ⟨h, h2⟩, h3, h4⟩
      rw [List.cons_append, ← h1]

theorem skipSpace_length (cs : List Char) (p : Pos) : (skipSpace cs p).1.length ≤ cs.length := by
  obtain ⟨ws, h1, -⟩ := skipSpace_spec cs p
  have := congrArg List.length h1
  simp at this; omega

theorem firstMatch_spec {rules : List Rule} {s : List Char} {k : String} {n : Nat}
    (h : firstMatch rules s = some (k, n)) :
    ∃ pre r post, rules = pre ++ r :: post ∧ r.kind = k ∧ r.m.run s = some n ∧
      ∀ r' ∈ pre, r'.m.run s = none := by
  induction rules with
  | nil => simp [firstMatch] at h
  | cons r rs ih =>
    simp only [firstMatch] at h
    split at h
    · rename_i m hm
      simp at h
      exact ⟨[], r, rs, rfl, h.1, by rw [hm, h.2], by simp⟩
    · rename_i hm
      obtain ⟨pre, r0, post, e, hk, hr, hp⟩ := ih h
      exact ⟨r :: pre, r0, post, by simp [e], hk, hr, List.forall_mem_cons.2 ⟨hm, hp⟩⟩

theorem firstMatch_mem {rules : List Rule} {s : List Char} {k : String} {n : Nat}
    (h : firstMatch rules s = some (k, n)) : ∃ r ∈ rules, r.kind = k ∧ r.m.run s = some n := by
  obtain ⟨pre, r, post, e, hk, hr, _⟩ := firstMatch_spec h
  exact ⟨r, by rw [e]; simp, hk, hr⟩

theorem firstMatch_eq_none {rules : List Rule} {s : List Char} :
    firstMatch rules s = none ↔ ∀ r ∈ rules, r.m.run s = none := by
  induction rules with
  | nil => simp [firstMatch]
  | cons r rs ih =>
    rw [List.forall_mem_cons, ← ih, firstMatch]
    cases r.m.run s <;> simp

/-- Starting with cursor `p` in front of `cs`, the tokens `ts` are laid out in `cs` from left to right, runs of
white space (possibly empty) between them; each lexeme is what the first matching rule matched on the whole
remaining input, and its recorded position is the cursor reached by `Pos.move` over everything before it. -/
inductive Lexed (rules : List Rule) : Pos → List Char → List Token → Prop
  | done {p : Pos} {ws : List Char} : (∀ c ∈ ws, isSpace c = true) → Lexed rules p ws []
  | tok {p : Pos} {ws : List Char} {t : Token} {ts : List Token} {rest : List Char} {n : Nat} :
      (∀ c ∈ ws, isSpace c = true) →
      t.lexeme.toList ≠ [] →
      (∀ c r, t.lexeme.toList = c :: r → isSpace c = false) →
      firstMatch rules (t.lexeme.toList ++ rest) = some (t.kind, n) →
      t.lexeme.toList = (t.lexeme.toList ++ rest).take n →
      t.pos = tokPos (p.moves ws) t.lexeme.toList →
      Lexed rules ((p.moves ws).moves t.lexeme.toList) rest ts →
      Lexed rules p (ws ++ t.lexeme.toList ++ rest) (t :: ts)

/-- A rule that matches the empty string at a non-space character makes the loop spin: the
model runs out of fuel (Go loops for ever).  Hence no successful run contains an empty token. -/
theorem lexLoop_stuck {rules : List Rule} {c : Char} {r : List Char} {k : String}
    (hc : isSpace c = false) (hm : firstMatch rules (c :: r) = some (k, 0)) (fuel : Nat) (p : Pos) :
    lexLoop rules fuel (c :: r) p = .error .fuel := by
  induction fuel with
  | zero => rfl
  | succ f ih =>
    simp only [lexLoop, skipSpace_of_nonspace r p hc, hm, List.take_zero, List.drop_zero,
      List.foldl_nil, ih]

theorem lexLoop_succ {rules : List Rule} {cs cs1 : List Char} {p p1 : Pos} (f : Nat)
    (h : skipSpace cs p = (cs1, p1)) (hne : cs1 ≠ []) :
    lexLoop rules (f + 1) cs p = match firstMatch rules cs1 with
      | none => .error .syntax
      | some (kind, n) =>
        match lexLoop rules f (cs1.drop n) ((cs1.take n).foldl Pos.move p1) with
        | .ok ts => .ok (⟨kind, String.ofList (cs1.take n),
            { p1 with idxEnd := ((cs1.take n).foldl Pos.move p1).idx }⟩ :: ts)
        | .error e => .error e := by
  cases cs1 with
  | nil => exact absurd rfl hne
  | cons c r => simp only [lexLoop, h]; rfl

theorem lexLoop_lexed {rules : List Rule} {fuel : Nat} {cs : List Char} {p : Pos}
    {ts : List Token} (h : lexLoop rules fuel cs p = .ok ts) : Lexed rules p cs ts := by
  fun_induction lexLoop rules fuel cs p generalizing ts with
  | case1 | case3 | case5 => cases h
  | case2 =>
    rename_i fuel cs p _ hsk
    cases h
    obtain ⟨ws, h1, h2, -⟩ := skipSpace_spec cs p
    rw [hsk, List.append_nil] at h1
    rw [h1]; exact Lexed.done h2
  | case4 =>
    -- `hsk : skipSpace cs p = (cs1, p1)`, `hne : cs1 ≠ []`,
    -- `hfm : firstMatch rules cs1 = some (kind, n)`, `hrec`: the recursive call returns `.ok ts'`
    rename_i fuel cs p cs1 p1 hne hsk kind n hfm _ _ _ ts' hrec ih
    cases h
    obtain ⟨ws, h1, h2, h3, h4⟩ := skipSpace_spec cs p
    rw [hsk] at h1 h3 h4
    obtain rfl : p1 = p.moves ws := h3
    obtain ⟨c, r, rfl⟩ : ∃ c r, cs1 = c :: r := List.exists_cons_of_ne_nil hne
    have hc : isSpace c = false := h4 c r rfl
    have hn : n ≠ 0 := by
      rintro rfl
      rw [List.drop_zero, lexLoop_stuck hc hfm] at hrec
      cases hrec
    obtain ⟨m, rfl⟩ : ∃ m, n = m + 1 := ⟨n - 1, by omega⟩
    have htd : List.take (m + 1) (c :: r) ++ List.drop (m + 1) (c :: r) = c :: r :=
      List.take_append_drop _ _
    have := Lexed.tok (rules := rules) (p := p) (ws := ws) (ts := ts') (n := m + 1)
      (t := ⟨kind, String.ofList (List.take (m + 1) (c :: r)),
        tokPos (p.moves ws) (List.take (m + 1) (c :: r))⟩)
      (rest := List.drop (m + 1) (c :: r)) h2
    simp only [String.toList_ofList, htd] at this
    have := this (by simp) (by intro c' r' e; simp at e; rw [← e.1]; exact hc) hfm trivial trivial
      (ih hrec)
    rw [List.append_assoc, htd, ← h1] at this
    exact this

theorem lex_lexed {ops : List Operator} {s : List Char} {ts : List Token}
    (h : lex ops s = .ok ts) : Lexed (newLexicon ops) Pos.zero s ts := lexLoop_lexed h

theorem Lexed.tokAt {rules : List Rule} {p : Pos} {cs : List Char} {ts : List Token}
    (h : Lexed rules p cs ts) {t : Token} (ht : t ∈ ts) :
    ∃ pre post n, cs = pre ++ t.lexeme.toList ++ post ∧ t.lexeme.toList ≠ [] ∧
      (∀ c r, t.lexeme.toList = c :: r → isSpace c = false) ∧
      t.pos = tokPos (p.moves pre) t.lexeme.toList ∧
      firstMatch rules (t.lexeme.toList ++ post) = some (t.kind, n) ∧
      t.lexeme.toList = (t.lexeme.toList ++ post).take n := by
  induction h with
  | done _ => cases ht
  | @tok p ws t0 ts rest n hws hne hhead hfm htake hpos _ ih =>
    cases ht with
    | head => exact ⟨ws, rest, n, rfl, hne, hhead, hpos, hfm, htake⟩
    | tail _ ht =>
      obtain ⟨pre, post, m, e, h1, h2, h3, h4, h5⟩ := ih ht
      refine ⟨ws ++ t0.lexeme.toList ++ pre, post, m, ?_, h1, h2, ?_, h4, h5⟩
      · rw [e]; simp [List.append_assoc]
      · rw [h3, Pos.moves_append, Pos.moves_append]

theorem Lexed.partition {rules : List Rule} {p : Pos} {cs : List Char} {ts : List Token}
    (h : Lexed rules p cs ts) :
    ∃ (gaps : List (List Char)) (last : List Char), gaps.length = ts.length ∧
      (∀ w ∈ gaps, ∀ c ∈ w, isSpace c = true) ∧ (∀ c ∈ last, isSpace c = true) ∧
      cs = (List.zipWith (fun w (t : Token) => w ++ t.lexeme.toList) gaps ts).flatten ++ last := by
  induction h with
  | @done p ws hws => exact ⟨[], ws, rfl, by simp, hws, by simp⟩
  | @tok p ws t0 ts rest n hws hne hhead hfm htake hpos _ ih =>
    obtain ⟨gaps, last, hl, hg, hlast, e⟩ := ih
    refine ⟨ws :: gaps, last, by simp [hl], List.forall_mem_cons.2 ⟨hws, hg⟩, hlast, ?_⟩
    rw [e]; simp [List.append_assoc]

theorem Lexed.bounds {rules : List Rule} {p : Pos} {cs : List Char} {ts : List Token}
    (h : Lexed rules p cs ts) :
    (∀ t ∈ ts, p.idx ≤ t.pos.idx ∧ t.pos.idx < t.pos.idxEnd ∧ t.pos.idxEnd ≤ p.idx + cs.length ∧
      t.pos.idxEnd = t.pos.idx + t.lexeme.toList.length) ∧
    ts.Pairwise (fun a b => a.pos.idxEnd ≤ b.pos.idx) := by
  -- a token's bounds are read off its place in the input (`tokAt`); only the order needs the induction
  have tokens : ∀ {p cs ts}, Lexed rules p cs ts → ∀ t ∈ ts, p.idx ≤ t.pos.idx ∧ t.pos.idx < t.pos.idxEnd ∧
      t.pos.idxEnd ≤ p.idx + cs.length ∧ t.pos.idxEnd = t.pos.idx + t.lexeme.toList.length := by
    intro p cs ts h t ht
    obtain ⟨pre, post, n, rfl, hne, -, hpos, -, -⟩ := h.tokAt ht
    have := List.length_pos_iff.mpr hne
    simp only [hpos, tokPos, Pos.moves_idx, List.length_append]
    exact ⟨by omega, by omega, by omega, trivial⟩
  refine ⟨tokens h, ?_⟩
  induction h with
  | done _ => exact .nil
  | @tok p ws t0 ts rest n hws hne hhead hfm htake hpos hrest ih =>
    refine List.pairwise_cons.mpr ⟨fun t ht => ?_, ih⟩
    have := (tokens hrest t ht).1
    simp only [hpos, tokPos, Pos.moves_idx] at this ⊢
    omega

theorem Lexed.length_le {rules : List Rule} {p : Pos} {cs : List Char} {ts : List Token}
    (h : Lexed rules p cs ts) : ts.length ≤ cs.length := by
  induction h with
  | done _ => simp
  | @tok p ws t0 ts rest n hws hne hhead hfm htake hpos _ ih =>
    have hlen : 0 < t0.lexeme.toList.length := List.length_pos_iff.mpr hne
    simp only [List.length_append, List.length_cons]; omega

theorem tokPos_zero (pre lexeme : List Char) :
    tokPos (Pos.zero.moves pre) lexeme
      = ⟨pre.length, pre.length + lexeme.length, colOf pre, pre.count '\n'⟩ := by
  simp [tokPos, Pos.moves_eq, Pos.zero]

def RulesProgress (rules : List Rule) : Prop :=
  ∀ r ∈ rules, ∀ s n, r.m.run s = some n → 0 < n

theorem firstMatch_pos {rules : List Rule} (hp : RulesProgress rules) {s : List Char} {k : String}
    {n : Nat} (h : firstMatch rules s = some (k, n)) : 0 < n := by
  obtain ⟨r, hr, _, hrun⟩ := firstMatch_mem h
  exact hp r hr s n hrun

theorem lexLoop_no_fuel {rules : List Rule} (hp : RulesProgress rules) (fuel : Nat)
    (cs : List Char) (p : Pos) (hf : cs.length < fuel) : lexLoop rules fuel cs p ≠ .error .fuel := by
  fun_induction lexLoop rules fuel cs p with
  | case1 => omega
  | case2 | case3 | case4 => simp
  | case5 =>
    -- as in `lexLoop_lexed`, with `hrec`: the recursive call returns `.error e`
    rename_i fuel cs p cs1 p1 hne hsk _ n hfm _ _ e hrec ih
    have hn := firstMatch_pos hp hfm
    have hpos : 0 < cs1.length := List.length_pos_iff.mpr hne
    have hlen := skipSpace_length cs p
    rw [hsk] at hlen
    have hd : (List.drop n cs1).length < fuel := by
      rw [List.length_drop]; simp only at hlen; omega
    have := ih hd
    rw [hrec] at this
    exact this

/-- `ts.length + 1`: one round per token plus the final round that finds the end of the input. -/
theorem lexLoop_fuel_exact {rules : List Rule} {f : Nat} {cs : List Char} {p : Pos}
    {ts : List Token} (h : lexLoop rules f cs p = .ok ts) :
    lexLoop rules (ts.length + 1) cs p = .ok ts := by
  fun_induction lexLoop rules f cs p generalizing ts with
  | case1 | case3 | case5 => cases h
  | case2 => rename_i hsk; cases h; simp only [lexLoop, hsk]
  | case4 =>
    rename_i hne hsk _ _ hfm _ _ _ _ hrec ih
    cases h
    rw [List.length_cons, lexLoop_succ _ hsk hne, hfm]
    simp only []
    rw [ih hrec]

end Yae
