/-
  C08: every tree the parser returns respects the declarations (`Respects`).  Induction on the
  derivation of what was returned (`Big`); the invariant of `expr(rbp)` returning the
  tree `t` with the cursor at `j` is `Inv2`: (R1)–(R3) at every node of `t`, every led-built node
  on the left spine of `t` binds tighter than `rbp`, the loop stopped at token `j` because its
  power is not above `rbp`, and the same for every node open on the right on the right spine.
  All but "the loop stopped" (`Held`) holds of the tree in the loop's hand each time round: a `nud`
  establishes it, a `led` keeps it.
-/
import Yae.Proofs.ParseRespects
import Yae.Proofs.ParseYieldSound
import Yae.Proofs.ParseGrammar
namespace Yae

/-- the loop of `expr(rbp)` may hold the tree `t` with the cursor at `j`: (R1)–(R3) at every node, the
left spine against `rbp`, the right spine against the token at `j` -/
structure Held (env : PEnv) (rbp : BP) (t : Expr) (j : Nat) : Prop where
  resp : t.All (Expr.respHere env.g)
  above : t.leftAbove env.g rbp
  follow : Follow env.g (env.peek j).kind t

/-- `Held env rbp t j`, and the loop stops at `j` (the token there does not bind above `rbp`): what `expr(rbp)`
returns with -/
structure Inv2 (env : PEnv) (rbp : BP) (t : Expr) (j : Nat) : Prop extends Held env rbp t j where
  stop : ¬ (rbp < env.g.infixLbp (env.peek j).kind)

/-- an operand read with `expr(0)` -/
def R0 (env : PEnv) (e : Expr) : Prop := e.All (Expr.respHere env.g) ∧ e.leftAbove env.g 0

/-! A list or map node all of whose members were read with `expr(0)` has (R1)–(R3) at every node. -/

theorem resp_list {env : PEnv} {p : Pos} {es : List Expr} {ty : Option Ty} (h : ∀ e ∈ es, R0 env e) :
    (Expr.list p (ExprList.ofList es) ty).All (Expr.respHere env.g) := by
  simp only [Expr.All, Expr.respHere, ExprList.toList_ofList, allList_ofList]
  exact ⟨fun e he => (h e he).2, fun e he => (h e he).1⟩

theorem resp_map {env : PEnv} {p : Pos} {ps : List (Expr × Expr)} {ty : Option Ty}
    (h : ∀ kv ∈ ps, R0 env kv.1 ∧ R0 env kv.2) :
    (Expr.map p (PairList.ofList ps) ty).All (Expr.respHere env.g) := by
  simp only [Expr.All, Expr.respHere, PairList.toList_ofList, allPairs_ofList]
  exact ⟨fun kv hkv => ⟨(h kv hkv).1.2, (h kv hkv).2.2⟩, fun kv hkv => ⟨(h kv hkv).1.1, (h kv hkv).2.1⟩⟩

/-- what a derivable judgement says about (R1)–(R3): `expr(rbp)` returns with `Inv2`; a `nud` entered
on the token at `k` builds a tree that the loop may hold whatever `rbp` is (nothing on its left spine
is led-built); a `led` entered on an operator at `k` above `rbp` keeps `Held`; so does `pCall`, given
what (R2) and the left spine of a call node ask of the callee; the loops collect operands read with
`expr(0)` -/
def ParseJudgement.R (env : PEnv) : ParseJudgement → Prop
  | .nud t i bp n e j => ∀ k, env.nudAt k bp n → t = env.peek k → i = k + 1 → ∀ rbp, Held env rbp e j
  | .led l t i bp d e j => ∀ rbp k, Held env rbp l k → env.ledAt k bp d →
      rbp < env.g.infixLbp (env.peek k).kind → t = env.peek k → i = k + 1 → Held env rbp e j
  | .expr rbp _ r => Inv2 env rbp r.1 r.2
  | .infx l rbp i r => Held env rbp l i → Inv2 env rbp r.1 r.2
  | .call c _ _ r => ∀ rbp, c.All (Expr.respHere env.g) →
      (c.isMember = true ∨ (c.rightOK env.g (env.g.infixLbp "(") ∧ c.endsInMember = false)) →
      (c.isMember = true ∨ rbp < env.g.infixLbp "(") ∧ c.leftAbove env.g rbp → Held env rbp r.1 r.2
  | .args acc _ r | .list acc _ r => (∀ a ∈ acc, R0 env a) → ∀ a ∈ r.1, R0 env a
  | .map acc _ r =>
      (∀ kv ∈ acc, R0 env kv.1 ∧ R0 env kv.2) → ∀ kv ∈ r.1, R0 env kv.1 ∧ R0 env kv.2
  | .obj acc _ r => (∀ nv ∈ acc, R0 env nv.2) → ∀ nv ∈ r.1, R0 env nv.2

theorem Inv2.r0 {env : PEnv} {e : Expr} {j : Nat} (I : Inv2 env 0 e j) : R0 env e :=
  ⟨I.resp, I.above⟩

theorem Big.resp {env : PEnv} (hE : env.NoEOF) (hL : env.OpLex) (hK : env.g.LedKinds)
    {J : ParseJudgement} (h : Big env J) : J.R env := by
  induction h <;> simp only [ParseJudgement.R] at *
  case ident | true_ | false_ | num | str =>
    rintro k hn rfl rfl _; exact ⟨trivial, trivial, follow_closed (fun _ => trivial) rfl⟩
  case time he =>
    rintro k hn rfl rfl _
    obtain ⟨v, rfl⟩ := timeLit_ok he
    exact ⟨trivial, trivial, follow_closed (fun _ => trivial) rfl⟩
  case group ih =>
    rintro k hn rfl rfl _
    exact ⟨⟨ih.above, ih.resp⟩, trivial, follow_closed (fun _ => trivial) rfl⟩
  case pre ih =>
    rintro k hn rfl rfl _
    have hbp := hL.pre hn
    refine ⟨?_, trivial, Follow.pre.mpr ⟨hbp ▸ ih.stop, ih.follow⟩⟩
    simp only [Expr.All, Expr.respHere, hbp]; exact ⟨ih.above, ih.resp⟩
  case emptyMap =>
    rintro k hn rfl rfl _
    exact ⟨resp_map (ps := []) nofun, trivial, follow_closed (fun _ => trivial) rfl⟩
  case emptyList =>
    rintro k hn rfl rfl _
    exact ⟨resp_list (es := []) nofun, trivial, follow_closed (fun _ => trivial) rfl⟩
  case list1 ih =>
    rintro k hn rfl rfl _
    exact ⟨resp_list (List.forall_mem_singleton.mpr ih.r0), trivial,
      follow_closed (fun _ => trivial) rfl⟩
  case listN ih1 ih2 =>
    rintro k hn rfl rfl _
    have I := ih2 (List.forall_mem_singleton.mpr ih1.r0)
    exact ⟨resp_list fun a ha => I a (List.mem_reverse.mp ha), trivial,
      follow_closed (fun _ => trivial) rfl⟩
  case map1 ih1 ih2 =>
    rintro k hn rfl rfl _
    exact ⟨resp_map (List.forall_mem_singleton.mpr ⟨ih1.r0, ih2.r0⟩), trivial,
      follow_closed (fun _ => trivial) rfl⟩
  case mapN ih1 ih2 ih3 =>
    rintro k hn rfl rfl _
    have I := ih3 (List.forall_mem_singleton.mpr ⟨ih1.r0, ih2.r0⟩)
    exact ⟨resp_map fun kv hkv => I kv (List.mem_reverse.mp hkv), trivial,
      follow_closed (fun _ => trivial) rfl⟩
  case obj ih =>
    rintro k hn rfl rfl _
    have I := ih (by simp)
    refine ⟨?_, trivial, follow_closed (fun _ => trivial) rfl⟩
    simp only [Expr.All, Expr.respHere, FieldEList.toList_ofList, allFields_ofList]
    exact ⟨fun nv hnv => (I nv (by simpa using hnv)).2, fun nv hnv => (I nv (by simpa using hnv)).1⟩
  case binary hfx _ _ ih =>
    rintro rbp k H hd hgt rfl rfl
    obtain ⟨hlex, hbp'⟩ := hL.led hd
    rw [← binRbp_led hfx hbp'] at ih
    refine ⟨?_, ?_, Follow.binary.mpr ⟨ih.stop, ih.follow⟩⟩
    · simp only [Expr.All, Expr.respHere]
      exact ⟨⟨ih.above, by rw [hlex]; exact H.follow.1⟩, H.resp, ih.resp⟩
    · simp only [Expr.leftAbove]; exact ⟨by rw [hlex]; exact hgt, H.above⟩
  case post =>
    rintro rbp k H hd hgt rfl rfl
    obtain ⟨hlex, -⟩ := hL.led hd
    refine ⟨?_, ?_, follow_closed (fun _ => trivial) rfl⟩
    · simp only [Expr.All, Expr.respHere]; exact ⟨by rw [hlex]; exact H.follow.1, H.resp⟩
    · simp only [Expr.leftAbove]; exact ⟨by rw [hlex]; exact hgt, H.above⟩
  case ternary ih1 ih2 =>
    rintro rbp k H hd hgt rfl rfl
    obtain ⟨hlex, hbp'⟩ := hL.led hd
    refine ⟨?_, ?_, Follow.ternary.mpr ⟨hbp' ▸ ih2.stop, ih2.follow⟩⟩
    · simp only [Expr.All, Expr.respHere, hbp']
      exact ⟨⟨hbp' ▸ (by rw [hlex]; exact H.follow.1), ih1.above, ih2.above⟩, H.resp, ih1.resp,
        ih2.resp⟩
    · simp only [Expr.leftAbove]; exact ⟨by rw [hlex]; exact hgt, H.above⟩
  case call ih =>
    rintro rbp k H hd hgt rfl rfl
    have hk : (env.peek k).kind = "(" := hK.call _ _ hd.2
    exact ih rbp H.resp (.inr ⟨hk ▸ H.follow.1, Bool.eq_false_iff.mpr fun hm => H.follow.2 hm hk⟩)
      ⟨.inr (hk ▸ hgt), H.above⟩
  case member hp =>
    rintro rbp k H hd hgt rfl rfl
    have hk : (env.peek k).kind = "." := hK.dot _ _ hd.2
    refine ⟨?_, ?_, Follow.member.mpr hp⟩
    · simp only [Expr.All, Expr.respHere]; exact ⟨hk ▸ H.follow.1, H.resp⟩
    · simp only [Expr.leftAbove]; exact ⟨hk ▸ hgt, H.above⟩
  case methodCall ih =>
    rintro rbp k H hd hgt rfl rfl
    have hk : (env.peek k).kind = "." := hK.dot _ _ hd.2
    exact ih rbp (by simp only [Expr.All, Expr.respHere]; exact ⟨hk ▸ H.follow.1, H.resp⟩)
      (.inl rfl) ⟨.inl rfl, hk ▸ hgt, H.above⟩
  case subscript ih =>
    rintro rbp k H hd hgt rfl rfl
    have hk : (env.peek k).kind = "[" := hK.subscript _ _ hd.2
    refine ⟨?_, ?_, follow_closed (fun _ => trivial) rfl⟩
    · simp only [Expr.All, Expr.respHere]; exact ⟨⟨hk ▸ H.follow.1, ih.above⟩, H.resp, ih.resp⟩
    · simp only [Expr.leftAbove]; exact ⟨hk ▸ hgt, H.above⟩
  case mk hl _ _ ih1 ih2 =>
    have hi := PEnv.lt_of_prefix hE hl
    exact ih2 (ih1 _ ⟨hi, hl⟩ rfl (env.adv_lt hi) _)
  case istop hs _ => exact fun H => ⟨H, hs⟩
  case istep hgt hl _ _ _ ih1 ih2 =>
    have hi := PEnv.lt_of_infix hE hl
    exact fun H => ih2 (ih1 _ _ H ⟨hi, hl⟩ hgt rfl (env.adv_lt hi))
  case cnil =>
    intro rbp hc hcond hab
    refine ⟨?_, hab, follow_closed (fun _ => trivial) rfl⟩
    simp only [Expr.All, Expr.respHere, ExprList.toList_ofList, allList_ofList]
    exact ⟨⟨hcond, nofun⟩, hc, nofun⟩
  case cargs ih =>
    intro rbp hc hcond hab
    have I := ih (by simp)
    refine ⟨?_, hab, follow_closed (fun _ => trivial) rfl⟩
    simp only [Expr.All, Expr.respHere, ExprList.toList_ofList, allList_ofList]
    exact ⟨⟨hcond, fun a ha => (I a (by simpa using ha)).2⟩, hc,
      fun a ha => (I a (by simpa using ha)).1⟩
  case aone ih | lone ih | oone ih => exact fun hacc => List.forall_mem_cons.mpr ⟨ih.r0, hacc⟩
  case acons ih1 ih2 | lcons ih1 ih2 | ocons ih1 ih2 =>
    exact fun hacc => ih2 (List.forall_mem_cons.mpr ⟨ih1.r0, hacc⟩)
  case lnil | mnil | onil => exact id
  case mone ih1 ih2 => exact fun hacc => List.forall_mem_cons.mpr ⟨⟨ih1.r0, ih2.r0⟩, hacc⟩
  case mcons ih1 ih2 ih3 =>
    exact fun hacc => ih3 (List.forall_mem_cons.mpr ⟨⟨ih1.r0, ih2.r0⟩, hacc⟩)

theorem newGrammar_leds (ops : List Operator) :
    ∀ k bp led, tableLookup k (newGrammar ops).infixs = some (bp, led) →
      (led = .call → k = "(") ∧ (led = .dot → k = ".") ∧ (led = .subscript → k = "[") ∧
        (led = .question → k = "?") :=
  fun _ _ _ => (newGrammar_entries (P := fun _ _ _ => True) (Q := fun k _ led =>
      (led = .call → k = "(") ∧ (led = .dot → k = ".") ∧ (led = .subscript → k = "[") ∧
        (led = .question → k = "?")) ops
    (fun _ _ => trivial) (by decide)
    fun o _ => ⟨fun _ => trivial, fun led hl => by
      rcases hl with rfl | rfl | rfl | rfl <;> exact ⟨nofun, nofun, nofun, nofun⟩⟩).led

theorem newGrammar_ledKinds (ops : List Operator) : (newGrammar ops).LedKinds :=
  have h := newGrammar_leds ops
  ⟨fun k bp hl => (h k bp _ hl).1 rfl, fun k bp hl => (h k bp _ hl).2.1 rfl,
    fun k bp hl => (h k bp _ hl).2.2.1 rfl⟩

/-- `PEnv.OpLex` as a condition on the token list, the form in which the statements of C08 assume it. -/
def OpLexemes (ops : List Operator) (toks : List Token) : Prop :=
  ∀ t ∈ toks, (newGrammar ops).isOpKind t.kind → t.lexeme = t.kind

theorem OpLexemes.env {ops : List Operator} {times : List (String × Int)} {toks : List Token}
    (h : OpLexemes ops toks) : (mkEnv ops times toks).OpLex := by
  intro i hi hk
  rw [mkEnv_size] at hi
  rw [mkEnv_peek hi] at hk ⊢
  exact h _ (List.getElem_mem _) hk

theorem parseWith_respects {fuel : Nat} {ops : List Operator}
    {times : List (String × Int)} {toks : List Token} (hE : PEnv.NoEOF (mkEnv ops times toks))
    (hL : OpLexemes ops toks) {t : Expr}
    (h : parseWith fuel ops times toks = .ok t) : Respects (newGrammar ops) t :=
  have ⟨_, h1, _⟩ := parseWith_ok_iff.mp h
  have I := ((big_of_fuel _ fuel).exprB h1).resp hE (hL.env (times := times))
    (newGrammar_ledKinds ops)
  ⟨I.above, I.resp, parseWith_all noChain_nodeOK h⟩

theorem Grammar.isOpKind_iff (g : Grammar) (k : String) :
    g.isOpKind k ↔
      ((tableLookup k g.prefixs).any (fun e => e.2 == Nud.unaryPrefix) = true ∨
        (tableLookup k g.infixs).isSome = true) := by
  unfold Grammar.isOpKind
  constructor
  · rintro (⟨bp, h⟩ | ⟨bp, led, h⟩)
    · left; rw [h]; rfl
    · right; rw [h]; rfl
  · rintro (h | h)
    · obtain ⟨⟨bp, nud⟩, he, hp⟩ := (Option.any_eq_true _ _).mp h
      obtain rfl : nud = .unaryPrefix := eq_of_beq hp
      exact .inl ⟨bp, he⟩
    · obtain ⟨e, he⟩ := Option.isSome_iff_exists.mp h
      exact .inr ⟨e.1, e.2, he⟩

-- the two instances are for the closed examples of `Props/C08`, which decide `OpLexemes` of their token lists
instance (g : Grammar) (k : String) : Decidable (g.isOpKind k) :=
  decidable_of_iff _ (g.isOpKind_iff k).symm

instance (ops : List Operator) (toks : List Token) : Decidable (OpLexemes ops toks) := by
  unfold OpLexemes; infer_instance

end Yae
