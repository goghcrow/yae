/-
  The induction on fuel (`evalOK`): at every fuel an annotated tree evaluates, in a conforming
  environment, to a value of its type, or stops with an allowed failure, or runs out of fuel, the
  last only when the fuel is not more than the depth of the tree.  The bound owes nothing to typing
  (`eval` spends one unit of fuel per level it descends); it is proved along because the induction is
  the same.  `progress` and `progress_run` read `evalOK` at a fuel above the depth.
-/
import Yae.Proofs.SoundnessCall
namespace Yae.Sound
open EvalM

theorem resolveStatic_mem {funs : List FunDecl} {key : String} {i : Int} {d : FunDecl}
    (h : resolveStatic funs key i = some d) : d ∈ funs := by
  unfold resolveStatic at h
  split at h
  · exact (lookupMono_mem h).1
  · exact (lookupPoly_mem (List.mem_of_getElem? h)).1

section
variable {Γ : TEnv} {ρ : REnv} {dbg : Bool} {fuel : Nat}

theorem evalOK_zero : EvalOK Γ ρ dbg 0 := by
  intro e T _
  rw [eval_zero]
  exact Sat.fuel (by omega)

theorem evalOK_succ (hf : FunsOK Γ.funs) (henv : EnvOK Γ ρ) (ih : EvalOK Γ ρ dbg fuel) :
    EvalOK Γ ρ dbg (fuel+1) := by
  have hvars : VarsOK Γ := henv.tys
  intro e T hA
  have hT := ann_wf hvars e T hA
  cases hA with
  | str | num | time | bool | listNil | mapNil => simp only [eval]; exact Sat.pure ⟨rfl, rfl⟩
  | @listCons p e es el a1 rest =>
    have hel := (ann_wf hvars e el a1).1
    simp only [eval]
    refine Sat.bind (evalElems_ok ih hel (.cons e es) (.cons a1 (tyEq_refl' hel) rest))
      Nat.lt_of_succ_lt_succ (fun vs hvs => ?_)
    exact Sat.pure ⟨by simp [WF, hvs, hT.1], tyEq_refl' hT.1⟩
  | @mapCons p k v ps kT vT a1 hp a2 rest =>
    have hk := (ann_wf hvars k kT a1).1
    have hv := (ann_wf hvars v vT a2).1
    simp only [eval]
    refine Sat.bind (evalPairs_ok ih hk hp hv (.cons k v ps) .nil
      (.cons a1 (tyEq_refl' hk) a2 (tyEq_refl' hv) rest) rfl)
      Nat.lt_of_succ_lt_succ (fun es hes => ?_)
    exact Sat.pure ⟨by simp [WF, hes, hT.1], tyEq_refl' hT.1⟩
  | @obj p fs tys a1 hsh =>
    cases fs with
    | nil =>
      cases a1
      simp only [eval]
      exact Sat.pure ⟨rfl, rfl⟩
    | cons n e fs =>
      simp only [eval]
      refine Sat.bind (evalFields_ok ih _ tys a1) Nat.lt_of_succ_lt_succ
        (fun vs hvs => ?_)
      exact Sat.pure ⟨by simp [WF, hvs, hT.1], tyEq_refl' hT.1⟩
  | @ident p name T hl =>
    obtain ⟨v, hv, hvT⟩ := henv.vars name T hl
    simp only [eval, hv]
    exact Sat.recDbg hvT
  | @callStatic p col callee args cty resolved index As d n ps ret T hargs hne hres hty hinst =>
    obtain ⟨σ, -, hse, rfl, -, -⟩ := hinst
    have hmem := resolveStatic_mem hres
    have hok := hf d hmem
    have hd : d = ⟨.fn n ps ret, d.ref, d.isLazy⟩ := by cases d; simp_all
    rw [hd] at hok
    simp only [eval, hne, henv.funs, hres, Bool.false_eq_true, if_false]
    exact Sat.bind (callFun_ok hvars ih hok hargs hse) succ_max_lt_r fun _ hv => Sat.recDbg hv
  | @callDyn p col callee args cty index As n ps ret T hcallee hargs hinst =>
    obtain ⟨σ, -, hse, rfl, -, -⟩ := hinst
    obtain ⟨hfw, hfs⟩ := ann_wf hvars callee _ hcallee
    simp only [eval, beq_self_eq_true, if_true]
    refine Sat.thenDbg ?_
    refine Sat.bind (ih callee _ hcallee) succ_max_lt_l (fun fv hfv => ?_)
    obtain ⟨n', ps', r', ref, l, rfl, hok, hte⟩ := hfv.fn_inv
    simp only []
    -- the static function type is variable free: the instance is the type itself
    simp only [Ty.wf, slotFree, Bool.and_eq_true] at hfw hfs
    rw [substGList_ground σ ps hfs.1] at hse
    rw [substG_ground σ ret hfs.2]
    have hse2 := tyEq_sound _ _ (by simp [Ty.wf, hfw.1, hfw.2]) hte
    cases hse2 with
    | fn hps hr =>
      have h1 : StructEqList (substGList [] ps') As := by
        rw [substGList_nil]
        exact StructEqList.trans _ _ _ (StructEqList.symm _ _ hps) hse
      refine (callFun_ok hvars ih hok hargs h1).mono (fun v hv => ?_)
        succ_max_lt_r
      rw [substG_nil] at hv
      exact hv.convS ((StructEq.symm _ _ hr).wf_of hfw.2) hr
  | @subList p col var idx vty el iT a1 a2 he =>
    simp only [eval]
    refine Sat.bind (ih var _ a1) succ_max_lt_l (fun x hx => ?_)
    obtain ⟨ty, vs, rfl, hvs⟩ := hx.list_elems hT.1
    refine Sat.thenDbg ?_
    simp only []
    refine Sat.bind (ih idx _ a2) succ_max_lt_r (fun i hi => ?_)
    cases tyEq_sound _ _ (ann_wf hvars idx _ a2).1 he
    obtain ⟨f, rfl⟩ := hi.num_inv
    simp only []
    split
    · exact Sat.fail trivial
    · split
      · next v hv => exact Sat.pure (hvs _ v hv)
      · exact Sat.fail trivial
  | @subMap p col var idx vty k v iT a1 a2 he =>
    obtain ⟨hMw, hMs⟩ := ann_wf hvars var _ a1
    obtain ⟨hiw, _⟩ := ann_wf hvars idx _ a2
    simp only [eval]
    refine Sat.bind (ih var _ a1) succ_max_lt_l (fun x hx => ?_)
    obtain ⟨ty, es, rfl, hes, -⟩ := hx.map_entries hT.1
    refine Sat.thenDbg ?_
    simp only []
    refine Sat.bind (ih idx _ a2) succ_max_lt_r (fun i hi => ?_)
    simp only [Ty.wf, slotFree, Bool.and_eq_true] at hMw hMs
    have hik : HasTy i k := hi.conv hMw.1.2 (by rw [tyEq_symm' hMw.1.2 hiw]; exact he)
    obtain ⟨ks, hks⟩ := hik.key_of_keyable hMw.1.1 hMs.1
    simp only [hks]
    split
    · next w hw => exact Sat.pure (hes _ ks w hw)
    · exact Sat.fail trivial
  | @member p col o field fp oty index fs T a1 hfind =>
    obtain ⟨hOw, _⟩ := ann_wf hvars o _ a1
    simp only [eval]
    refine Sat.bind (ih o _ a1) Nat.lt_of_succ_lt_succ (fun x hx => ?_)
    obtain ⟨gs, vs, v, rfl, hv, hvT⟩ := hx.obj_field hOw hfind
    refine Sat.thenDbg ?_
    simp only [hv]
    exact Sat.pure hvT

theorem evalOK (hf : FunsOK Γ.funs) (henv : EnvOK Γ ρ) : ∀ fuel, EvalOK Γ ρ dbg fuel
  | 0 => evalOK_zero
  | fuel+1 => evalOK_succ hf henv (evalOK hf henv fuel)

theorem ann_sound (hf : FunsOK Γ.funs) (henv : EnvOK Γ ρ) {e : Expr} {T : Ty} (hA : Ann Γ e T)
    {l l' : List Event} {v : Val} (he : eval fuel dbg ρ e l = (.ok v, l')) : HasTy v T := by
  have := evalOK (dbg := dbg) hf henv fuel e T hA l
  rw [he] at this
  exact this

/-- C02 for an annotated tree -/
theorem progress (hf : FunsOK Γ.funs) (henv : EnvOK Γ ρ) {e : Expr} {T : Ty} (hA : Ann Γ e T)
    (hfuel : e.depth < fuel) (dbg : Bool) (log : List Event) :
    (∃ v l, eval fuel dbg ρ e log = (.ok v, l) ∧ HasTy v T) ∨
    (∃ f l, eval fuel dbg ρ e log = (.error f, l) ∧ Allowed f) := by
  have h := evalOK (dbg := dbg) hf henv fuel e T hA log
  rcases hr : eval fuel dbg ρ e log with ⟨r, l⟩
  rw [hr] at h
  cases r with
  | ok v => exact .inl ⟨v, l, rfl, h⟩
  | error f => exact .inr ⟨f, l, rfl, h.resolve_right fun h' => h'.2 hfuel⟩

theorem progress_run (hf : FunsOK Γ.funs) (henv : EnvOK Γ ρ) {e : Expr} {T : Ty} (hA : Ann Γ e T)
    (dbg : Bool) :
    (∃ v evs, runEval dbg ρ e = (.ok v, evs) ∧ HasTy v T) ∨
    (∃ f evs, runEval dbg ρ e = (.error f, evs) ∧ Allowed f) := by
  unfold runEval
  rcases progress hf henv hA (Nat.lt_succ_self _) dbg [] with ⟨v, l, h, hv⟩ | ⟨f, l, h, hal⟩
  · exact .inl ⟨v, l.reverse, by rw [h], hv⟩
  · exact .inr ⟨f, l.reverse, by rw [h], hal⟩

end

end Yae.Sound
