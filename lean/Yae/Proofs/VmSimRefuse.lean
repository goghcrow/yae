/-
  C03: on a well-annotated tree the compiler fails only with `overflow` (`Yae.VmSim.compile_refuse_overflow`).
-/
import Yae.Proofs.VmSimCompile
import Yae.Proofs.VmSimExec
import Yae.Proofs.ExceptLemmas
namespace Yae.VmSim
open Yae Yae.Vm

def OvOnly {α} (x : CM α) : Prop := ∀ s, Except.Sat (· = .overflow) (fun _ => True) (x s)

theorem OvOnly.bind {α β} {x : CM α} {f : α → CM β} (hx : OvOnly x) (hf : ∀ a, OvOnly (f a)) :
    OvOnly (x >>= f) :=
  fun s => (hx s).bind fun (a, s') _ => hf a s'

theorem ov_emitOp (op : Op) : OvOnly (emitOp op) := fun (_, _) => trivial
theorem ov_here : OvOnly here := fun (_, _) => trivial
theorem ov_placeholder : OvOnly placeholder := fun (_, _) => trivial
theorem ov_get : OvOnly (get : CM (Code × Pool)) := fun _ => trivial
theorem ov_set (x : Code × Pool) : OvOnly (set x : CM PUnit) := fun _ => trivial
theorem ov_pure {α} (a : α) : OvOnly (pure a : CM α) := fun _ => trivial
theorem ov_emitU16 (n : Nat) : OvOnly (emitU16 n) := by
  intro (c, p)
  rw [emitU16_eq]; split
  · rfl
  · trivial
theorem ov_emitU8 (n : Nat) : OvOnly (emitU8 n) := by
  intro (c, p)
  rw [emitU8_eq]; split
  · rfl
  · trivial
theorem ov_patch (off t : Nat) : OvOnly (patch off t) := by
  intro (c, p)
  rw [patch_eq]; split
  · rfl
  · trivial
theorem ov_emitConst (k : Const) : OvOnly (emitConst k) :=
  fun (c, p) => ov_emitU16 p.size (c, p.push k)

theorem depth_pos (e : Expr) : 1 ≤ e.depth := by
  cases e <;> first | exact Nat.le_refl _ | exact Nat.le_add_left _ _

def OvE (funs : List FunDecl) (cf : Nat) : Prop :=
  ∀ e, e.depth < cf → wa funs e = true → OvOnly (compileE cf funs e)

section
variable {funs : List FunDecl} {cf : Nat}

theorem ovList (hE : OvE funs cf) : ∀ es : ExprList, depthList es < cf →
    waL funs es = true → OvOnly (compileList cf funs es)
  | .nil, _, _ => by rw [compileList]; exact ov_pure _
  | .cons e es, hd, hw => by
    rw [compileList]
    simp only [waL, Bool.and_eq_true] at hw
    simp only [depthList] at hd
    exact OvOnly.bind (hE e (by omega) hw.1) fun _ => ovList hE es (by omega) hw.2

theorem ovFields (hE : OvE funs cf) : ∀ fs : FieldEList, depthFields fs < cf →
    waF funs fs = true → OvOnly (compileFields cf funs fs)
  | .nil, _, _ => by rw [compileFields]; exact ov_pure _
  | .cons n e fs, hd, hw => by
    rw [compileFields]
    simp only [waF, Bool.and_eq_true] at hw
    simp only [depthFields] at hd
    exact OvOnly.bind (hE e (by omega) hw.1) fun _ => ovFields hE fs (by omega) hw.2

theorem ovPairs (hE : OvE funs cf) : ∀ ps : PairList, depthPairs ps < cf →
    waP funs ps = true → OvOnly (compilePairs cf funs ps)
  | .nil, _, _ => by rw [compilePairs]; exact ov_pure _
  | .cons k v ps, hd, hw => by
    rw [compilePairs]
    simp only [waP, Bool.and_eq_true] at hw
    simp only [depthPairs] at hd
    exact OvOnly.bind (hE k (by omega) hw.1.1) fun _ => OvOnly.bind (hE v (by omega) hw.1.2) fun _ =>
      ovPairs hE ps (by omega) hw.2

theorem ovThunks (hE : OvE funs cf) : ∀ (es : ExprList) (ps : TyList), depthList es < cf →
    waL funs es = true → OvOnly (compileThunks cf funs es ps)
  | .nil, _, _, _ => by unfold compileThunks; exact ov_pure _
  | .cons e es, ps, hd, hw => by
    unfold compileThunks
    simp only [waL, Bool.and_eq_true] at hw
    simp only [depthList] at hd
    refine OvOnly.bind (ov_emitOp _) fun _ => OvOnly.bind ov_get fun (code, pool) => ?_
    refine OvOnly.bind (ov_set _) fun _ => OvOnly.bind (hE e (by omega) hw.1) fun _ =>
      OvOnly.bind (ov_emitOp _) fun _ => OvOnly.bind ov_get fun (body, pool') => ?_
    exact OvOnly.bind (ov_set _) fun _ => OvOnly.bind (ov_emitConst _) fun _ =>
      ovThunks hE es _ (by omega) hw.2

theorem ovCond (hE : OvE funs cf) (c t e : Expr) (hc : c.depth < cf) (ht : t.depth < cf)
    (he : e.depth < cf) (wc : wa funs c = true) (wt : wa funs t = true) (we : wa funs e = true) :
    OvOnly (compileCond cf funs c t e) := by
  rw [compileCond]
  exact OvOnly.bind (hE c hc wc) fun _ => OvOnly.bind (ov_emitOp _) fun _ =>
    OvOnly.bind ov_placeholder fun _ => OvOnly.bind (hE t ht wt) fun _ =>
    OvOnly.bind (ov_emitOp _) fun _ => OvOnly.bind ov_placeholder fun _ =>
    OvOnly.bind ov_here fun _ => OvOnly.bind (hE e he we) fun _ =>
    OvOnly.bind ov_here fun _ => OvOnly.bind (ov_patch _ _) fun _ => ov_patch _ _

theorem ov_tail (op0 : Op) (k : Const) (bid : Option BId) (n : Nat) :
    OvOnly (match bid.bind intrinsicByValue with
      | some op => emitOp op
      | none => do
        emitOp op0
        emitConst k
        emitU8 n : CM Unit) := by
  split
  · exact ov_emitOp _
  · exact OvOnly.bind (ov_emitOp _) fun _ => OvOnly.bind (ov_emitConst _) fun _ => ov_emitU8 _

theorem ov_callBody (hE : OvE funs cf) (d : FunDecl) (args : ExprList) (hd : depthList args < cf)
    (hw : waL funs args = true) (hok : callOk d args.length = true) :
    OvOnly (callBody cf funs d (bidOf d) args) := by
  generalize hb : bidOf d = bid
  unfold callBody
  split
  · simp only [depthList] at hd
    simp only [waL, Bool.and_eq_true] at hw
    exact ovCond hE _ _ _ (by omega) (by omega) (by omega) hw.1 hw.2.1 hw.2.2.1
  · rename_i x y
    simp only [depthList] at hd
    simp only [waL, Bool.and_eq_true] at hw
    have := depth_pos x
    exact ovCond hE x y _ (by omega) (by omega) (show 1 < cf by omega) hw.1 hw.2.1 rfl
  · rename_i x y
    simp only [depthList] at hd
    simp only [waL, Bool.and_eq_true] at hw
    have := depth_pos x
    exact ovCond hE x _ y (by omega) (show 1 < cf by omega) (by omega) hw.1 rfl hw.2.1
  · rename_i x rest
    simp only [depthList] at hd
    simp only [waL, Bool.and_eq_true] at hw
    exact OvOnly.bind (hE x (by omega) hw.1) fun _ => ov_emitOp _
  · rename_i n1 n2 n3 n4
    dsimp only
    by_cases hcond : (Option.map isCondIntrinsic bid).getD false = true
    · -- `if`, `&&`, `||`, `!` with the built-in's arity are among the four cases above
      exfalso
      cases bid with
      | none => simp at hcond
      | some id =>
        simp only [Option.map_some, Option.getD_some] at hcond
        obtain ⟨idx, b, href, hbi, hid⟩ := bidOf_inv hb
        have har := (callOk_inv hok href hbi).1
        have ht := List.all_eq_true.mp condArityTable b (List.mem_of_getElem? hbi)
        simp only [Bool.and_eq_true, Bool.or_eq_true, bne_iff_ne, ne_eq, beq_iff_eq, hid] at ht
        unfold isCondIntrinsic at hcond
        split at hcond
        · have h3 : arityOf b = 3 := by simpa using ht.1.1.1
          rw [h3] at har
          match args, har with
          | .cons c (.cons t (.cons f .nil)), _ => exact n1 c t f rfl rfl
        · have h2 : arityOf b = 2 := by simpa using ht.1.1.2
          rw [h2] at har
          match args, har with
          | .cons x (.cons y .nil), _ => exact n2 x y rfl rfl
        · have h2 : arityOf b = 2 := by simpa using ht.1.2
          rw [h2] at har
          match args, har with
          | .cons x (.cons y .nil), _ => exact n3 x y rfl rfl
        · have h1 : arityOf b = 1 := by simpa using ht.2
          rw [h1] at har
          match args, har with
          | .cons x .nil, _ => exact n4 x .nil rfl rfl
        · cases hcond
    · rw [if_neg hcond]
      split
      · exact OvOnly.bind (ovThunks hE args _ hd hw) fun _ => ov_tail _ _ bid _
      · exact OvOnly.bind (ovList hE args hd hw) fun _ => ov_tail _ _ bid _

theorem ovE_succ (hE : OvE funs cf) : OvE funs (cf + 1) := by
  intro e hd hw
  unfold compileE
  cases e with
  | str | num | time | bool | ident => exact OvOnly.bind (ov_emitOp _) fun _ => ov_emitConst _
  | list p es ty =>
    simp only [wa, Bool.and_eq_true] at hw
    simp only [Expr.depth] at hd
    exact OvOnly.bind (ovList hE es (by omega) hw.2) fun _ => OvOnly.bind (ov_emitOp _) fun _ =>
      OvOnly.bind (ov_emitConst _) fun _ => ov_emitU16 _
  | map p ps ty =>
    simp only [wa, Bool.and_eq_true] at hw
    simp only [Expr.depth] at hd
    exact OvOnly.bind (ovPairs hE ps (by omega) hw.2) fun _ => OvOnly.bind (ov_emitOp _) fun _ =>
      OvOnly.bind (ov_emitConst _) fun _ => ov_emitU16 _
  | obj p fs ty =>
    simp only [wa, Bool.and_eq_true] at hw
    simp only [Expr.depth] at hd
    exact OvOnly.bind (ovFields hE fs (by omega) hw.2) fun _ => OvOnly.bind (ov_emitOp _) fun _ =>
      ov_emitConst _
  | member p col obj field fp oty index =>
    simp only [wa] at hw
    simp only [Expr.depth] at hd
    exact OvOnly.bind (hE obj (by omega) hw) fun _ => OvOnly.bind (ov_emitOp _) fun _ => ov_emitConst _
  | subscript p col var idx varTy =>
    simp only [wa, Bool.and_eq_true] at hw
    simp only [Expr.depth] at hd
    refine OvOnly.bind (hE var (by omega) hw.1.2) fun _ => OvOnly.bind (hE idx (by omega) hw.2) fun _ => ?_
    have h := hw.1.1
    unfold subTyOk at h
    split at h
    · exact ov_emitOp _
    · exact ov_emitOp _
    · cases h
  | call p col callee args cty resolved index =>
    simp only [Expr.depth] at hd
    dsimp only
    by_cases hres : (resolved == "") = true
    · rw [if_pos hres]
      simp only [wa, hres, ↓reduceIte, Bool.and_eq_true] at hw
      exact OvOnly.bind (hE callee (by omega) hw.1) fun _ =>
        OvOnly.bind (ovList hE args (by omega) hw.2) fun _ =>
        OvOnly.bind (ov_emitOp _) fun _ => ov_emitU8 _
    · rw [if_neg hres]
      simp only [wa, hres, Bool.false_eq_true, ↓reduceIte, Bool.and_eq_true] at hw
      cases hrs : resolveStatic funs resolved index with
      | none => rw [hrs] at hw; simp at hw
      | some d =>
        rw [hrs] at hw
        dsimp only at hw ⊢
        -- the goal is `callBody cf funs d (bidOf d) args` written out
        exact ov_callBody hE d args (by omega) hw.2 hw.1
  | _ => simp [wa] at hw

theorem ovE_all : ∀ cf, OvE funs cf := by
  intro cf
  induction cf with
  | zero => intro e hd; exact absurd hd (Nat.not_lt_zero _)
  | succ cf ih => exact ovE_succ ih

theorem compile_refuse_overflow {e : Expr} {err : CErr} (hw : wa funs e = true)
    (h : compile funs e = .error err) : err = .overflow := by
  rw [compile_eq] at h
  split at h
  · cases h
  · next hx =>
    cases h
    have h := (ovE_all _ e (Nat.lt_succ_self _) hw).bind (fun _ => ov_emitOp .RETURN) (#[], #[])
    rw [hx] at h
    exact h

end

end Yae.VmSim
