/-
  What `WF` and `HasTy` (`Spec/WF`) say about a value.  `HasTy v T` is `WF v ∧ tyEq T v.typeOf`, and `tyEq`
  relates types of one form only (`tyEq_inv`), so the form of `v` can be read off `T` (`WF_inv`, `HasTy.*_inv`).
  The components of a container have the component type of `T`, not only of the type the value carries, by
  transitivity of `tyEq` on well-formed types.  `tyBeq` is the Boolean that `declOK` / `hostRespects` compare with.
-/
import Yae.Spec.WF
import Yae.Proofs.TyEq
namespace Yae.Sound

mutual
theorem tyBeq_eq : ∀ a b : Ty, tyBeq a b = true → a = b
  | .top, b, h | .bot, b, h | .num, b, h | .str, b, h | .bool, b, h | .time, b, h => by
    cases b <;> simp [tyBeq] at h; rfl
  | .var n, b, h => by cases b <;> simp [tyBeq] at h; subst h; rfl
  | .tuple xs, b, h => by
    cases b with
    | tuple ys => rw [tyListBeq_eq xs ys h]
    | _ => simp [tyBeq] at h
  | .list a, b, h => by
    cases b with
    | list b => rw [tyBeq_eq a b h]
    | _ => simp [tyBeq] at h
  | .map k v, b, h => by
    cases b with
    | map k' v' =>
      simp only [tyBeq, Bool.and_eq_true] at h
      rw [tyBeq_eq k k' h.1, tyBeq_eq v v' h.2]
    | _ => simp [tyBeq] at h
  | .obj fs, b, h => by
    cases b with
    | obj gs => rw [fieldListBeq_eq fs gs h]
    | _ => simp [tyBeq] at h
  | .fn n ps r, b, h => by
    cases b with
    | fn n' qs s =>
      simp only [tyBeq, Bool.and_eq_true, beq_iff_eq] at h
      rw [h.1.1, tyListBeq_eq ps qs h.1.2, tyBeq_eq r s h.2]
    | _ => simp [tyBeq] at h
  | .maybe a, b, h => by
    cases b with
    | maybe b => rw [tyBeq_eq a b h]
    | _ => simp [tyBeq] at h
theorem tyListBeq_eq : ∀ xs ys : TyList, tyListBeq xs ys = true → xs = ys
  | .nil, ys, h => by cases ys <;> simp [tyListBeq] at h; rfl
  | .cons x xs, ys, h => by
    cases ys with
    | nil => simp [tyListBeq] at h
    | cons y ys =>
      simp only [tyListBeq, Bool.and_eq_true] at h
      rw [tyBeq_eq x y h.1, tyListBeq_eq xs ys h.2]
theorem fieldListBeq_eq : ∀ fs gs : FieldList, fieldListBeq fs gs = true → fs = gs
  | .nil, gs, h => by cases gs <;> simp [fieldListBeq] at h; rfl
  | .cons n t fs, gs, h => by
    cases gs with
    | nil => simp [fieldListBeq] at h
    | cons m u gs =>
      simp only [fieldListBeq, Bool.and_eq_true, beq_iff_eq] at h
      rw [h.1.1, tyBeq_eq t u h.1.2, fieldListBeq_eq fs gs h.2]
end

theorem declOK_builtin {d : FunDecl} (h : declOK d = true) {i : Nat} (hr : d.ref = .builtin i) :
    ∃ b, builtins[i]? = some b ∧ b.ty = d.ty ∧ b.isLazy = d.isLazy := by
  simp only [declOK, hr, Bool.and_eq_true] at h
  cases hb : builtins[i]? with
  | none => simp [hb] at h
  | some b =>
    simp only [hb, Bool.and_eq_true, beq_iff_eq] at h
    exact ⟨b, rfl, tyBeq_eq _ _ h.2.1, h.2.2⟩

theorem WF_typeOf_wf : ∀ v : Val, WF v = true → v.typeOf.wf = true := by
  intro v h
  cases v with
  | num | str | bool | time => rfl
  | list ty vs | map ty vs | obj ty vs =>
    simp only [WF] at h
    split at h
    · simp only [Bool.and_eq_true] at h; exact h.1
    · cases h
  | fn ty ref l =>
    simp only [WF, declOK, Bool.and_eq_true] at h
    replace h := h.1
    split at h
    · simp only [Bool.and_eq_true] at h
      simp only [Val.typeOf, Ty.wf, Bool.and_eq_true]
      exact h.1.1
    · cases h
  | just el v => simp only [WF, Bool.and_eq_true] at h; exact h.1.1
  | nothing el => exact h
  | nil => cases h

theorem HasTy.typeOf_wf {v : Val} {T : Ty} (h : HasTy v T) : v.typeOf.wf = true :=
  WF_typeOf_wf v h.1

theorem HasTy.conv {v : Val} {A B : Ty} (h : HasTy v A) (hB : B.wf = true) (e : tyEq B A = true) :
    HasTy v B :=
  ⟨h.1, tyEq_trans' hB e h.2⟩

/-- asks well-formedness of the source `A` (the target's follows, `StructEq.wf_of`); `conv` asks it of the target `B`,
which `tyEq` cannot give -/
theorem HasTy.convS {v : Val} {A B : Ty} (h : HasTy v A) (hA : A.wf = true) (e : StructEq B A) :
    HasTy v B :=
  h.conv (e.wf_of hA) (tyEq_complete B A (e.wf_of hA) e)

theorem HasTy.self {v : Val} (h : WF v = true) : HasTy v v.typeOf :=
  ⟨h, tyEq_refl' (WF_typeOf_wf v h)⟩

theorem tyEq_inv {a b : Ty} (h : tyEq a b = true) :
    match a with
    | .tuple _ => ∃ ys, b = .tuple ys
    | .list a' => ∃ b', b = .list b' ∧ tyEq a' b' = true
    | .map k x => ∃ k' x', b = .map k' x' ∧ tyEq k k' = true ∧ tyEq x x' = true
    | .obj _ => ∃ gs, b = .obj gs
    | .fn _ _ _ => ∃ n ps r, b = .fn n ps r
    | .maybe a' => ∃ b', b = .maybe b' ∧ tyEq a' b' = true
    | a => b = a := by
  rw [tyEq.eq_def] at h
  split at h
  -- `h_1 … h_14`: the arms of `tyEq` (Model/Ty.lean) in order: `⊤`, `⊥`, `var`, `num`, `str`,
  -- `bool`, `time`, `tuple`, `list`, `map`, `obj`, `fn`, `maybe`, and the catch-all `false`
  case h_3 => cases beq_iff_eq.1 h; rfl
  case h_8 | h_11 => exact ⟨_, rfl⟩
  case h_9 | h_13 => exact ⟨_, rfl, h⟩
  case h_10 => exact ⟨_, _, rfl, Bool.and_eq_true _ _ ▸ h⟩
  case h_12 => exact ⟨_, _, _, rfl⟩
  case h_14 => cases h
  all_goals rfl

theorem WF_inv {v : Val} (h : WF v = true) : ∀ T, v.typeOf = T →
    match T with
    | .num => ∃ x, v = .num x
    | .str => ∃ x, v = .str x
    | .bool => ∃ x, v = .bool x
    | .time => ∃ x, v = .time x
    | .list el => ∃ vs, v = .list (.list el) vs ∧ (Ty.list el).wf = true ∧ WFList el vs = true
    | .map k x => ∃ es, v = .map (.map k x) es ∧ (Ty.map k x).wf = true ∧ WFEntries k x es = true
    | .obj fs => ∃ vs, v = .obj (.obj fs) vs ∧ (Ty.obj fs).wf = true ∧ WFObj fs vs = true
    | .fn n ps r => ∃ ref l, v = .fn (.fn n ps r) ref l ∧ declOK ⟨.fn n ps r, ref, l⟩ = true
    | .maybe el => (∃ x, v = .just el x ∧ el.wf = true ∧ WF x = true ∧ tyEq el x.typeOf = true) ∨
        (v = .nothing el ∧ el.wf = true)
    | _ => False := by
  rintro T rfl
  cases v with
  | num x | str x | bool x | time x => exact ⟨x, rfl⟩
  | list ty vs | map ty vs | obj ty vs =>
    simp only [WF] at h
    split at h
    · simp only [Bool.and_eq_true] at h; exact ⟨vs, rfl, h⟩
    · cases h
  | fn ty ref l =>
    have h1 := h
    simp only [WF, declOK, Bool.and_eq_true] at h1
    replace h1 := h1.1
    split at h1
    · exact ⟨ref, l, rfl, by simpa only [WF] using h⟩
    · cases h1
  | just el x =>
    simp only [WF, Bool.and_eq_true] at h
    exact .inl ⟨x, rfl, h.1.1, h.1.2, h.2⟩
  | nothing el => exact .inr ⟨rfl, h⟩
  | nil => cases h

theorem HasTy.num_inv {v : Val} (h : HasTy v .num) : ∃ x, v = .num x :=
  WF_inv h.1 _ (tyEq_inv h.2)

theorem HasTy.str_inv {v : Val} (h : HasTy v .str) : ∃ x, v = .str x :=
  WF_inv h.1 _ (tyEq_inv h.2)

theorem HasTy.bool_inv {v : Val} (h : HasTy v .bool) : ∃ x, v = .bool x :=
  WF_inv h.1 _ (tyEq_inv h.2)

theorem HasTy.time_inv {v : Val} (h : HasTy v .time) : ∃ x, v = .time x :=
  WF_inv h.1 _ (tyEq_inv h.2)

theorem HasTy.bot_inv {v : Val} (h : HasTy v .bot) : False :=
  WF_inv h.1 _ (tyEq_inv h.2)

theorem HasTy.list_inv {v : Val} {el : Ty} (h : HasTy v (.list el)) :
    ∃ el' vs, v = .list (.list el') vs ∧ (Ty.list el').wf = true ∧ WFList el' vs = true ∧
      tyEq el el' = true := by
  obtain ⟨el', hT, he⟩ := tyEq_inv h.2
  obtain ⟨vs, hv, hw, hl⟩ := WF_inv h.1 _ hT
  exact ⟨el', vs, hv, hw, hl, he⟩

theorem HasTy.map_inv {v : Val} {k x : Ty} (h : HasTy v (.map k x)) :
    ∃ k' x' es, v = .map (.map k' x') es ∧ (Ty.map k' x').wf = true ∧ WFEntries k' x' es = true ∧
      tyEq k k' = true ∧ tyEq x x' = true := by
  obtain ⟨k', x', hT, he⟩ := tyEq_inv h.2
  obtain ⟨es, hv, hw, hl⟩ := WF_inv h.1 _ hT
  exact ⟨k', x', es, hv, hw, hl, he⟩

theorem HasTy.obj_inv {v : Val} {fs : FieldList} (h : HasTy v (.obj fs)) :
    ∃ gs vs, v = .obj (.obj gs) vs ∧ (Ty.obj gs).wf = true ∧ WFObj gs vs = true ∧
      tyEq (.obj fs) (.obj gs) = true := by
  obtain ⟨gs, hT⟩ := tyEq_inv h.2
  obtain ⟨vs, hv, hw, hl⟩ := WF_inv h.1 _ hT
  exact ⟨gs, vs, hv, hw, hl, hT ▸ h.2⟩

theorem HasTy.maybe_inv {v : Val} {el : Ty} (h : HasTy v (.maybe el)) :
    (∃ el' x, v = .just el' x ∧ el'.wf = true ∧ WF x = true ∧ tyEq el' x.typeOf = true ∧
      tyEq el el' = true) ∨ (∃ el', v = .nothing el' ∧ el'.wf = true ∧ tyEq el el' = true) := by
  obtain ⟨el', hT, he⟩ := tyEq_inv h.2
  rcases WF_inv h.1 _ hT with ⟨x, hv, hw, hx, hxt⟩ | ⟨hv, hw⟩
  · exact .inl ⟨el', x, hv, hw, hx, hxt, he⟩
  · exact .inr ⟨el', hv, hw, he⟩

theorem HasTy.fn_inv {v : Val} {n : String} {ps : TyList} {r : Ty} (h : HasTy v (.fn n ps r)) :
    ∃ n' ps' r' ref l, v = .fn (.fn n' ps' r') ref l ∧ declOK ⟨.fn n' ps' r', ref, l⟩ = true ∧
      tyEq (.fn n ps r) (.fn n' ps' r') = true := by
  obtain ⟨n', ps', r', hT⟩ := tyEq_inv h.2
  obtain ⟨ref, l, hv, hd⟩ := WF_inv h.1 _ hT
  exact ⟨n', ps', r', ref, l, hv, hd, hT ▸ h.2⟩

theorem HasTy.key_of_prim {v : Val} {T : Ty} (h : HasTy v T) (hp : T.isPrimitive = true) :
    ∃ ks, v.key? = some (T.kind, ks) := by
  cases T <;> simp [Ty.isPrimitive, Ty.kind, Kind.isPrimitive] at hp
  · obtain ⟨x, rfl⟩ := h.num_inv; exact ⟨_, rfl⟩
  · obtain ⟨x, rfl⟩ := h.str_inv; exact ⟨_, rfl⟩
  · obtain ⟨x, rfl⟩ := h.bool_inv
    simp only [Val.key?, Ty.kind]; exact ⟨_, rfl⟩
  · obtain ⟨x, rfl⟩ := h.time_inv; exact ⟨_, rfl⟩

theorem keyable_ground {k : Ty} (hk : k.keyable = true) (hs : slotFree k = true) :
    k.isPrimitive = true ∨ k = .bot := by
  cases k <;> simp [Ty.keyable, Ty.isPrimitive, Ty.kind, Kind.isPrimitive, slotFree] at hk hs ⊢

theorem tyEq_prim_left {a b : Ty} (h : tyEq a b = true) (hp : b.isPrimitive = true) :
    a.isPrimitive = true := by
  simp only [Ty.isPrimitive] at hp ⊢
  rw [tyEq_kind h]; exact hp

theorem WFList_get? : ∀ (el : Ty) (vs : ValList) (i : Nat) (v : Val), WFList el vs = true →
    vs.get? i = some v → WF v = true ∧ tyEq el v.typeOf = true
  | _, .nil, _, _, _, h => by simp [ValList.get?] at h
  | el, .cons x vs, 0, v, hw, h => by
    simp only [WFList, Bool.and_eq_true] at hw
    simp only [ValList.get?] at h; cases h; exact hw.1
  | el, .cons x vs, i+1, v, hw, h => by
    simp only [WFList, Bool.and_eq_true] at hw
    simp only [ValList.get?] at h
    exact WFList_get? el vs i v hw.2 h

theorem ValList.get?_lt : ∀ (vs : ValList) (i : Nat), i < vs.length → ∃ v, vs.get? i = some v
  | .nil, i, h => by simp [ValList.length] at h
  | .cons v vs, 0, _ => ⟨v, rfl⟩
  | .cons v vs, i+1, h => by
    simp only [ValList.length] at h
    simpa [ValList.get?] using ValList.get?_lt vs i (by omega)

theorem WFEntries_find? : ∀ (k x : Ty) (es : EntryList) (t : Kind) (ks : String) (v : Val),
    WFEntries k x es = true → es.find? t ks = some v → WF v = true ∧ tyEq x v.typeOf = true
  | _, _, .nil, _, _, _, _, h => by simp [EntryList.find?] at h
  | k, x, .cons t' k' v' es, t, ks, v, hw, h => by
    simp only [WFEntries, Bool.and_eq_true] at hw
    simp only [EntryList.find?] at h
    split at h
    · cases h; exact ⟨hw.1.1.2, hw.1.2⟩
    · exact WFEntries_find? k x es t ks v hw.2 h

theorem WFEntries_insert : ∀ (k x : Ty) (es : EntryList) (t : Kind) (ks : String) (v : Val),
    WFEntries k x es = true → t = k.kind → WF v = true → tyEq x v.typeOf = true →
    WFEntries k x (es.insert t ks v) = true
  | k, x, .nil, t, ks, v, _, ht, hv, he => by
    simp [EntryList.insert, WFEntries, ht, hv, he]
  | k, x, .cons t' k' v' es, t, ks, v, hw, ht, hv, he => by
    simp only [WFEntries, Bool.and_eq_true] at hw
    simp only [EntryList.insert]
    split
    · simp only [WFEntries, Bool.and_eq_true]
      exact ⟨⟨⟨hw.1.1.1, hv⟩, he⟩, hw.2⟩
    · simp only [WFEntries, Bool.and_eq_true]
      exact ⟨hw.1, WFEntries_insert k x es t ks v hw.2 ht hv he⟩

theorem WFEntries_tag : ∀ (k x : Ty) (es : EntryList), WFEntries k x es = true →
    ∀ t ks v, (t, ks, v) ∈ es.toList → t = k.kind
  | _, _, .nil, _, t, ks, v, hm => by simp [EntryList.toList] at hm
  | k, x, .cons t0 k0 x0 es, hwf, t, ks, v, hm => by
    simp only [WFEntries, Bool.and_eq_true, beq_iff_eq] at hwf
    simp only [EntryList.toList, List.mem_cons, Prod.mk.injEq] at hm
    rcases hm with ⟨rfl, _, _⟩ | hm
    · exact hwf.1.1.1
    · exact WFEntries_tag k x es hwf.2 t ks v hm

theorem HasTy.list_elems {v : Val} {el : Ty} (h : HasTy v (.list el)) (hel : el.wf = true) :
    ∃ ty vs, v = .list ty vs ∧ ∀ i x, vs.get? i = some x → HasTy x el := by
  obtain ⟨el', vs, rfl, hw, hl, he⟩ := h.list_inv
  refine ⟨_, vs, rfl, fun i x hx => ?_⟩
  obtain ⟨h1, h2⟩ := WFList_get? el' vs i x hl hx
  exact ⟨h1, tyEq_trans' (b := el') hel he h2⟩

theorem HasTy.map_entries {v : Val} {K V : Ty} (h : HasTy v (.map K V)) (hV : V.wf = true) :
    ∃ ty es, v = .map ty es ∧
      (∀ t ks x, es.find? t ks = some x → HasTy x V) ∧
      (∀ t ks x, (t, ks, x) ∈ es.toList → t = K.kind) := by
  obtain ⟨k', v', es, rfl, hw, he, hk, hv⟩ := h.map_inv
  simp only [Ty.wf, Bool.and_eq_true] at hw
  refine ⟨_, es, rfl, fun t ks x hx => ?_, ?_⟩
  · obtain ⟨h1, h2⟩ := WFEntries_find? k' v' es t ks x he hx
    exact ⟨h1, tyEq_trans' hV hv h2⟩
  · intro t ks x hm
    rw [tyEq_kind hk]
    exact WFEntries_tag k' v' es he t ks x hm

theorem HasTy.maybe_payload {v : Val} {el : Ty} (h : HasTy v (.maybe el)) (hel : el.wf = true) :
    (∃ ty x, v = .just ty x ∧ HasTy x el) ∨ (∃ ty, v = .nothing ty) := by
  rcases h.maybe_inv with ⟨el', x, rfl, hw, hx, h1, h2⟩ | ⟨el', rfl, _, _⟩
  · exact .inl ⟨_, _, rfl, hx, tyEq_trans' hel h2 h1⟩
  · exact .inr ⟨_, rfl⟩

theorem WFObj_get? : ∀ (fs : FieldList) (vs : ValList) (i : Nat) (n : String) (T : Ty),
    WFObj fs vs = true → fs.get? i = some (n, T) →
    ∃ v, vs.get? i = some v ∧ WF v = true ∧ tyEq T v.typeOf = true
  | .nil, _, _, _, _, _, h => by simp [FieldList.get?] at h
  | .cons m t fs, .nil, _, _, _, hw, _ => by simp [WFObj] at hw
  | .cons m t fs, .cons v vs, 0, n, T, hw, h => by
    simp only [WFObj, Bool.and_eq_true] at hw
    simp only [FieldList.get?] at h
    cases h; exact ⟨v, rfl, hw.1.1, hw.1.2⟩
  | .cons m t fs, .cons v vs, i+1, n, T, hw, h => by
    simp only [WFObj, Bool.and_eq_true] at hw
    simp only [FieldList.get?] at h
    simpa [ValList.get?] using WFObj_get? fs vs i n T hw.2 h

/-- member access by name: the field is found whatever the value's own field order (`tyEq` on
object types compares by name) -/
theorem HasTy.obj_field {v : Val} {fs : FieldList} {field : String} {T : Ty}
    (h : HasTy v (.obj fs)) (hfs : (Ty.obj fs).wf = true) (hf : fs.find? field = some T) :
    ∃ gs vs x, v = .obj (.obj gs) vs ∧ objGet? (.obj gs) vs field = some x ∧ HasTy x T := by
  obtain ⟨gs, vs, rfl, hgs, hw, he⟩ := h.obj_inv
  simp only [tyEq, Bool.and_eq_true] at he
  obtain ⟨U, hU, hTU⟩ := tyEqFields_find fs gs field T he.2 hf
  obtain ⟨i, hi, hg⟩ := FieldList.find?_indexOf? gs field U hU
  obtain ⟨x, hx, hwx, htx⟩ := WFObj_get? gs vs i field U hw hg
  refine ⟨gs, vs, x, rfl, by simp [objGet?, hi, hx], hwx, ?_⟩
  simp only [Ty.wf] at hfs hgs
  exact tyEq_trans' (wfFields_find fs field T hfs hf) hTU htx

mutual
theorem WF_noNil : ∀ v : Val, WF v = true → noNil v = true
  | .num _, _ | .str _, _ | .bool _, _ | .time _, _ | .fn _ _ _, _ | .nothing _, _ => rfl
  | .nil, h => by simp [WF] at h
  | .list ty vs, h => by
    simp only [WF] at h
    split at h
    · simp only [Bool.and_eq_true] at h; exact WFList_noNil _ vs h.2
    · cases h
  | .map ty es, h => by
    simp only [WF] at h
    split at h
    · simp only [Bool.and_eq_true] at h; exact WFEntries_noNil _ _ es h.2
    · cases h
  | .obj ty vs, h => by
    simp only [WF] at h
    split at h
    · simp only [Bool.and_eq_true] at h; exact WFObj_noNil _ vs h.2
    · cases h
  | .just el v, h => by
    simp only [WF, Bool.and_eq_true] at h
    simp only [noNil]; exact WF_noNil v h.1.2
theorem WFList_noNil : ∀ (el : Ty) (vs : ValList), WFList el vs = true → noNilList vs = true
  | _, .nil, _ => rfl
  | el, .cons v vs, h => by
    simp only [WFList, Bool.and_eq_true] at h
    simp only [noNilList, Bool.and_eq_true]
    exact ⟨WF_noNil v h.1.1, WFList_noNil el vs h.2⟩
theorem WFObj_noNil : ∀ (fs : FieldList) (vs : ValList), WFObj fs vs = true → noNilList vs = true
  | _, .nil, _ => rfl
  | fs, .cons v vs, h => by
    cases fs with
    | nil => simp [WFObj] at h
    | cons n t fs =>
      simp only [WFObj, Bool.and_eq_true] at h
      simp only [noNilList, Bool.and_eq_true]
      exact ⟨WF_noNil v h.1.1, WFObj_noNil fs vs h.2⟩
theorem WFEntries_noNil : ∀ (k x : Ty) (es : EntryList), WFEntries k x es = true →
    noNilEntries es = true
  | _, _, .nil, _ => rfl
  | k, x, .cons _ _ v es, h => by
    simp only [WFEntries, Bool.and_eq_true] at h
    simp only [noNilEntries, Bool.and_eq_true]
    exact ⟨WF_noNil v h.1.1.2, WFEntries_noNil k x es h.2⟩
end

theorem HasTyList.length : ∀ {vs : List Val} {ts : TyList}, HasTyList vs ts →
    vs.length = ts.length
  | [], .nil, _ => rfl
  | [], .cons _ _, h => by simp [HasTyList] at h
  | _ :: _, .nil, h => by simp [HasTyList] at h
  | _ :: vs, .cons _ ts, h => by
    simp only [HasTyList] at h
    simp [TyList.length, HasTyList.length h.2]

theorem HasTyList.get? : ∀ {vs : List Val} {ts : TyList}, HasTyList vs ts → ∀ i t,
    ts.get? i = some t → ∃ v, vs[i]? = some v ∧ HasTy v t
  | [], .nil, _, i, t, h => by simp [TyList.get?] at h
  | [], .cons _ _, h, _, _, _ => by simp [HasTyList] at h
  | _ :: _, .nil, h, _, _, _ => by simp [HasTyList] at h
  | v :: vs, .cons t' ts, h, 0, t, hg => by
    simp only [HasTyList] at h
    simp only [TyList.get?] at hg; cases hg
    exact ⟨v, rfl, h.1⟩
  | v :: vs, .cons t' ts, h, i+1, t, hg => by
    simp only [HasTyList] at h
    simp only [TyList.get?] at hg
    simpa using HasTyList.get? h.2 i t hg

end Yae.Sound
