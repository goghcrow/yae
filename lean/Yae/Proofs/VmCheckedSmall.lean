/-
  C03, checked programs: small programs are never refused.  With room for 16 bytes of code and 2 constants
  per node of the tree, and no call with more than 255 arguments, `sizeE` does not overflow.
-/
import Yae.Proofs.VmCheckedSizes
import Yae.Proofs.ExceptLemmas
namespace Yae.VmChk
open Yae Yae.Vm Yae.VmSim

mutual
/-- the number of nodes of a desugared tree: a sugar node (`unary`, `binary`, `ternary`, `group`, which the compiler
refuses) counts 1, whatever is below it.  `Expr.nodes` of `Spec/DesugarCost` counts below those too; no lemma
relates the two. -/
def nodes : Expr → Nat
  | .list _ es _ => nodesL es + 1
  | .map _ ps _ => nodesP ps + 1
  | .obj _ fs _ => nodesF fs + 1
  | .call _ _ c as _ _ _ => nodes c + nodesL as + 1
  | .subscript _ _ v i _ => nodes v + nodes i + 1
  | .member _ _ o _ _ _ _ => nodes o + 1
  | _ => 1
def nodesL : ExprList → Nat
  | .nil => 0
  | .cons e es => nodes e + nodesL es
def nodesP : PairList → Nat
  | .nil => 0
  | .cons k v ps => nodes k + nodes v + nodesP ps
def nodesF : FieldEList → Nat
  | .nil => 0
  | .cons _ e fs => nodes e + nodesF fs
end

mutual
def argsOK : Expr → Bool
  | .list _ es _ => argsOKL es
  | .map _ ps _ => argsOKP ps
  | .obj _ fs _ => argsOKF fs
  | .call _ _ c as _ _ _ => decide (as.length ≤ 255) && argsOK c && argsOKL as
  | .subscript _ _ v i _ => argsOK v && argsOK i
  | .member _ _ o _ _ _ _ => argsOK o
  | _ => true
def argsOKL : ExprList → Bool
  | .nil => true
  | .cons e es => argsOK e && argsOKL es
def argsOKP : PairList → Bool
  | .nil => true
  | .cons k v ps => argsOK k && argsOK v && argsOKP ps
def argsOKF : FieldEList → Bool
  | .nil => true
  | .cons _ e fs => argsOK e && argsOKF fs
end

section
variable {p : Pos} {col : Int} {e c v i o k : Expr} {es as : ExprList} {ps : PairList}
  {fs : FieldEList} {ty oty : Option Ty} {cty : Option Ty} {r f : String} {fp : Pos} {ix : Int}

theorem nodes_list : nodes (.list p es ty) = nodesL es + 1 := rfl
theorem nodes_map : nodes (.map p ps ty) = nodesP ps + 1 := rfl
theorem nodes_obj : nodes (.obj p fs ty) = nodesF fs + 1 := rfl
theorem nodes_call : nodes (.call p col c as cty r ix) = nodes c + nodesL as + 1 := rfl
theorem nodes_subscript : nodes (.subscript p col v i ty) = nodes v + nodes i + 1 := rfl
theorem nodes_member : nodes (.member p col o f fp oty ix) = nodes o + 1 := rfl
theorem nodesL_nil : nodesL .nil = 0 := rfl
theorem nodesL_cons : nodesL (.cons e es) = nodes e + nodesL es := rfl
theorem nodesP_cons : nodesP (.cons k v ps) = nodes k + nodes v + nodesP ps := rfl
theorem nodesF_cons : nodesF (.cons f e fs) = nodes e + nodesF fs := rfl

theorem argsOK_call : argsOK (.call p col c as cty r ix) =
    (decide (as.length ≤ 255) && argsOK c && argsOKL as) := rfl
theorem argsOK_subscript : argsOK (.subscript p col v i ty) = (argsOK v && argsOK i) := rfl
theorem argsOKL_cons : argsOKL (.cons e es) = (argsOK e && argsOKL es) := rfl
theorem argsOKP_cons : argsOKP (.cons k v ps) = (argsOK k && argsOK v && argsOKP ps) := rfl
theorem argsOKF_cons : argsOKF (.cons f e fs) = (argsOK e && argsOKF fs) := rfl

end

theorem nodes_pos (e : Expr) : 1 ≤ nodes e := by
  cases e <;> first | exact Nat.le_refl 1 | exact Nat.le_add_left 1 _

/-- as an equation: `omega` unifies every inequality in the context with the goal, slow against the long
sum in `fitC` -/
theorem nodes_succ (e : Expr) : ∃ k, nodes e = k + 1 := ⟨nodes e - 1, by have := nodes_pos e; omega⟩

theorem length_le_nodesL : ∀ es : ExprList, es.length ≤ nodesL es
  | .nil => Nat.le_refl 0
  | .cons e es => by
    have := length_le_nodesL es; have := nodes_pos e
    rw [nodesL_cons]; show es.length + 1 ≤ _
    omega

theorem length_le_nodesP : ∀ ps : PairList, ps.length ≤ nodesP ps
  | .nil => Nat.le_refl 0
  | .cons k v ps => by
    have := length_le_nodesP ps; have := nodes_pos k
    rw [nodesP_cons]; show ps.length + 1 ≤ _
    omega

/-- From a state with room for `n` more bytes (below offset 65 535) and `m` more constants, `x` does not
overflow, stays within them, and returns a value satisfying `Q` (for `sHere`: an offset below 65 536, which is
what `sPatch` asks of a jump target). -/
def Fit {α} (x : SM α) (n m : Nat) (Q : α → Prop := fun _ => True) : Prop :=
  ∀ c p, c + n ≤ 65535 → p + m ≤ 65536 →
    Except.Sat (· ≠ .overflow) (fun (a, c', p') => c' ≤ c + n ∧ p' ≤ p + m ∧ Q a) (x (c, p))

theorem Fit.bind {α β} {x : SM α} {f : α → SM β} {n1 m1 n2 m2 : Nat} {Q : α → Prop}
    {R : β → Prop} (hx : Fit x n1 m1 Q) (hf : ∀ a, Q a → Fit (f a) n2 m2 R) :
    Fit (x >>= f) (n1 + n2) (m1 + m2) R := fun c p hc hp =>
  (hx c p (by omega) (by omega)).bind fun (a, c1, p1) h1 =>
    (hf a h1.2.2 c1 p1 (by omega) (by omega)).mono (fun _ => id) fun (b, c2, p2) h2 =>
      ⟨by omega, by omega, h2.2.2⟩

theorem Fit.mono {α} {x : SM α} {n m n' m' : Nat} {Q : α → Prop} (h : Fit x n m Q) (hn : n ≤ n')
    (hm : m ≤ m') : Fit x n' m' Q := fun c p hc hp =>
  (h c p (by omega) (by omega)).mono (fun _ => id) fun (a, c1, p1) h1 => ⟨by omega, by omega, h1.2.2⟩

theorem Fit.assume {α} {x : SM α} {n m : Nat} {Q : α → Prop} (h : n ≤ 65535 → Fit x n m Q) :
    Fit x n m Q := fun c p hc hp => h (by omega) c p hc hp

theorem fit_ite {α} {b : Prop} [Decidable b] {x y : SM α} {n m : Nat} {Q : α → Prop}
    (hx : Fit x n m Q) (hy : Fit y n m Q) : Fit (if b then x else y) n m Q := by
  split
  · exact hx
  · exact hy

theorem fit_pure {α} (a : α) : Fit (pure a : SM α) 0 0 :=
  fun _ _ _ _ => ⟨Nat.le_refl _, Nat.le_refl _, trivial⟩
theorem fit_throw {α} {e : CErr} (he : e ≠ .overflow) {n m : Nat} {Q : α → Prop} :
    Fit (throw e : SM α) n m Q :=
  fun _ _ _ _ => he
theorem fit_sOp : Fit sOp 1 0 := fun _ _ _ _ => ⟨Nat.le_refl _, Nat.le_refl _, trivial⟩
theorem fit_sHere : Fit sHere 0 0 (· ≤ 65535) := fun _ _ hc _ => ⟨Nat.le_refl _, Nat.le_refl _, hc⟩
theorem fit_sPlaceholder : Fit sPlaceholder 2 0 :=
  fun _ _ _ _ => ⟨Nat.le_refl _, Nat.le_refl _, trivial⟩

theorem fit_sU16 {k : Nat} (hk : k ≤ 65535) : Fit (sU16 k) 2 0 := fun c p _ _ => by
  rw [sU16_eq, if_neg (by omega)]; exact ⟨Nat.le_refl _, Nat.le_refl _, trivial⟩

theorem fit_sU8 {k : Nat} (hk : k ≤ 255) : Fit (sU8 k) 1 0 := fun c p _ _ => by
  rw [sU8_eq, if_neg (by omega)]; exact ⟨Nat.le_refl _, Nat.le_refl _, trivial⟩

theorem fit_sPatch {t : Nat} (ht : t ≤ 65535) : Fit (sPatch t) 0 0 := fun c p _ _ => by
  rw [sPatch_eq, if_neg (by omega)]; exact ⟨Nat.le_refl _, Nat.le_refl _, trivial⟩

theorem fit_sConst : Fit sConst 2 1 := by
  intro c p hc hp
  exact fit_sU16 (k := p) (by omega) c (p + 1) hc (by omega)

theorem sOp_apply (c p : Nat) : sOp (c, p) = .ok ((), (c + 1, p)) := rfl
theorem sHere_apply (c p : Nat) : sHere (c, p) = .ok (c, (c, p)) := rfl
theorem sPlaceholder_apply (c p : Nat) : sPlaceholder (c, p) = .ok (c, (c + 2, p)) := rfl
theorem sm_get_apply (s : Nat × Nat) : (get : SM (Nat × Nat)) s = .ok (s, s) := rfl
theorem sm_set_apply (x s : Nat × Nat) : (set x : SM PUnit) s = .ok (⟨⟩, x) := rfl

/-- 16 bytes and 2 constants per node, one constant to spare (a deferred argument costs one more) -/
def FitE (funs : List FunDecl) (cf : Nat) : Prop :=
  ∀ e, argsOK e = true → Fit (sizeE cf funs e) (16 * nodes e) (2 * nodes e - 1)

section
variable {funs : List FunDecl} {cf : Nat}

theorem fitL (hE : FitE funs cf) : ∀ es, argsOKL es = true →
    Fit (sizeL cf funs es) (16 * nodesL es) (2 * nodesL es)
  | .nil, _ => by unfold sizeL; exact fit_pure _
  | .cons e es, h => by
    rw [argsOKL_cons, Bool.and_eq_true] at h
    unfold sizeL
    rw [nodesL_cons]
    exact (Fit.bind (hE e h.1) fun _ _ => fitL hE es h.2).mono (by omega) (by omega)

theorem fitF (hE : FitE funs cf) : ∀ fs, argsOKF fs = true →
    Fit (sizeF cf funs fs) (16 * nodesF fs) (2 * nodesF fs)
  | .nil, _ => by unfold sizeF; exact fit_pure _
  | .cons _ e fs, h => by
    rw [argsOKF_cons, Bool.and_eq_true] at h
    unfold sizeF
    rw [nodesF_cons]
    exact (Fit.bind (hE e h.1) fun _ _ => fitF hE fs h.2).mono (by omega) (by omega)

theorem fitP (hE : FitE funs cf) : ∀ ps, argsOKP ps = true →
    Fit (sizeP cf funs ps) (16 * nodesP ps) (2 * nodesP ps)
  | .nil, _ => by unfold sizeP; exact fit_pure _
  | .cons k v ps, h => by
    simp only [argsOKP_cons, Bool.and_eq_true] at h
    unfold sizeP
    have := nodes_pos k; have := nodes_pos v
    rw [nodesP_cons]
    exact (Fit.bind (hE k h.1.1) fun _ _ => Fit.bind (hE v h.1.2) fun _ _ => fitP hE ps h.2).mono
      (by omega) (by omega)

/-- deferred arguments: three bytes each in the enclosing buffer, the body in a fresh one -/
theorem fitT (hE : FitE funs cf) : ∀ es, argsOKL es = true →
    Fit (sizeT cf funs es) (16 * nodesL es) (2 * nodesL es)
  | .nil, _ => by unfold sizeT; exact fit_pure _
  | .cons e es, h => by
    rw [argsOKL_cons, Bool.and_eq_true] at h
    have hn := nodes_pos e
    rw [nodesL_cons]
    intro c p hc hp
    unfold sizeT
    exact (hE e h.1 0 p (by omega) (by omega)).bind fun (_, cb, pb) h1 =>
      (fit_sConst (c + 1) pb (by omega) (by omega)).bind fun (_, ck, pk) h2 =>
        (fitT hE es h.2 ck pk (by omega) (by omega)).mono (fun _ => id) fun _ h3 =>
          ⟨by omega, by omega, trivial⟩

/-- a conditional: the two jump targets are offsets reached in the same buffer -/
theorem fitC (hE : FitE funs cf) (c t f : Expr) (hc : argsOK c = true) (ht : argsOK t = true)
    (hf : argsOK f = true) :
    Fit (sizeC cf funs c t f) (16 * (nodes c + nodes t + nodes f) + 6)
      (2 * (nodes c + nodes t + nodes f) - 3) := by
  obtain ⟨_, hc1⟩ := nodes_succ c; obtain ⟨_, ht1⟩ := nodes_succ t; obtain ⟨_, hf1⟩ := nodes_succ f
  rw [sizeC]
  exact (Fit.bind (hE c hc) fun _ _ => Fit.bind fit_sOp fun _ _ => Fit.bind fit_sPlaceholder fun _ _ =>
    Fit.bind (hE t ht) fun _ _ => Fit.bind fit_sOp fun _ _ => Fit.bind fit_sPlaceholder fun _ _ =>
    Fit.bind fit_sHere fun _ hbf => Fit.bind (hE f hf) fun _ _ => Fit.bind fit_sHere fun _ hnx =>
    Fit.bind (fit_sPatch hbf) fun _ _ => fit_sPatch hnx).mono (by omega) (by omega)

theorem fit_tail (o : Option Op) {k : Nat} (hk : k ≤ 255) :
    Fit (match o with
      | some _ => sOp
      | none => do
        sOp
        sConst
        sU8 k : SM Unit) 4 1 := by
  cases o with
  | some op => exact fit_sOp.mono (by omega) (by omega)
  | none => exact Fit.bind fit_sOp fun _ _ => Fit.bind fit_sConst fun _ _ => fit_sU8 hk

theorem fit_sizeBody (hE : FitE funs cf) (d : FunDecl) (bid : Option BId) (args : ExprList)
    (ha : argsOKL args = true) (hlen : args.length ≤ 255) :
    Fit (sizeBody cf funs d bid args) (16 * nodesL args + 22) (2 * nodesL args + 1) := by
  unfold sizeBody
  split
  · rename_i c t f
    simp only [argsOKL_cons, Bool.and_eq_true] at ha
    simp only [nodesL_cons, nodesL_nil]
    exact (fitC hE c t f ha.1 ha.2.1 ha.2.2.1).mono (by omega) (by omega)
  · rename_i x y
    simp only [argsOKL_cons, Bool.and_eq_true] at ha
    have hb : nodes (.bool Pos.unknown false) = 1 := rfl  -- for `omega`
    simp only [nodesL_cons, nodesL_nil]
    exact (fitC hE x y _ ha.1 ha.2.1 rfl).mono (by omega) (by omega)
  · rename_i x y
    simp only [argsOKL_cons, Bool.and_eq_true] at ha
    have hb : nodes (.bool Pos.unknown true) = 1 := rfl  -- for `omega`
    simp only [nodesL_cons, nodesL_nil]
    exact (fitC hE x _ y ha.1 rfl ha.2.1).mono (by omega) (by omega)
  · rename_i x rest
    rw [argsOKL_cons, Bool.and_eq_true] at ha
    rw [nodesL_cons]
    exact (Fit.bind (hE x ha.1) fun _ _ => fit_sOp).mono (by omega) (by omega)
  · exact (fit_ite (fit_throw (by simp)) (fit_ite
      (Fit.bind (fitT hE args ha) fun _ _ => fit_tail _ hlen)
      (Fit.bind (fitL hE args ha) fun _ _ => fit_tail _ hlen))).mono (by omega) (by omega)

theorem fitE_zero : FitE funs 0 := by
  intro e _
  unfold sizeE
  exact fit_throw (by simp)

theorem fit_lit : Fit (do sOp; sConst : SM Unit) (16 * 1) (2 * 1 - 1) :=
  (Fit.bind fit_sOp fun _ _ => fit_sConst).mono (by omega) (by omega)

theorem fitE_succ (hE : FitE funs cf) : FitE funs (cf + 1) := by
  intro e ha
  unfold sizeE
  cases e with
  | str | num | time | bool | ident => exact fit_lit
  | list p es ty =>
    change argsOKL es = true at ha
    rw [nodes_list]
    refine Fit.assume fun hb => ?_
    have hlen : es.length ≤ 65535 := by have := length_le_nodesL es; omega
    exact (Fit.bind (fitL hE es ha) fun _ _ => Fit.bind fit_sOp fun _ _ =>
      Fit.bind fit_sConst fun _ _ => fit_sU16 hlen).mono (by omega) (by omega)
  | map p ps ty =>
    change argsOKP ps = true at ha
    rw [nodes_map]
    refine Fit.assume fun hb => ?_
    have hlen : ps.length ≤ 65535 := by have := length_le_nodesP ps; omega
    exact (Fit.bind (fitP hE ps ha) fun _ _ => Fit.bind fit_sOp fun _ _ =>
      Fit.bind fit_sConst fun _ _ => fit_sU16 hlen).mono (by omega) (by omega)
  | obj p fs ty =>
    change argsOKF fs = true at ha
    rw [nodes_obj]
    exact (Fit.bind (fitF hE fs ha) fun _ _ => Fit.bind fit_sOp fun _ _ => fit_sConst).mono
      (by omega) (by omega)
  | member p col obj field fp oty index =>
    change argsOK obj = true at ha
    have := nodes_pos obj
    rw [nodes_member]
    exact (Fit.bind (hE obj ha) fun _ _ => Fit.bind fit_sOp fun _ _ => fit_sConst).mono
      (by omega) (by omega)
  | subscript p col var idx vty =>
    rw [argsOK_subscript, Bool.and_eq_true] at ha
    have := nodes_pos var; have := nodes_pos idx
    have htail : Fit (match vty with
        | some (.list _) => sOp
        | some (.map _ _) => sOp
        | _ => throw (.unreachable "subscript") : SM Unit) 1 0 := by
      split
      · exact fit_sOp
      · exact fit_sOp
      · exact fit_throw (by simp)
    rw [nodes_subscript]
    exact (Fit.bind (hE var ha.1) fun _ _ => Fit.bind (hE idx ha.2) fun _ _ => htail).mono
      (by omega) (by omega)
  | unary | binary | ternary | group => exact fit_throw (by simp)
  | call p col callee args cty resolved index =>
    simp only [argsOK_call, Bool.and_eq_true, decide_eq_true_eq] at ha
    obtain ⟨⟨hlen, hcal⟩, hargs⟩ := ha
    have := nodes_pos callee
    rw [nodes_call]
    dsimp only
    split
    · exact (Fit.bind (hE callee hcal) fun _ _ => Fit.bind (fitL hE args hargs) fun _ _ =>
        Fit.bind fit_sOp fun _ _ => fit_sU8 hlen).mono (by omega) (by omega)
    · split
      · exact fit_throw (by simp)
      · rename_i d _
        exact (fit_sizeBody hE d (bidOf d) args hargs hlen).mono (by omega) (by omega)

theorem fitE_all : ∀ cf, FitE funs cf
  | 0 => fitE_zero
  | cf+1 => fitE_succ (fitE_all cf)

/-- at most 4095 nodes (16 · 4095 + 1 = 65 521 bytes, 8189 constants), no call with more than 255 arguments -/
theorem sizes_small (funs : List FunDecl) {e : Expr} (ha : argsOK e = true)
    (hn : nodes e ≤ 4095) : sizes funs e ≠ .error .overflow := by
  have h : Fit (do sizeE (e.depth + 1) funs e; sOp : SM Unit) (16 * nodes e + 1) (2 * nodes e - 1) :=
    Fit.bind (fitE_all _ e ha) fun _ _ => fit_sOp
  unfold sizes
  exact ((h 0 0 (by omega) (by omega)).bind fun _ _ => Except.Sat.pure (P := fun _ => True) trivial).ne_error
    fun h => h rfl

end

end Yae.VmChk
