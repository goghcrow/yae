/-
  `ValInv good`: `good` is true of the primitives, true of a list, object or map exactly when true of its
  components, and passes from `just ty v` to `v` (that direction only; nothing is asked about `nothing`, `nil` and
  function values).  The instances are "refers to no printing function" (`quietInv`, C13) and "contains no lazy
  function value" (`noLazyInv`, C03).  The strict built-ins keep such a predicate, making no function value
  (`applyBuiltin_cases`, one case analysis of `applyBuiltin`).  What that analysis needs is where the components
  of a result come from: an element of a list or set result, a looked-up entry or field is a component of an
  argument (the lemmas on the set functions also serve the typed analysis of the built-ins, `SoundnessBuiltins`,
  hence their namespace `Sound`).
-/
import Yae.Model.Builtins
import Yae.Proofs.ListLemmas
namespace Yae

structure ValInv (good : Val → Prop) : Prop where
  num : ∀ x, good (.num x)
  str : ∀ s, good (.str s)
  bool : ∀ b, good (.bool b)
  time : ∀ t, good (.time t)
  list : ∀ ty vs, good (.list ty vs) ↔ ∀ v ∈ vs.toList, good v
  obj : ∀ ty vs, good (.obj ty vs) ↔ ∀ v ∈ vs.toList, good v
  map : ∀ ty es, good (.map ty es) ↔ ∀ x ∈ es.toList, good x.2.2
  just : ∀ ty v, good (.just ty v) → good v

theorem ValInv.top : ValInv fun _ => True := by
  constructor <;> simp

namespace Sound

theorem valSetOf_mem : ∀ (xs : ValList) (e : String × Val), e ∈ valSetOf xs → e.2 ∈ xs.toList
  | .nil, e, h => by simp [valSetOf] at h
  | .cons x xs, e, h => by
    simp only [valSetOf, List.mem_cons, List.mem_filter] at h
    rcases h with rfl | ⟨h, _⟩
    · simp [ValList.toList]
    · simp [ValList.toList, valSetOf_mem xs e h]

theorem setUnion_mem {x y : List (String × Val)} {v : Val} (h : v ∈ setUnion x y) :
    (∃ e ∈ x, e.2 = v) ∨ (∃ e ∈ y, e.2 = v) := by
  simp only [setUnion, List.mem_append, List.mem_map, List.mem_filter] at h
  rcases h with ⟨e, he, rfl⟩ | ⟨e, ⟨he, _⟩, rfl⟩
  · exact .inl ⟨e, he, rfl⟩
  · exact .inr ⟨e, he, rfl⟩

theorem setIntersect_mem {x y : List (String × Val)} {v : Val} (h : v ∈ setIntersect x y) :
    ∃ e ∈ y, e.2 = v := by
  simp only [setIntersect, List.mem_filterMap] at h
  obtain ⟨_, _, hg⟩ := h
  exact ⟨_, assoc_some_mem hg, rfl⟩

theorem setDiff_mem {x y : List (String × Val)} {v : Val} (h : v ∈ setDiff x y) :
    ∃ e ∈ x, e.2 = v := by
  simp only [setDiff, List.mem_map, List.mem_filter] at h
  obtain ⟨e, ⟨he, _⟩, rfl⟩ := h
  exact ⟨e, he, rfl⟩

end Sound

namespace ValList
theorem toList_ofList : ∀ l : List Val, (ofList l).toList = l
  | [] => rfl
  | x :: l => by simp [ofList, toList, toList_ofList l]
end ValList

theorem ValList.mem_of_get? : ∀ {vs : ValList} {i : Nat} {v : Val}, vs.get? i = some v →
    v ∈ vs.toList
  | .cons x xs, 0, v, h => by cases h; exact List.mem_cons_self ..
  | .cons x xs, i+1, v, h => List.mem_cons_of_mem _ (mem_of_get? (vs := xs) h)

theorem EntryList.mem_of_find? : ∀ {es : EntryList} {t : Kind} {k : String} {v : Val},
    es.find? t k = some v → ∃ x ∈ es.toList, x.2.2 = v
  | .cons t' k' v' es, t, k, v, h => by
    simp only [find?] at h
    split at h
    · cases h; exact ⟨_, List.mem_cons_self .., rfl⟩
    · obtain ⟨x, hx, hv⟩ := mem_of_find? h
      exact ⟨x, List.mem_cons_of_mem _ hx, hv⟩

theorem EntryList.mem_insert : ∀ {es : EntryList} {t : Kind} {k : String} {v : Val}
    {x : Kind × String × Val}, x ∈ (es.insert t k v).toList → x ∈ es.toList ∨ x.2.2 = v
  | .nil, t, k, v, x, h => by
    simp only [insert, toList, List.mem_singleton] at h
    exact .inr (by rw [h])
  | .cons t' k' v' es, t, k, v, x, h => by
    simp only [insert] at h
    split at h
    · rcases List.mem_cons.1 h with rfl | h
      · exact .inr rfl
      · exact .inl (List.mem_cons_of_mem _ h)
    · rcases List.mem_cons.1 h with rfl | h
      · exact .inl (List.mem_cons_self ..)
      · exact (mem_insert h).imp_left (List.mem_cons_of_mem _)

theorem mem_of_objGet? {ty : Ty} {vs : ValList} {field : String} {v : Val}
    (h : objGet? ty vs field = some v) : v ∈ vs.toList := by
  unfold objGet? at h
  split at h
  · next fs =>
    cases hi : fs.indexOf? field with
    | none => rw [hi] at h; cases h
    | some i => rw [hi] at h; exact ValList.mem_of_get? h
  · cases h

/-- the failures of the strict built-ins: the two documented ones, and seven internal faults -/
def BuiltinFail : Fail → Prop
  | .modZero | .badRegex => True
  | .stuck s => s ∈ ["cast:max", "cast:min", "cast:maybe", "cast:builtin-args", "extern-miss:regex",
      "extern-miss:strtotime", "invalid map key type"]
  | _ => False

/-- A value: a primitive, an argument, a component of an argument
or a list of elements of the arguments (so every `ValInv` of the arguments is one of the value); it has written
nothing, except `print`, which writes the rendering of what it returns.  Or one of the failures `BuiltinFail`. -/
abbrev Returns (good : Val → Prop) (id : BId) (args : List Val) : Except Fail (Val × List Event) → Prop
  | .ok (v, evs) => ((∀ a ∈ args, good a) → good v) ∧
      (evs = [] ∨ id = .PRINT_ANY ∧ evs = [.print v.render])
  | .error f => BuiltinFail f

section
variable {good : Val → Prop} (G : ValInv good)
include G

theorem ValInv.find {ty : Ty} {es : EntryList} {t : Kind} {k : String} {v : Val}
    (hm : good (.map ty es)) (h : es.find? t k = some v) : good v := by
  obtain ⟨x, hx, rfl⟩ := EntryList.mem_of_find? h
  exact (G.map ty es).1 hm x hx

theorem ValInv.ofList (ty : Ty) {l : List Val} {tx ty' : Ty} {xs ys : ValList}
    (hx : good (.list tx xs)) (hy : good (.list ty' ys))
    (h : ∀ v ∈ l, (∃ e ∈ valSetOf xs, e.2 = v) ∨ ∃ e ∈ valSetOf ys, e.2 = v) :
    good (.list ty (ValList.ofList l)) := by
  refine (G.list _ _).2 fun v hv => ?_
  rw [ValList.toList_ofList] at hv
  rcases h v hv with ⟨e, he, rfl⟩ | ⟨e, he, rfl⟩
  · exact (G.list _ _).1 hx _ (Sound.valSetOf_mem xs e he)
  · exact (G.list _ _).1 hy _ (Sound.valSetOf_mem ys e he)

theorem applyBuiltin_cases {ext : Externs} {id : BId} {args : List Val}
    {r : Except Fail (Val × List Event)} (h : applyBuiltin ext id args = r) :
    Returns good id args r := by
  unfold applyBuiltin at h
  split at h
  all_goals first
    | (subst h
       refine ⟨fun hq => ?_, by first | exact .inl rfl | exact .inr ⟨rfl, rfl⟩⟩
       first | exact G.num _ | exact G.str _ | exact G.bool _ | exact G.time _
             | (apply hq; simp; done) | skip)
    | (subst h; simp [stuckCast, BuiltinFail]; done)
    | (try dsimp only at h
       repeat' split at h
       all_goals subst h
       all_goals first
        | (refine ⟨fun hq => ?_, .inl rfl⟩
           first | exact G.num _ | exact G.str _ | exact G.bool _ | exact G.time _
                 | (apply hq; simp; done) | skip)
        | (simp [stuckCast, BuiltinFail]; done))
  -- left: parts of an argument, or sets made of the arguments' elements
  all_goals
    have h1 := hq _ (List.mem_cons_self ..)
    have h2 := hq _ (List.mem_cons_of_mem _ (List.mem_cons_self ..))
    first
      | exact G.ofList _ h1 h2 fun _ => Sound.setUnion_mem
      | exact G.ofList _ h2 h2 fun _ hv => .inl (Sound.setIntersect_mem hv)
      | exact G.ofList _ h1 h1 fun _ hv => .inl (Sound.setDiff_mem hv)
      | exact G.find h1 (by assumption)
      | exact (G.list _ _).1 h1 _ (ValList.mem_of_get? (by assumption))
      | exact G.just _ _ h1

end

end Yae
