/-
  `insertBy` / `sortBy`, the stable insertion sort of the model (`sort.SliceStable`), for an arbitrary test `lt`:
  a permutation; sorted for every transitive relation that `lt` decides; the members of a class on which `lt` is
  constantly true keep their order.
-/
import Yae.Model.Val
namespace Yae
variable {α : Type} {lt : α → α → Bool}

theorem insertBy_perm (lt : α → α → Bool) (x : α) : ∀ l : List α, (insertBy lt x l).Perm (x :: l)
  | [] => List.Perm.refl _
  | y :: ys => by
    simp only [insertBy]
    split
    · exact List.Perm.refl _
    · exact ((insertBy_perm lt x ys).cons y).trans (List.Perm.swap x y ys)

theorem sortBy_cons (lt : α → α → Bool) (x : α) (xs : List α) :
    sortBy lt (x :: xs) = insertBy lt x (sortBy lt xs) := rfl

theorem sortBy_perm (lt : α → α → Bool) : ∀ l : List α, (sortBy lt l).Perm l
  | [] => List.Perm.refl _
  | x :: xs => (insertBy_perm lt x _).trans ((sortBy_perm lt xs).cons x)

theorem mem_insertBy (lt : α → α → Bool) (x : α) (l : List α) (a : α) :
    a ∈ insertBy lt x l ↔ a = x ∨ a ∈ l := by
  rw [(insertBy_perm lt x l).mem_iff]; simp

theorem mem_sortBy (lt : α → α → Bool) (l : List α) (a : α) : a ∈ sortBy lt l ↔ a ∈ l :=
  (sortBy_perm lt l).mem_iff

theorem length_sortBy (lt : α → α → Bool) (l : List α) : (sortBy lt l).length = l.length :=
  (sortBy_perm lt l).length_eq

structure SortsBy (lt : α → α → Bool) (R : α → α → Prop) : Prop where
  pos : ∀ {x y}, lt x y = true → R x y
  neg : ∀ {x y}, lt x y = false → R y x
  trans : ∀ {x y z}, R x y → R y z → R x z

theorem insertBy_pairwise {R : α → α → Prop} (hR : SortsBy lt R) (x : α) :
    ∀ l : List α, l.Pairwise R → (insertBy lt x l).Pairwise R
  | [], _ => by simp [insertBy]
  | y :: ys, h => by
    have hy := List.pairwise_cons.1 h
    simp only [insertBy]
    split
    · next hlt =>
      exact List.pairwise_cons.2 ⟨List.forall_mem_cons.2 ⟨hR.pos hlt, fun a ha => hR.trans (hR.pos hlt) (hy.1 a ha)⟩, h⟩
    · next hlt =>
      refine List.pairwise_cons.2 ⟨fun a ha => ?_, insertBy_pairwise hR x ys hy.2⟩
      rcases (mem_insertBy _ x ys a).1 ha with rfl | ha
      · exact hR.neg (Bool.not_eq_true _ ▸ hlt)
      · exact hy.1 a ha

theorem sortBy_pairwise {R : α → α → Prop} (hR : SortsBy lt R) : ∀ l : List α, (sortBy lt l).Pairwise R
  | [] => List.Pairwise.nil
  | x :: xs => insertBy_pairwise hR x _ (sortBy_pairwise hR xs)

/-- Stability: `x` is put in front of the first member of its class. -/
theorem insertBy_filter {p : α → Bool} {x : α} (h : ∀ y, p x = true → p y = true → lt x y = true) :
    ∀ l : List α, (insertBy lt x l).filter p = (x :: l).filter p
  | [] => rfl
  | y :: ys => by
    simp only [insertBy]
    split
    · rfl
    · next hlt =>
      rw [List.filter_cons, insertBy_filter h ys]
      cases hx : p x <;> cases hy : p y <;> simp only [List.filter_cons, hx, hy] <;> try rfl
      exact absurd (h y hx hy) hlt

theorem sortBy_filter {p : α → Bool} (h : ∀ x y, p x = true → p y = true → lt x y = true) :
    ∀ l : List α, (sortBy lt l).filter p = l.filter p
  | [] => rfl
  | x :: xs => by
    rw [sortBy_cons, insertBy_filter (h x), List.filter_cons, List.filter_cons, sortBy_filter h xs]

end Yae
