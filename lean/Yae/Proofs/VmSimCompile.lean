/-
  C03: the compiler produces a layout.  `compileE` only appends to the code buffer and to the pool (the two
  `patch` calls of `compileCond` write inside the fragment being emitted), and whatever buffer agrees with the
  result on the fragment's range is laid out for `e`.  The same walk keeps, for C11, what a layout against the
  final pool cannot say: each deferred body stored on the way is a layout against the pool as it was then (`Bodies`).
  The result is `Yae.VmSim.compile_inv`; `compile_layout` is the part of it C03 uses.
-/
import Yae.Proofs.VmSimCode
import Yae.Proofs.VmSimExec

namespace Yae.VmCV
open Yae

/-! `wa` (the annotations the simulation proof needs) asks a non-empty list / map literal only to carry *some*
type; the verifier (as the machine's `NEW_LIST` / `NEW_MAP`) wants a list / map type, which is what the
checker attaches. -/

def listShape : Option Ty → Bool
  | some (.list _) => true
  | _ => false
def mapShape : Option Ty → Bool
  | some (.map _ _) => true
  | _ => false

mutual
/-- in the positions the compiler visits: the callee of a statically resolved call is not compiled -/
def lit : Expr → Bool
  | .list _ es ty => listShape ty && litL es
  | .map _ ps ty => mapShape ty && litP ps
  | .obj _ fs _ => litF fs
  | .call _ _ callee args _ resolved _ =>
    if resolved == "" then lit callee && litL args else litL args
  | .subscript _ _ var idx _ => lit var && lit idx
  | .member _ _ obj _ _ _ _ => lit obj
  | _ => true
def litL : ExprList → Bool
  | .nil => true
  | .cons e es => lit e && litL es
def litP : PairList → Bool
  | .nil => true
  | .cons k v ps => lit k && lit v && litP ps
def litF : FieldEList → Bool
  | .nil => true
  | .cons _ e fs => lit e && litF fs
end

end Yae.VmCV

namespace Yae.VmSim
open Yae Yae.Vm

def Annotated (funs : List FunDecl) (e : Expr) : Prop := wa funs e = true ∧ VmCV.lit e = true
def AnnotatedL (funs : List FunDecl) (es : ExprList) : Prop := waL funs es = true ∧ VmCV.litL es = true
def AnnotatedP (funs : List FunDecl) (ps : PairList) : Prop := waP funs ps = true ∧ VmCV.litP ps = true
def AnnotatedF (funs : List FunDecl) (fs : FieldEList) : Prop := waF funs fs = true ∧ VmCV.litF fs = true

section ann
variable {funs : List FunDecl} {p : Pos} {col : Int} {e k v var idx o callee : Expr} {es args : ExprList}
  {ps : PairList} {fs : FieldEList} {ty cty oty : Option Ty} {resolved field n : String} {fp : Pos} {index : Int}

theorem Annotated.list (h : Annotated funs (.list p es ty)) : AnnotatedL funs es := by
  simp only [Annotated, wa, VmCV.lit, Bool.and_eq_true] at h; exact ⟨h.1.2, h.2.2⟩
theorem Annotated.map (h : Annotated funs (.map p ps ty)) : AnnotatedP funs ps := by
  simp only [Annotated, wa, VmCV.lit, Bool.and_eq_true] at h; exact ⟨h.1.2, h.2.2⟩
theorem Annotated.obj (h : Annotated funs (.obj p fs ty)) : AnnotatedF funs fs := by
  simp only [Annotated, wa, VmCV.lit, Bool.and_eq_true] at h; exact ⟨h.1.2, h.2⟩
theorem Annotated.member (h : Annotated funs (.member p col o field fp oty index)) : Annotated funs o := by
  simpa only [Annotated, wa, VmCV.lit] using h
theorem Annotated.sub (h : Annotated funs (.subscript p col var idx ty)) : Annotated funs var ∧ Annotated funs idx := by
  simp only [Annotated, wa, VmCV.lit, Bool.and_eq_true] at h; exact ⟨⟨h.1.1.2, h.2.1⟩, h.1.2, h.2.2⟩
theorem Annotated.dyn (hres : (resolved == "") = true) (h : Annotated funs (.call p col callee args cty resolved index)) :
    Annotated funs callee ∧ AnnotatedL funs args := by
  simp only [Annotated, wa, VmCV.lit, hres, ↓reduceIte, Bool.and_eq_true] at h
  exact ⟨⟨h.1.1, h.2.1⟩, h.1.2, h.2.2⟩
theorem Annotated.static (hres : (resolved == "") = false) (h : Annotated funs (.call p col callee args cty resolved index)) :
    AnnotatedL funs args := by
  simp only [Annotated, wa, VmCV.lit, hres, Bool.false_eq_true, ↓reduceIte, Bool.and_eq_true] at h
  exact ⟨h.1.2, h.2⟩
theorem AnnotatedL.cons (h : AnnotatedL funs (.cons e es)) : Annotated funs e ∧ AnnotatedL funs es := by
  simp only [AnnotatedL, waL, VmCV.litL, Bool.and_eq_true] at h; exact ⟨⟨h.1.1, h.2.1⟩, h.1.2, h.2.2⟩
theorem AnnotatedP.cons (h : AnnotatedP funs (.cons k v ps)) : Annotated funs k ∧ Annotated funs v ∧ AnnotatedP funs ps := by
  simp only [AnnotatedP, waP, VmCV.litP, Bool.and_eq_true] at h
  exact ⟨⟨h.1.1.1, h.2.1.1⟩, ⟨h.1.1.2, h.2.1.2⟩, h.1.2, h.2.2⟩
theorem AnnotatedF.cons (h : AnnotatedF funs (.cons n e fs)) : Annotated funs e ∧ AnnotatedF funs fs := by
  simp only [AnnotatedF, waF, VmCV.litF, Bool.and_eq_true] at h; exact ⟨⟨h.1.1, h.2.1⟩, h.1.2, h.2.2⟩

end ann

def Bodies (funs : List FunDecl) (p : Pool) : Prop :=
  ∀ i b r, p[i]? = some (.thunk b r) → ∃ a, Annotated funs a ∧ LayU funs (p.extract 0 i) b a

theorem Bodies.empty {funs : List FunDecl} : Bodies funs #[] := by
  intro i b r h; simp at h

theorem Bodies.push {funs : List FunDecl} {p : Pool} {k : Const} (h : Bodies funs p)
    (hk : ∀ b r, k = .thunk b r → ∃ a, Annotated funs a ∧ LayU funs p b a) : Bodies funs (p.push k) := by
  intro i b r hi
  rw [Array.getElem?_push] at hi
  split at hi
  · rename_i hlast
    subst hlast
    rw [Array.extract_push_of_le (Nat.le_refl _), show p.extract 0 p.size = p by simp]
    exact hk b r (by simpa using hi)
  · rw [Array.extract_push_of_le (Nat.le_of_lt (Array.getElem?_eq_some_iff.mp hi).1)]
    exact h i b r hi

theorem Bodies.push_other {funs : List FunDecl} {p : Pool} {k : Const} (hk : ∀ b r, k ≠ .thunk b r)
    (h : Bodies funs p) : Bodies funs (p.push k) :=
  h.push fun b r e => absurd e (hk b r)

theorem cm_bind {σ α β} (x : StateT σ (Except CErr) α) (f : α → StateT σ (Except CErr) β) (s : σ) :
    (x >>= f) s = match x s with
      | .ok (a, s') => f a s'
      | .error e => .error e := by
  show (StateT.bind x f) s = _
  unfold StateT.bind
  cases x s <;> rfl

theorem cm_bind_ok {α β} {x : CM α} {f : α → CM β} {s : Code × Pool} {r : β × (Code × Pool)}
    (h : (x >>= f) s = .ok r) : ∃ a s', x s = .ok (a, s') ∧ f a s' = .ok r := by
  rw [cm_bind] at h
  cases hx : x s with
  | error e => rw [hx] at h; cases h
  | ok v => obtain ⟨a, s'⟩ := v; rw [hx] at h; exact ⟨a, s', rfl, h⟩

theorem app2 (c : Code) (x y : List UInt8) : (c ++ x.toArray) ++ y.toArray = c ++ (x ++ y).toArray := by
  simp [Array.append_assoc]

theorem push2 (c : Code) (a b : UInt8) : (c.push a).push b = c ++ #[a, b] := by
  apply Array.ext'; simp

theorem emitOp_ok {op : Op} {s s' : Code × Pool} {u : Unit} (h : emitOp op s = .ok (u, s')) :
    s' = (s.1 ++ [UInt8.ofNat op.code].toArray, s.2) := by
  obtain ⟨c, p⟩ := s; cases h; simp

theorem emitU16_eq (n : Nat) (c : Code) (p : Pool) :
    emitU16 n (c, p) = if n > 65535 then .error .overflow
      else .ok ((), ((c.push (UInt8.ofNat (n / 256))).push (UInt8.ofNat (n % 256)), p)) := by
  unfold emitU16; split <;> rfl

theorem emitU8_eq (n : Nat) (c : Code) (p : Pool) :
    emitU8 n (c, p) = if n > 255 then .error .overflow else .ok ((), (c.push (UInt8.ofNat n), p)) := by
  unfold emitU8; split <;> rfl

theorem patch_eq (off t : Nat) (c : Code) (p : Pool) :
    patch off t (c, p) = if t > 65535 then .error .overflow
      else .ok ((), ((c.set! off (UInt8.ofNat (t / 256))).set! (off + 1) (UInt8.ofNat (t % 256)), p)) := by
  unfold patch; split <;> rfl

theorem emitU16_ok {n : Nat} {s s' : Code × Pool} {u : Unit} (h : emitU16 n s = .ok (u, s')) :
    n ≤ 65535 ∧ s' = (s.1 ++ [UInt8.ofNat (n / 256), UInt8.ofNat (n % 256)].toArray, s.2) := by
  obtain ⟨c, p⟩ := s
  rw [emitU16_eq] at h
  split at h <;> cases h
  exact ⟨by omega, by rw [push2]⟩

theorem emitU8_ok {n : Nat} {s s' : Code × Pool} {u : Unit} (h : emitU8 n s = .ok (u, s')) :
    n ≤ 255 ∧ s' = (s.1 ++ [UInt8.ofNat n].toArray, s.2) := by
  obtain ⟨c, p⟩ := s
  rw [emitU8_eq] at h
  split at h <;> cases h
  exact ⟨by omega, by simp⟩

theorem emitConst_ok {k : Const} {s s' : Code × Pool} {u : Unit} (h : emitConst k s = .ok (u, s')) :
    s.2.size ≤ 65535 ∧
    s' = (s.1 ++ [UInt8.ofNat (s.2.size / 256), UInt8.ofNat (s.2.size % 256)].toArray, s.2.push k) := by
  obtain ⟨c, p⟩ := s
  exact emitU16_ok (s := (c, p.push k)) h

theorem here_ok {s s' : Code × Pool} {n : Nat} (h : here s = .ok (n, s')) : n = s.1.size ∧ s' = s := by
  obtain ⟨c, p⟩ := s; cases h; exact ⟨rfl, rfl⟩

theorem placeholder_ok {s s' : Code × Pool} {n : Nat} (h : placeholder s = .ok (n, s')) :
    n = s.1.size ∧ s' = (s.1 ++ [UInt8.ofNat 0, UInt8.ofNat 0].toArray, s.2) := by
  obtain ⟨c, p⟩ := s; cases h; exact ⟨rfl, congrArg (·, p) (push2 c _ _)⟩

theorem patch_ok {off t : Nat} {s s' : Code × Pool} {u : Unit} (h : patch off t s = .ok (u, s')) :
    t ≤ 65535 ∧ s' = ((s.1.set! off (UInt8.ofNat (t / 256))).set! (off + 1) (UInt8.ofNat (t % 256)), s.2) := by
  obtain ⟨c, p⟩ := s
  rw [patch_eq] at h
  split at h <;> cases h
  exact ⟨by omega, rfl⟩

theorem get_ok {s s' a : Code × Pool} (h : (get : CM (Code × Pool)) s = .ok (a, s')) : a = s ∧ s' = s := by
  cases h; exact ⟨rfl, rfl⟩

theorem set_ok {x s s' : Code × Pool} {u : PUnit} (h : (set x : CM PUnit) s = .ok (u, s')) : s' = x := by
  cases h; rfl

theorem Same.restrict {C c' cb : Code} {lo hi a : Nat} (h : Same C c' lo hi) (hp : Pre cb c')
    (h1 : lo ≤ a) (h2 : cb.size ≤ hi) : Same C cb a cb.size :=
  fun i hi1 hi2 => by rw [h i (by omega) (by omega), hp.2 i hi2]

theorem pool_last {P p : Pool} {k : Const} (h : Pre (p.push k) P) : P[p.size]? = some k := by
  rw [h.2 p.size (by simp)]
  simp

structure Step {ι : Type} (funs : List FunDecl) (Lay : Pool → Code → ι → Nat → Nat → Prop) (Ok : ι → Prop) (x : ι)
    (s s' : Code × Pool) : Prop where
  code : Pre s.1 s'.1
  pool : Pre s.2 s'.2
  lay : ∀ C P, Same C s'.1 s.1.size s'.1.size → Pre s'.2 P → Lay P C x s.1.size s'.1.size
  bodies : Ok x → Bodies funs s.2 → Bodies funs s'.2

section
variable {funs : List FunDecl} {cf : Nat}

theorem Step.skip {s : Code × Pool} {Ok : Unit → Prop} :
    Step funs (fun _ _ (_ : Unit) o o' => o' = o) Ok () s s :=
  ⟨Pre.refl _, Pre.refl _, fun _ _ _ _ => rfl, fun _ h => h⟩

theorem Step.nil {s : Code × Pool} : Step funs (fun _ _ (_ : Unit) o o' => o' = o) (fun _ => True) () s s :=
  Step.skip

theorem Step.mono {ι κ} {L1 : Pool → Code → ι → Nat → Nat → Prop} {L2 : Pool → Code → κ → Nat → Nat → Prop}
    {O1 : ι → Prop} {O2 : κ → Prop} {x : ι} {y : κ} {s s' : Code × Pool} (a : Step funs L1 O1 x s s')
    (h : ∀ P C o o', L1 P C x o o' → L2 P C y o o') (hok : O2 y → O1 x) : Step funs L2 O2 y s s' :=
  ⟨a.code, a.pool, fun C P hS hP => h _ _ _ _ (a.lay C P hS hP), fun o => a.bodies (hok o)⟩

theorem Step.seq {ι κ} {L1 : Pool → Code → ι → Nat → Nat → Prop} {L2 : Pool → Code → κ → Nat → Nat → Prop}
    {O1 : ι → Prop} {O2 : κ → Prop} {x : ι} {y : κ} {s s1 s2 : Code × Pool}
    (a : Step funs L1 O1 x s s1) (b : Step funs L2 O2 y s1 s2) :
    Step funs (fun P C (z : ι × κ) o o' => ∃ o1, L1 P C z.1 o o1 ∧ L2 P C z.2 o1 o')
      (fun z => O1 z.1 ∧ O2 z.2) (x, y) s s2 :=
  ⟨a.code.trans b.code, a.pool.trans b.pool, fun C P hS hP =>
    ⟨s1.1.size, a.lay C P (hS.restrict b.code (Nat.le_refl _) b.code.1) (b.pool.trans hP),
      b.lay C P (hS.sub a.code.1 (Nat.le_refl _)) hP⟩, fun o h => b.bodies o.2 (a.bodies o.1 h)⟩

/-- `x`, then the bytes `bs` of one instruction: what the bytes guarantee at their offset holds after `x` -/
theorem Step.snoc {ι} {Lay : Pool → Code → ι → Nat → Nat → Prop} {Ok : ι → Prop} {x : ι} {s s1 : Code × Pool}
    {bs : List UInt8} {p' : Pool} {R : Pool → Code → Nat → Nat → Prop} (a : Step funs Lay Ok x s s1)
    (hp : Pre s1.2 p') (hb : Ok x → Bodies funs s1.2 → Bodies funs p')
    (hR : ∀ C P, BytesAt C s1.1.size bs → Pre p' P → R P C s1.1.size (s1.1.size + bs.length)) :
    Step funs (fun P C x o o' => ∃ o1, Lay P C x o o1 ∧ R P C o1 o') Ok x s (s1.1 ++ bs.toArray, p') :=
  ⟨a.code.trans (Pre.append _ _), a.pool.trans hp, fun C P hS hP => ⟨s1.1.size,
    a.lay C P (hS.restrict (Pre.append _ _) (Nat.le_refl _) (by simp)) (hp.trans hP),
    by simpa using hR C P (bytesAt_tail hS a.code.1) hP⟩, fun o h => hb o (a.bodies o h)⟩

def CompE (funs : List FunDecl) (cf : Nat) : Prop :=
  ∀ e s s' u, compileE cf funs e s = .ok (u, s') → Step funs (LayE funs) (Annotated funs) e s s'

theorem compList (hE : CompE funs cf) :
    ∀ (es : ExprList) s s' u, compileList cf funs es s = .ok (u, s') → Step funs (LayL funs) (AnnotatedL funs) es s s'
  | .nil, s, s', u, h => by
    rw [compileList] at h; cases h
    exact ⟨Pre.refl _, Pre.refl _, fun _ _ _ _ => LayL.nil, fun _ h => h⟩
  | .cons e es, s, s', u, h => by
    rw [compileList] at h
    obtain ⟨_, s1, h1, h⟩ := cm_bind_ok h
    exact ((hE e s s1 _ h1).seq (compList hE es s1 s' _ h)).mono
      (fun _ _ _ _ ⟨_, l1, l2⟩ => LayL.cons l1 l2) AnnotatedL.cons

theorem compFields (hE : CompE funs cf) :
    ∀ (fs : FieldEList) s s' u, compileFields cf funs fs s = .ok (u, s') → Step funs (LayF funs) (AnnotatedF funs) fs s s'
  | .nil, s, s', u, h => by
    rw [compileFields] at h; cases h
    exact ⟨Pre.refl _, Pre.refl _, fun _ _ _ _ => LayF.nil, fun _ h => h⟩
  | .cons n e fs, s, s', u, h => by
    rw [compileFields] at h
    obtain ⟨_, s1, h1, h⟩ := cm_bind_ok h
    exact ((hE e s s1 _ h1).seq (compFields hE fs s1 s' _ h)).mono
      (fun _ _ _ _ ⟨_, l1, l2⟩ => LayF.cons l1 l2) AnnotatedF.cons

theorem compPairs (hE : CompE funs cf) :
    ∀ (ps : PairList) s s' u, compilePairs cf funs ps s = .ok (u, s') → Step funs (LayP funs) (AnnotatedP funs) ps s s'
  | .nil, s, s', u, h => by
    rw [compilePairs] at h; cases h
    exact ⟨Pre.refl _, Pre.refl _, fun _ _ _ _ => LayP.nil, fun _ h => h⟩
  | .cons k v ps, s, s', u, h => by
    rw [compilePairs] at h
    obtain ⟨_, s1, h1, h⟩ := cm_bind_ok h
    obtain ⟨_, s2, h2, h⟩ := cm_bind_ok h
    exact ((hE k s s1 _ h1).seq ((hE v s1 s2 _ h2).seq (compPairs hE ps s2 s' _ h))).mono
      (fun _ _ _ _ ⟨_, l1, _, l2, l3⟩ => LayP.cons l1 l2 l3) AnnotatedP.cons

theorem bytesAt3 {C : Code} {o : Nat} {a b c : UInt8} (h0 : C[o]? = some a) (h1 : C[o+1]? = some b)
    (h2 : C[o+2]? = some c) : BytesAt C o [a, b, c] := by
  intro j hj
  match j, hj with
  | 0, _ => simpa using h0
  | 1, _ => simpa using h1
  | 2, _ => simpa using h2

theorem patch_get (c : Code) (o : Nat) (a b : UInt8) :
    let c' := (c.set! o a).set! (o + 1) b
    c'.size = c.size ∧ (o + 1 < c.size → c'[o]? = some a ∧ c'[o + 1]? = some b) ∧
      ∀ i, i < o ∨ o + 2 ≤ i → c'[i]? = c[i]? := by
  simp only [Array.set!_eq_setIfInBounds, Array.getElem?_setIfInBounds, Array.size_setIfInBounds]
  refine ⟨trivial, fun h => ⟨?_, ?_⟩, fun i hi => ?_⟩
  · rw [if_neg (by omega), if_pos trivial, if_pos (by omega)]
  · rw [if_pos trivial, if_pos h]
  · rw [if_neg (by omega), if_neg (by omega)]

theorem patched_get (c : Code) (pF pN : Nat) (h1 l1 h2 l2 : UInt8) (hlt : pF + 1 < pN) (hsz : pN + 1 < c.size) :
    let c9 := (((c.set! pF h1).set! (pF + 1) l1).set! pN h2).set! (pN + 1) l2
    c9.size = c.size ∧ (c9[pF]? = some h1 ∧ c9[pF+1]? = some l1) ∧ (c9[pN]? = some h2 ∧ c9[pN+1]? = some l2) ∧
    ∀ i, i < pF ∨ (pF + 2 ≤ i ∧ i < pN) ∨ pN + 2 ≤ i → c9[i]? = c[i]? := by
  obtain ⟨a0, a1, a2⟩ := patch_get c pF h1 l1
  obtain ⟨b0, b1, b2⟩ := patch_get ((c.set! pF h1).set! (pF + 1) l1) pN h2 l2
  have a1 := a1 (by omega)
  refine ⟨b0.trans a0, ⟨?_, ?_⟩, b1 (by omega), fun i hi => (b2 i (by omega)).trans (a2 i (by omega))⟩
  · rw [b2 _ (by omega)]; exact a1.1
  · rw [b2 _ (by omega)]; exact a1.2

theorem compCond (hE : CompE funs cf) (c t e : Expr) (s s' : Code × Pool) (u : Unit)
    (h : compileCond cf funs c t e s = .ok (u, s')) :
    Step funs (fun P C (x : Expr × Expr × Expr) o o' => LayC funs P C x.1 x.2.1 x.2.2 o o')
      (fun x => Annotated funs x.1 ∧ Annotated funs x.2.1 ∧ Annotated funs x.2.2) (c, t, e) s s' := by
  rw [compileCond] at h
  obtain ⟨_, s1, h1, h⟩ := cm_bind_ok h
  obtain ⟨_, _, h2, h⟩ := cm_bind_ok h
  obtain ⟨pF, _, h3, h⟩ := cm_bind_ok h
  obtain ⟨_, s4, h4, h⟩ := cm_bind_ok h
  obtain ⟨_, _, h5, h⟩ := cm_bind_ok h
  obtain ⟨pN, s6, h6, h⟩ := cm_bind_ok h
  obtain ⟨bF, _, h7, h⟩ := cm_bind_ok h
  obtain ⟨_, s7, h8, h⟩ := cm_bind_ok h
  obtain ⟨nx, _, h9, h⟩ := cm_bind_ok h
  obtain ⟨_, _, h10, h11⟩ := cm_bind_ok h
  cases emitOp_ok h2
  obtain ⟨epF, rfl⟩ := placeholder_ok h3
  cases emitOp_ok h5
  obtain ⟨epN, rfl⟩ := placeholder_ok h6
  cases (here_ok h7).2
  cases (here_ok h9).2
  have ebF := (here_ok h7).1
  have enx := (here_ok h9).1
  obtain ⟨hbF, rfl⟩ := patch_ok h10
  obtain ⟨hnx, rfl⟩ := patch_ok h11
  have a := hE c s s1 _ h1
  have b := hE t _ s4 _ h4
  have d := hE e _ s7 _ h8
  simp only [app2, List.cons_append, List.nil_append, Array.size_append, List.size_toArray,
    List.length_cons, List.length_nil, Nat.zero_add, Nat.reduceAdd] at epF epN ebF b d
  subst epF epN ebF enx
  -- `s1.1 ++ [IF_TRUE, 0, 0]` begins `s4.1`, `s4.1 ++ [JUMP, 0, 0]` begins `s7.1`, which is then patched
  have h4 := b.code
  have h7 := d.code
  have bl := b.lay
  have dl := d.lay
  have hc4 : Pre s4.1 s7.1 := (Pre.append _ _).trans h7
  have hc1 : Pre s1.1 s7.1 := (Pre.append _ _).trans (h4.trans hc4)
  have z4 := h4.1
  have z7 := h7.1
  simp only [Array.size_append, List.size_toArray, List.length_cons, List.length_nil] at z4 z7 bl dl
  obtain ⟨q0, qF, qN, q⟩ := patched_get s7.1 (s1.1.size + 1) (s4.1.size + 1)
    (UInt8.ofNat ((s4.1.size + 3) / 256)) (UInt8.ofNat ((s4.1.size + 3) % 256))
    (UInt8.ofNat (s7.1.size / 256)) (UInt8.ofNat (s7.1.size % 256)) (by omega) (by omega)
  generalize (((s7.1.set! _ _).set! _ _).set! _ _).set! _ _ = c' at q0 qF qN q ⊢
  have hs1 := a.code.1
  refine ⟨⟨by rw [q0]; omega, fun i hi => (q i (by omega)).trans ((a.code.trans hc1).2 i hi)⟩,
    a.pool.trans (b.pool.trans d.pool), fun C P hS hP => ?_,
    fun o h => d.bodies o.2.2 (b.bodies o.2.1 (a.bodies o.1 h))⟩
  show LayC funs P C c t e s.1.size _
  rw [q0] at hS ⊢
  have hC : ∀ i, s.1.size ≤ i → i < s7.1.size → (i < s1.1.size + 1 ∨
      (s1.1.size + 1 + 2 ≤ i ∧ i < s4.1.size + 1) ∨ s4.1.size + 1 + 2 ≤ i) → C[i]? = s7.1[i]? :=
    fun i i1 i2 i3 => (hS i i1 i2).trans (q i i3)
  refine LayC.mk (o1 := s1.1.size) (o3 := s4.1.size)
    (a.lay C P (fun i i1 i2 => (hC i i1 (by omega) (by omega)).trans (hc1.2 i i2))
      (b.pool.trans (d.pool.trans hP)))
    (decode_jump (bytesAt3 ?_ ?_ ?_) hbF (by simp))
    (bl C P (fun i i1 i2 => (hC i (by omega) (by omega) (by omega)).trans (hc4.2 i i2))
      (d.pool.trans hP))
    (decode_jump (bytesAt3 ?_ ?_ ?_) hnx (by simp))
    (dl C P (fun i i1 i2 => hC i (by omega) i2 (by omega)) hP)
  · rw [hC _ (by omega) (by omega) (by omega), (h4.trans hc4).2 _ (by simp)]; simp
  · rw [hS _ (by omega) (by omega)]; exact qF.1
  · rw [hS _ (by omega) (by omega)]; exact qF.2
  · rw [hC _ (by omega) (by omega) (by omega), h7.2 _ (by simp)]; simp
  · rw [hS _ (by omega) (by omega)]; exact qN.1
  · rw [hS _ (by omega) (by omega)]; exact qN.2

theorem step_then_simple {ι} {Lay : Pool → Code → ι → Nat → Nat → Prop} {Ok : ι → Prop} {x : ι}
    {s s1 s' : Code × Pool} {op : Op} {u : Unit} (a : Step funs Lay Ok x s s1) (h : emitOp op s1 = .ok (u, s'))
    (hop : op ∉ [Op.CONST, .LOAD, .NEW_OBJ, .OBJ_LOAD, .NEW_LIST, .NEW_MAP, .IF_TRUE, .JUMP,
      .CALL_BY_VALUE, .CALL_BY_NEED, .DYNAMIC_CALL]) :
    Step funs (fun P C x o o' => ∃ o1, Lay P C x o o1 ∧ decodeAt C o1 = some (.simple op, o')) Ok x s s' := by
  cases emitOp_ok h
  exact a.snoc (Pre.refl _) (fun _ h => h) fun C P hb _ => decode_simple hb hop

theorem Step.unit {Ok : Expr → Prop} {e : Expr} {p0 : Pool} {s1 s' : Code × Pool} {u : Unit}
    (a : Step funs (LayE funs) Ok e (#[], p0) s1) (h : emitOp .RETURN s1 = .ok (u, s')) :
    Pre p0 s'.2 ∧ (∀ P, Pre s'.2 P → LayU funs P s'.1 e) ∧ (Ok e → Bodies funs p0 → Bodies funs s'.2) :=
  have b := step_then_simple a h (by decide)
  ⟨b.pool, fun P hP => by simpa [LayU] using b.lay s'.1 P (Same.refl _ _ _) hP, b.bodies⟩

/-- `CONST k`, constant `k` holding the argument compiled into a fresh buffer against the pool as it is -/
theorem compileThunks_cons {e : Expr} {es : ExprList} {ps : TyList} {c0 : Code} {p0 : Pool}
    {s' : Code × Pool} {u : Unit} (h : compileThunks cf funs (.cons e es) ps (c0, p0) = .ok (u, s')) :
    ∃ s1 body poolb pt rest, compileE cf funs e (#[], p0) = .ok ((), s1) ∧
      emitOp .RETURN s1 = .ok ((), (body, poolb)) ∧ poolb.size ≤ 65535 ∧
      compileThunks cf funs es rest
        (c0 ++ [UInt8.ofNat Op.CONST.code, UInt8.ofNat (poolb.size / 256),
          UInt8.ofNat (poolb.size % 256)].toArray, poolb.push (.thunk body pt)) = .ok (u, s') := by
  unfold compileThunks at h
  obtain ⟨_, s1, h1, k1⟩ := cm_bind_ok h
  obtain ⟨x, s1', h2, k2⟩ := cm_bind_ok k1
  obtain ⟨rfl, rfl⟩ := get_ok h2
  cases emitOp_ok h1
  simp only [] at k2
  obtain ⟨_, s2, h3, k3⟩ := cm_bind_ok k2
  cases set_ok h3
  obtain ⟨_, s1, h4, k4⟩ := cm_bind_ok k3
  obtain ⟨_, ⟨body, poolb⟩, h5, k5⟩ := cm_bind_ok k4
  obtain ⟨y, sb2', h6, k6⟩ := cm_bind_ok k5
  obtain ⟨rfl, rfl⟩ := get_ok h6
  simp only [] at k6
  obtain ⟨_, s3, h7, k7⟩ := cm_bind_ok k6
  cases set_ok h7
  obtain ⟨_, s4, h8, k8⟩ := cm_bind_ok k7
  obtain ⟨hn, rfl⟩ := emitConst_ok h8
  exact ⟨s1, body, poolb, _, _, h4, h5, hn, by simpa [app2] using k8⟩

theorem compThunks (hE : CompE funs cf) :
    ∀ (es : ExprList) (ps : TyList) s s' u, compileThunks cf funs es ps s = .ok (u, s') →
      Step funs (fun P C es o o' => ∃ ths, LayT funs P C es ths o o') (AnnotatedL funs) es s s'
  | .nil, ps, s, s', u, h => by
    unfold compileThunks at h; cases h
    exact ⟨Pre.refl _, Pre.refl _, fun _ _ _ _ => ⟨[], LayT.nil⟩, fun _ h => h⟩
  | .cons e es, ps, (c0, p0), s', u, h => by
    obtain ⟨s1, body, poolb, pt, rest, h4, h5, hn, k8⟩ := compileThunks_cons h
    obtain ⟨hp, hU, hB⟩ := (hE e _ _ _ h4).unit h5
    -- the one place a deferred body enters the pool: a unit against `poolb`, the constants before it
    have k := (Step.skip (funs := funs) (s := (c0, p0)) (Ok := fun _ => Annotated funs e)).snoc
      (p' := poolb.push (.thunk body pt))
      (R := fun P C o o' => ∃ i, decodeAt C o = some (.const .CONST i, o') ∧ P[i]? = some (.thunk body pt) ∧
        LayU funs P body e)
      (hp.trans (Pre.push _ _))
      (fun o h => (hB o h).push fun _ _ eq => by cases eq; exact ⟨e, o, hU _ (Pre.refl _)⟩)
      fun C P hb hP => ⟨_, decode_const hb hn (by simp), pool_last hP, hU _ ((Pre.push _ _).trans hP)⟩
    exact (k.seq (compThunks hE es _ _ _ _ k8)).mono
      (fun _ _ _ _ ⟨_, ⟨_, e1, _, hd, hp, _, hl, hr⟩, _, hT⟩ => ⟨_, LayT.cons (e1 ▸ hd) hp hl hr hT⟩) AnnotatedL.cons

theorem step_then_const {ι} {Lay : Pool → Code → ι → Nat → Nat → Prop} {Ok : ι → Prop} {x : ι}
    {s s1 s' : Code × Pool} {op : Op} {k : Const} {u : Unit} (a : Step funs Lay Ok x s s1)
    (h : (do emitOp op; emitConst k : CM Unit) s1 = .ok (u, s'))
    (hop : op ∈ [Op.CONST, .LOAD, .NEW_OBJ, .OBJ_LOAD]) (hk : ∀ b r, k ≠ .thunk b r) :
    Step funs (fun P C x o o' => ∃ o1, Lay P C x o o1 ∧ ∃ i, decodeAt C o1 = some (.const op i, o') ∧
      P[i]? = some k) Ok x s s' := by
  obtain ⟨_, s2, h1, h⟩ := cm_bind_ok h
  cases emitOp_ok h1
  obtain ⟨hn, rfl⟩ := emitConst_ok h
  simp only [app2, List.cons_append, List.nil_append]
  exact a.snoc (Pre.push _ _) (fun _ => Bodies.push_other hk) fun C P hb hP =>
    ⟨_, decode_const hb hn hop, pool_last hP⟩

theorem step_then_coll {ι} {Lay : Pool → Code → ι → Nat → Nat → Prop} {Ok : ι → Prop} {x : ι}
    {s s1 s' : Code × Pool} {op : Op} {k : Const} {n : Nat} {u : Unit} (a : Step funs Lay Ok x s s1)
    (h : (do emitOp op; emitConst k; emitU16 n : CM Unit) s1 = .ok (u, s'))
    (hop : op ∈ [Op.NEW_LIST, .NEW_MAP]) (hk : ∀ b r, k ≠ .thunk b r) :
    Step funs (fun P C x o o' => ∃ o1, Lay P C x o o1 ∧ ∃ i, decodeAt C o1 = some (.newColl op i n, o') ∧
      P[i]? = some k) Ok x s s' := by
  obtain ⟨_, s2, h1, h⟩ := cm_bind_ok h
  obtain ⟨_, s3, h2, h⟩ := cm_bind_ok h
  cases emitOp_ok h1
  obtain ⟨hn, rfl⟩ := emitConst_ok h2
  obtain ⟨hn', rfl⟩ := emitU16_ok h
  simp only [app2, List.cons_append, List.nil_append]
  exact a.snoc (Pre.push _ _) (fun _ => Bodies.push_other hk) fun C P hb hP =>
    ⟨_, decode_newColl hb hn hn' hop, pool_last hP⟩

theorem step_then_call {ι} {Lay : Pool → Code → ι → Nat → Nat → Prop} {Ok : ι → Prop} {x : ι}
    {s s1 s' : Code × Pool} {op : Op} {k : Const} {n : Nat} {u : Unit} (a : Step funs Lay Ok x s s1)
    (h : (do emitOp op; emitConst k; emitU8 n : CM Unit) s1 = .ok (u, s'))
    (hop : op ∈ [Op.CALL_BY_VALUE, .CALL_BY_NEED]) (hk : ∀ b r, k ≠ .thunk b r) :
    Step funs (fun P C x o o' => ∃ o1, Lay P C x o o1 ∧ ∃ i, decodeAt C o1 = some (.call op i n, o') ∧
      P[i]? = some k) Ok x s s' := by
  obtain ⟨_, s2, h1, h⟩ := cm_bind_ok h
  obtain ⟨_, s3, h2, h⟩ := cm_bind_ok h
  cases emitOp_ok h1
  obtain ⟨hn, rfl⟩ := emitConst_ok h2
  obtain ⟨hn', rfl⟩ := emitU8_ok h
  simp only [app2, List.cons_append, List.nil_append]
  exact a.snoc (Pre.push _ _) (fun _ => Bodies.push_other hk) fun C P hb hP =>
    ⟨_, decode_call hb hn hn' hop, pool_last hP⟩

theorem tyConst_ne (ty : Option Ty) : ∀ b r, tyConst ty ≠ .thunk b r := by
  intro b r h; unfold tyConst at h; split at h <;> cases h

theorem intrinsic_simple {b : BId} {op : Op} (h : intrinsicByValue b = some op) :
    op ∉ [Op.CONST, .LOAD, .NEW_OBJ, .OBJ_LOAD, .NEW_LIST, .NEW_MAP, .IF_TRUE, .JUMP,
      .CALL_BY_VALUE, .CALL_BY_NEED, .DYNAMIC_CALL] := by
  cases b <;> first | (cases h; done) | (injection h with h; subst h; decide)

/-- the end of a static call that is not compiled to jumps -/
theorem step_then_tail {ι} {Lay : Pool → Code → ι → Nat → Nat → Prop} {Ok : ι → Prop} {x : ι}
    {s s1 s' : Code × Pool} {d : FunDecl} {n : Nat} {u : Unit} (a : Step funs Lay Ok x s s1)
    (h : (match (bidOf d).bind intrinsicByValue with
      | some op => emitOp op
      | none => do
        emitOp (if d.isLazy then .CALL_BY_NEED else .CALL_BY_VALUE)
        emitConst (.fn d)
        emitU8 n : CM Unit) s1 = .ok (u, s')) :
    Step funs (fun P C x o o' => ∃ o1, Lay P C x o o1 ∧ CallTail P C d n o1 o') Ok x s s' := by
  unfold CallTail
  cases hop : (bidOf d).bind intrinsicByValue with
  | some op =>
    rw [hop] at h
    obtain ⟨b, _, hb⟩ := Option.bind_eq_some_iff.mp hop
    exact step_then_simple a h (intrinsic_simple hb)
  | none =>
    rw [hop] at h
    exact step_then_call a h (by cases d.isLazy <;> simp) fun _ _ => nofun

/-- the body of a statically resolved call in `compileE`, with the built-in identifier abstracted, for `VmSimRefuse`
and `VmCheckedSizes`; `compE_succ` below goes by `fun_cases compileE` and does not use it -/
def callBody (cf : Nat) (funs : List FunDecl) (d : FunDecl) (bid : Option BId) (args : ExprList) : CM Unit :=
  match bid, args with
  | some .IF_BOOL_ANY_ANY, .cons c (.cons t (.cons f .nil)) => compileCond cf funs c t f
  | some .LOGIC_AND_BOOL_BOOL, .cons x (.cons y .nil) =>
      compileCond cf funs x y (.bool Pos.unknown false)
  | some .LOGIC_OR_BOOL_BOOL, .cons x (.cons y .nil) =>
      compileCond cf funs x (.bool Pos.unknown true) y
  | some .LOGIC_NOT_BOOL, .cons x _ => do
      compileE cf funs x
      emitOp .LOGICAL_NOT
  | _, _ => do
    if (bid.map isCondIntrinsic).getD false then throw (.unreachable "intrinsic-args")
    let params : TyList := match d.ty with | .fn _ ps _ => ps | _ => .nil
    if d.isLazy then compileThunks cf funs args params
    else compileList cf funs args
    match bid.bind intrinsicByValue with
    | some op => emitOp op
    | none => do
      emitOp (if d.isLazy then .CALL_BY_NEED else .CALL_BY_VALUE)
      emitConst (.fn d)
      emitU8 args.length

theorem compE_succ (hE : CompE funs cf) : CompE funs (cf + 1) := by
  intro e s s' u
  generalize hn : cf + 1 = n
  -- the twenty paths of `compileE`, each with the facts that select it
  fun_cases compileE n funs e <;> cases hn <;> intro h
  case case2 =>
    exact (step_then_const Step.nil h (by simp) fun _ _ => nofun).mono
      (fun _ _ _ _ ⟨_, e, _, hd, hi⟩ => e ▸ LayE.str hd hi) fun _ => trivial
  case case3 =>
    exact (step_then_const Step.nil h (by simp) fun _ _ => nofun).mono
      (fun _ _ _ _ ⟨_, e, _, hd, hi⟩ => e ▸ LayE.num hd hi) fun _ => trivial
  case case4 =>
    exact (step_then_const Step.nil h (by simp) fun _ _ => nofun).mono
      (fun _ _ _ _ ⟨_, e, _, hd, hi⟩ => e ▸ LayE.time hd hi) fun _ => trivial
  case case5 =>
    exact (step_then_const Step.nil h (by simp) fun _ _ => nofun).mono
      (fun _ _ _ _ ⟨_, e, _, hd, hi⟩ => e ▸ LayE.bool hd hi) fun _ => trivial
  case case9 =>
    exact (step_then_const Step.nil h (by simp) fun _ _ => nofun).mono
      (fun _ _ _ _ ⟨_, e, _, hd, hi⟩ => e ▸ LayE.ident hd hi) fun _ => trivial
  case case6 p es ty =>
    obtain ⟨_, s1, h1, h⟩ := cm_bind_ok h
    exact (step_then_coll (compList hE es s s1 _ h1) h (by simp) (tyConst_ne ty)).mono
      (fun _ _ _ _ ⟨_, hl1, _, hd, hi⟩ => LayE.list hl1 hd hi) Annotated.list
  case case7 p ps ty =>
    obtain ⟨_, s1, h1, h⟩ := cm_bind_ok h
    exact (step_then_coll (compPairs hE ps s s1 _ h1) h (by simp) (tyConst_ne ty)).mono
      (fun _ _ _ _ ⟨_, hl1, _, hd, hi⟩ => LayE.map hl1 hd hi) Annotated.map
  case case8 p fs ty =>
    obtain ⟨_, s1, h1, h⟩ := cm_bind_ok h
    exact (step_then_const (compFields hE fs s s1 _ h1) h (by simp) (tyConst_ne ty)).mono
      (fun _ _ _ _ ⟨_, hl1, _, hd, hi⟩ => LayE.obj hl1 hd hi) Annotated.obj
  case case10 p col callee args cty resolved index hres =>
    obtain ⟨_, s1, h1, h⟩ := cm_bind_ok h
    obtain ⟨_, s2, h2, h⟩ := cm_bind_ok h
    obtain ⟨_, s3, h3, h⟩ := cm_bind_ok h
    have ab := Step.seq (hE callee s s1 _ h1) (compList hE args s1 s2 _ h2)
    cases emitOp_ok h3
    obtain ⟨hn, rfl⟩ := emitU8_ok h
    simp only [app2, List.cons_append, List.nil_append]
    exact (ab.snoc (Pre.refl _) (fun _ h => h) fun C P hb _ => decode_dyn hb hn).mono
      (fun _ _ _ _ ⟨_, ⟨_, hl1, hl2⟩, hd⟩ => LayE.dyn hres hl1 hl2 hd) fun o => o.dyn hres
  case case11 => cases h
  case case12 p col callee cty resolved index hres d hrs bid c t f hbid =>
    have hres := Bool.eq_false_iff.mpr hres
    exact (compCond hE c t f s s' u h).mono (fun _ _ _ _ hc => LayE.condIf hres hrs hbid hc) fun o =>
      let ⟨a, b⟩ := (o.static hres).cons; ⟨a, b.cons.1, b.cons.2.cons.1⟩
  case case13 p col callee cty resolved index hres d hrs bid x y hbid =>
    have hres := Bool.eq_false_iff.mpr hres
    exact (compCond hE x y (.bool Pos.unknown false) s s' u h).mono
      (fun _ _ _ _ hc => LayE.condAnd hres hrs hbid hc) fun o =>
      let ⟨a, b⟩ := (o.static hres).cons; ⟨a, b.cons.1, rfl, rfl⟩
  case case14 p col callee cty resolved index hres d hrs bid x y hbid =>
    have hres := Bool.eq_false_iff.mpr hres
    exact (compCond hE x (.bool Pos.unknown true) y s s' u h).mono
      (fun _ _ _ _ hc => LayE.condOr hres hrs hbid hc) fun o =>
      let ⟨a, b⟩ := (o.static hres).cons; ⟨a, ⟨rfl, rfl⟩, b.cons.1⟩
  case case15 p col callee cty resolved index hres d hrs bid x rest hbid =>
    have hres := Bool.eq_false_iff.mpr hres
    obtain ⟨_, s1, h1, h⟩ := cm_bind_ok h
    exact (step_then_simple (hE x s s1 _ h1) h (by decide)).mono
      (fun _ _ _ _ ⟨_, hl1, hd⟩ => LayE.not hres hrs hbid hl1 hd) fun o => (o.static hres).cons.1
  case case16 p col callee args cty resolved index hres d hrs bid hcond n1 n2 n3 n4 =>
    rw [if_pos hcond] at h
    obtain ⟨_, _, h1, _⟩ := cm_bind_ok h
    cases h1
  case case17 p col callee args cty resolved index hres d hrs bid hcond n1 n2 n3 n4 =>
    have hres := Bool.eq_false_iff.mpr hres
    rw [if_neg hcond] at h
    have hcond : (Option.map isCondIntrinsic (bidOf d)).getD false = false := Bool.eq_false_iff.mpr hcond
    dsimp only at h
    by_cases hlazy : d.isLazy = true
    · rw [if_pos hlazy] at h
      obtain ⟨_, s1, h1, h⟩ := cm_bind_ok h
      exact (step_then_tail (compThunks hE args _ s s1 _ h1) h).mono
        (fun _ _ _ _ ⟨_, ⟨_, hl1⟩, ht⟩ => LayE.byNeed hres hrs hcond hlazy hl1 ht) (Annotated.static hres)
    · rw [if_neg hlazy] at h
      have hlazy : d.isLazy = false := by simpa using hlazy
      obtain ⟨_, s1, h1, h⟩ := cm_bind_ok h
      exact (step_then_tail (compList hE args s s1 _ h1) h).mono
        (fun _ _ _ _ ⟨_, hl1, ht⟩ => LayE.strict hres hrs hcond hlazy hl1 ht) (Annotated.static hres)
  case case18 p col var idx varTy =>
    obtain ⟨_, s1, h1, h⟩ := cm_bind_ok h
    obtain ⟨_, s2, h2, h⟩ := cm_bind_ok h
    have ab := Step.seq (hE var s s1 _ h1) (hE idx s1 s2 _ h2)
    split at h
    · exact (step_then_simple ab h (by decide)).mono
        (fun _ _ _ _ ⟨_, ⟨_, hl1, hl2⟩, hd⟩ => LayE.subList hl1 hl2 hd) Annotated.sub
    · exact (step_then_simple ab h (by decide)).mono
        (fun _ _ _ _ ⟨_, ⟨_, hl1, hl2⟩, hd⟩ => LayE.subMap hl1 hl2 hd) Annotated.sub
    · cases h
  case case19 p col obj field fp oty index =>
    obtain ⟨_, s1, h1, h⟩ := cm_bind_ok h
    exact (step_then_const (hE obj s s1 _ h1) h (by simp) fun _ _ => nofun).mono
      (fun _ _ _ _ ⟨_, hl1, _, hd, hi⟩ => LayE.member hl1 hd hi) Annotated.member
  case case20 => cases h

theorem compE_all : ∀ cf, CompE funs cf
  | 0 => fun e s s' u h => by unfold compileE at h; cases h
  | cf+1 => compE_succ (compE_all cf)

theorem compile_eq (funs : List FunDecl) (e : Expr) :
    compile funs e =
      match (compileE (e.depth + 1) funs e >>= fun _ => emitOp .RETURN) (#[], #[]) with
      | .ok (_, s) => .ok s
      | .error err => .error err := by
  unfold compile
  simp only [StateT.run]
  cases (compileE (e.depth + 1) funs e >>= fun _ => emitOp .RETURN) (#[], #[]) <;> rfl

theorem compile_inv {e : Expr} {code : Code} {pool : Pool} (h : compile funs e = .ok (code, pool)) :
    LayU funs pool code e ∧ (Annotated funs e → Bodies funs pool) := by
  rw [compile_eq] at h
  split at h
  · next hx =>
    cases h
    obtain ⟨_, s1, h1, h2⟩ := cm_bind_ok hx
    obtain ⟨_, hU, hB⟩ := (compE_all _ e _ s1 _ h1).unit h2
    exact ⟨hU _ (Pre.refl _), fun o => hB o Bodies.empty⟩
  · cases h

theorem compile_layout {e : Expr} {code : Code} {pool : Pool}
    (h : compile funs e = .ok (code, pool)) : LayU funs pool code e :=
  (compile_inv h).1

end

end Yae.VmSim
