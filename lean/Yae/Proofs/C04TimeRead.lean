/-
  C04, "absolute date-time forms": `timeLit_quoted`: the parser's `ast.Time` on a lexeme `'body'` looks `body` up in the
  table of `timelib.Strtotime` (the byte slicing `s[1:len(s)-1]` removes exactly the two quotes).
-/
import Yae.Proofs.ListLemmas
import Yae.Model.Parser
namespace Yae

theorem timeLit_quoted (env : PEnv) (t : Token) (body : String) (v : Int)
    (h : t.lexeme = "'" ++ body ++ "'") (hl : env.times.lookup body = some v) :
    env.timeLit t = .ok (.time t.pos v) := by
  have hq : ("'" : String).toByteArray.size = 1 := by decide
  have hb : t.lexeme.toUTF8 = ("'" : String).toByteArray ++ (body.toByteArray ++ ("'" : String).toByteArray) := by
    rw [h, String.toUTF8_eq_toByteArray, String.toByteArray_append, String.toByteArray_append, ByteArray.append_assoc]
  have hsz : t.lexeme.toUTF8.size = 1 + (body.toByteArray.size + 1) := by
    rw [hb, ByteArray.size_append, ByteArray.size_append, hq]
  have hex : t.lexeme.toUTF8.extract 1 (t.lexeme.toUTF8.size - 1) = body.toByteArray := by
    rw [hsz, hb, ByteArray.extract_append]
    have e1 : ("'" : String).toByteArray.extract 1 (1 + (body.toByteArray.size + 1) - 1) =
        ByteArray.empty := ByteArray.extract_eq_empty_iff.mpr (by rw [hq]; omega)
    rw [e1, ByteArray.empty_append, hq]
    exact ByteArray.extract_append_eq_left (by omega)
  unfold PEnv.timeLit
  simp only [hex, fromUTF8?_toByteArray, hl]
  rw [if_neg (by omega)]

end Yae

#print axioms Yae.timeLit_quoted
