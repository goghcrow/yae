/-
  `Good g t`, taken apart node by node (`good_*`), and the statement that completeness proves by induction on the
  yield: `Compl env t i j rbp`.  It says that `expr(rbp)` from `i` gets to the loop of `pInfix` holding `t` with the
  cursor at `j` (`Reach`), provided the token at `j` is compatible with `t` ending there (`Follow`); and that, when `t`
  is a member expression followed by `(`, the run goes on with the method call.  `Reach` speaks of the REST of the
  run (`∀ r, PI … r → PE … r`): that is what lets one `led` step be put after another (`reach_led`).
-/
import Yae.Proofs.ParseCompleteBase
namespace Yae

/-- `Respects` without the condition at the root: (R1)–(R4) at every node. -/
def Good (g : Grammar) (t : Expr) : Prop := t.All (Expr.respHere g) ∧ t.All Expr.noChainHere

theorem good_group {g : Grammar} {p e} (h : Good g (.group p e)) : Good g e ∧ e.leftAbove g 0 := by
  simp only [Good, Expr.All, Expr.respHere] at h ⊢; grind

theorem good_pre {g : Grammar} {p n np e} (h : Good g (.unary p n np e true)) :
    Good g e ∧ e.leftAbove g (g.prefixBp n) := by
  simp only [Good, Expr.All, Expr.respHere] at h ⊢; grind

theorem good_post {g : Grammar} {p n np e} (h : Good g (.unary p n np e false)) :
    Good g e ∧ e.rightOK g (g.infixLbp n) := by
  simp only [Good, Expr.All, Expr.respHere] at h ⊢; grind

theorem good_binary {g : Grammar} {p n np fx l r} (h : Good g (.binary p n np fx l r)) :
    Good g l ∧ Good g r ∧ r.leftAbove g (g.binRbp n fx) ∧ l.rightOK g (g.infixLbp n) ∧
      (Expr.binary p n np fx l r).noChainHere := by
  simp only [Good, Expr.All, Expr.respHere] at h ⊢; grind

theorem good_ternary {g : Grammar} {p n np l m r} (h : Good g (.ternary p n np l m r)) :
    Good g l ∧ Good g m ∧ Good g r ∧ l.rightOK g (g.infixLbp n) ∧ m.leftAbove g 0 ∧
      r.leftAbove g (bpPred (g.infixLbp n)) := by
  simp only [Good, Expr.All, Expr.respHere] at h ⊢; grind

theorem good_member {g : Grammar} {p col o f fp a b} (h : Good g (.member p col o f fp a b)) :
    Good g o ∧ o.rightOK g (g.infixLbp ".") := by
  simp only [Good, Expr.All, Expr.respHere] at h ⊢; grind

theorem good_subscript {g : Grammar} {p col v ix a} (h : Good g (.subscript p col v ix a)) :
    Good g v ∧ Good g ix ∧ v.rightOK g (g.infixLbp "[") ∧ ix.leftAbove g 0 := by
  simp only [Good, Expr.All, Expr.respHere] at h ⊢; grind

theorem good_call {g : Grammar} {p col c as a b d}
    (h : Good g (.call p col c (ExprList.ofList as) a b d)) :
    Good g c ∧ (c.isMember = true ∨ (c.rightOK g (g.infixLbp "(") ∧ c.endsInMember = false)) ∧
      ∀ x ∈ as, Good g x ∧ x.leftAbove g 0 := by
  simp only [Good, Expr.All, Expr.respHere, ExprList.toList_ofList, allList_ofList] at h ⊢
  grind

theorem good_list {g : Grammar} {p es a} (h : Good g (.list p (ExprList.ofList es) a)) :
    ∀ x ∈ es, Good g x ∧ x.leftAbove g 0 := by
  simp only [Good, Expr.All, Expr.respHere, ExprList.toList_ofList, allList_ofList] at h ⊢
  grind

theorem good_map {g : Grammar} {p ps a} (h : Good g (.map p (PairList.ofList ps) a)) :
    ∀ kv ∈ ps, (Good g kv.1 ∧ kv.1.leftAbove g 0) ∧ (Good g kv.2 ∧ kv.2.leftAbove g 0) := by
  simp only [Good, Expr.All, Expr.respHere, PairList.toList_ofList, allPairs_ofList] at h ⊢
  grind

theorem good_obj {g : Grammar} {p fs a} (h : Good g (.obj p (FieldEList.ofList fs) a)) :
    ∀ nv ∈ fs, Good g nv.2 ∧ nv.2.leftAbove g 0 := by
  simp only [Good, Expr.All, Expr.respHere, FieldEList.toList_ofList, allFields_ofList] at h ⊢
  grind

def Reach (env : PEnv) (rbp : BP) (i : Nat) (t : Expr) (j : Nat) : Prop :=
  ∀ r, PI env t rbp j r → PE env rbp i r

structure Compl (env : PEnv) (t : Expr) (i j : Nat) (rbp : BP) : Prop where
  reach : Follow env.g (env.peek j).kind t → Reach env rbp i t j
  method : t.isMember = true → env.kindAt j "(" → ∀ e' j' r,
    PC env t (env.peek j) (j + 1) (e', j') → infixNCheck e' = .ok e' → PI env e' rbp j' r →
    PE env rbp i r

theorem Compl.pe {env : PEnv} {t : Expr} {i j : Nat} {rbp : BP} (h : Compl env t i j rbp)
    (hG : Good env.g t) (hF : Follow env.g (env.peek j).kind t)
    (hs : ¬ rbp < env.g.infixLbp (env.peek j).kind) : PE env rbp i (t, j) :=
  h.reach hF _ (Big.istop hs (infixNCheck_of_noChain hG.2.here)).run

theorem Compl.pe0 {env : PEnv} (W : WFGrammar env.g) {t : Expr} {i j : Nat}
    (h : Compl env t i j 0) (hG : Good env.g t) (h0 : t.leftAbove env.g 0)
    (hk : tableLookup (env.peek j).kind env.g.infixs = none) (hk' : (env.peek j).kind ≠ "(") :
    PE env 0 i (t, j) :=
  have ⟨hF, hs⟩ := follow_closer W hG.1 h0 hk hk'
  h.pe hG hF hs

/-! The rules `mk` and `istep` at a token that is there (so `env.adv i = i + 1`), with the rest of
the run of the loop as a hypothesis: the form `Reach` composes. -/

theorem pe_of_nud {env : PEnv} {i : Nat} {bp : BP} {nud : Nud} {rbp : BP} {x : Expr} {j0 : Nat}
    {r : Expr × Nat} (hn : env.nudAt i bp nud)
    (h1 : Big env (.nud (env.peek i) (i + 1) bp nud x j0)) (h2 : PI env x rbp j0 r) :
    PE env rbp i r :=
  (Big.mk hn.2 (env.adv_lt hn.1 ▸ h1) h2.big).run

theorem pi_step {env : PEnv} {l : Expr} {i : Nat} {bp : BP} {led : Led} {rbp : BP} {e : Expr}
    {j : Nat} {r : Expr × Nat} (hd : env.ledAt i bp led)
    (hgt : rbp < env.g.infixLbp (env.peek i).kind)
    (h1 : Big env (.led l (env.peek i) (i + 1) bp led e j)) (hc : infixNCheck e = .ok e)
    (h2 : PI env e rbp j r) : PI env l rbp i r :=
  (Big.istep hgt hd.2 (env.adv_lt hd.1 ▸ h1) hc h2.big).run

theorem compl_nud {env : PEnv} {t : Expr} {i j : Nat} {rbp bp : BP} {nud : Nud}
    (hn : env.nudAt i bp nud) (h : Big env (.nud (env.peek i) (i + 1) bp nud t j))
    (hm : t.isMember = false) : Compl env t i j rbp :=
  ⟨fun _ _ hPI => pe_of_nud hn h hPI, fun hm' => by rw [hm] at hm'; cases hm'⟩

/-- before an operator token other than the call's `(` only (R2) is asked of the left operand -/
theorem follow_led {env : PEnv} (W : WFGrammar env.g) {l : Expr} {j : Nat} {bp : BP} {led : Led}
    (hd : env.ledAt j bp led) (hne : led ≠ .call)
    (hro : l.rightOK env.g (env.g.infixLbp (env.peek j).kind)) :
    Follow env.g (env.peek j).kind l :=
  ⟨hro, fun _ hk => hne (W.lparen bp led (hk ▸ hd.2))⟩

theorem reach_led {env : PEnv} {x t : Expr} {i j0 j : Nat} {rbp bp : BP} {led : Led}
    (hx : Compl env x i j0 rbp) (hF : Follow env.g (env.peek j0).kind x)
    (hd : env.ledAt j0 bp led) (hgt : rbp < env.g.infixLbp (env.peek j0).kind)
    (hled : Big env (.led x (env.peek j0) (j0 + 1) bp led t j)) (hc : infixNCheck t = .ok t) :
    Reach env rbp i t j :=
  fun r h => hx.reach hF r (pi_step hd hgt hled hc h)

end Yae
