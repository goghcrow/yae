/-
  Soundness of the bytecode verifier `Yae.VmVerify.verify` (C11): `verify_good`.  A successful pass yields a locally
  consistent labelling of the instruction boundaries by abstract stacks (`WellFormed`, `verifyUnit_wf`).  From such a
  labelling (`wellFormed_good`), by induction on the machine's fuel, the concrete stack always has the labelled
  kinds, so no pop fails, every constant has the kind the instruction needs (`Eff`, against the one-instruction
  lemmas of `VmSimBase`), and `pc` strictly increases (fuel `code.size - pc`, plus the sizes of the deferred bodies
  stored below the unit's constant level for nested forcings).  The last part (section `pass` and the lemmas after
  it) is for `VmCompileVerified`: one step of the pass at an offset that no pending jump targets (`verifyFrom_fresh`),
  what it reads of `cur` and `pending` (`verifyFrom_congr`), and its monotonicity in the fuel.  (`compile` also takes
  e.g. an untyped list literal, and the verifier rightly rejects its code.)
-/
import Yae.Model.VmVerify
import Yae.Proofs.VmDecode
import Yae.Proofs.VmSimBase
import Yae.Proofs.ValInv
namespace Yae.VmVerify
open Yae Yae.Vm

section
variable {pool : Pool} {code : Code} {ins : Instr} {pc next fuel : Nat} {σ σ' : AStack}
  {cur : Option AStack} {pending : List (Nat × AStack)}

theorem stepA_some (h : stepA pool ins σ = some σ') :
    ∃ pops pushes, effect pool ins = some (pops, pushes) ∧ pops ≤ σ.length ∧
      (σ.take pops).all (· == popKind ins) = true ∧
      σ' = List.replicate pushes (pushKind pool ins) ++ σ.drop pops := by
  unfold stepA at h
  split at h
  · simp at h
  · rename_i pops pushes heff
    split at h
    · rename_i hc
      simp only [Bool.and_eq_true, decide_eq_true_eq] at hc
      simp only [Option.some.injEq] at h
      exact ⟨pops, pushes, heff, hc.1, hc.2, h.symm⟩
    · simp at h

/-- the stack effect as a shape: `pops` slots of the kind `ins` pops lie on some `τ`; afterwards `pushes` slots of the
kind it pushes lie on the same `τ` -/
theorem stepA_shape (h : stepA pool ins σ = some σ') :
    ∃ pops pushes τ, effect pool ins = some (pops, pushes) ∧
      σ = List.replicate pops (popKind ins) ++ τ ∧ σ' = List.replicate pushes (pushKind pool ins) ++ τ := by
  obtain ⟨pops, pushes, heff, hl, hk, rfl⟩ := stepA_some h
  refine ⟨pops, pushes, σ.drop pops, heff, ?_, rfl⟩
  conv => lhs; rw [← List.take_append_drop pops σ]
  congr 1
  apply List.ext_getElem
  · rw [List.length_take, List.length_replicate]; omega
  · intro i h1 h2
    simpa using List.all_eq_true.mp hk _ (List.getElem_mem h1)

/-- `Eff pool ins pops pushes`: the cases in which `effect pool ins = some (pops, pushes)` -/
inductive Eff (pool : Pool) : Instr → Nat → Nat → Prop
  | ret : Eff pool (.simple .RETURN) 1 0
  | nop : Eff pool (.simple .NOP) 0 0
  | lognot : Eff pool (.simple .LOGICAL_NOT) 1 1
  | listLoad : Eff pool (.simple .LIST_LOAD) 2 1
  | mapLoad : Eff pool (.simple .MAP_LOAD) 2 1
  | intrinsic {op bid a} : op.builtin? = some (bid, a) → Eff pool (.simple op) a 1
  | constVal {i v} : pool[i]? = some (.val v) → Eff pool (.const .CONST i) 0 1
  | constThunk {i b r} : pool[i]? = some (.thunk b r) → Eff pool (.const .CONST i) 0 1
  | load {i x} : pool[i]? = some (.name x) → Eff pool (.const .LOAD i) 0 1
  | newObj {i fs} : pool[i]? = some (.ty (.obj fs)) → Eff pool (.const .NEW_OBJ i) fs.length 1
  | objLoad {i x} : pool[i]? = some (.name x) → Eff pool (.const .OBJ_LOAD i) 1 1
  | newList {i n t} : pool[i]? = some (.ty (.list t)) → Eff pool (.newColl .NEW_LIST i n) n 1
  | newMap {i n k v} : pool[i]? = some (.ty (.map k v)) → Eff pool (.newColl .NEW_MAP i n) (2 * n) 1
  | jump {t} : Eff pool (.jump .JUMP t) 0 0
  | ifTrue {t} : Eff pool (.jump .IF_TRUE t) 1 0
  | callVal {i argc d} : pool[i]? = some (.fn d) → d.isLazy = false →
      Eff pool (.call .CALL_BY_VALUE i argc) argc 1
  | callNeed {i argc d} : pool[i]? = some (.fn d) → d.isLazy = true →
      Eff pool (.call .CALL_BY_NEED i argc) argc 1
  | dyn {argc} : Eff pool (.dyn argc) (argc + 1) 1

theorem effect_inv {pops pushes : Nat}
    (h : effect pool ins = some (pops, pushes)) : Eff pool ins pops pushes := by
  unfold effect at h
  split at h
  all_goals (try (split at h))
  all_goals (try (split at h))
  all_goals first
    | (simp at h; done)
    | (cases h; constructor <;> assumption)
    | (cases h; exact .constThunk ‹_›)
    | (cases h; exact .callVal ‹_› ((Bool.not_eq_true _).mp ‹_›))
    | (obtain ⟨⟨bid, a⟩, hb, h⟩ := Option.map_eq_some_iff.mp h; cases h; exact .intrinsic hb)

/-- the converse of `effect_inv`: `Eff` is `effect` as a relation -/
theorem Eff.effect {pops pushes : Nat} (h : Eff pool ins pops pushes) : effect pool ins = some (pops, pushes) := by
  cases h with
  | @intrinsic op bid a hb =>
    generalize hins : Instr.simple op = ins
    unfold Vm.effect
    split <;> cases hins
    iterate 5 cases hb
    rw [hb]; rfl
  | _ => simp [Vm.effect, *]

theorem effect_push_one {n : Nat} (h : effect pool ins = some (n, 1)) :
    ins ≠ .simple .RETURN ∧ ∀ op t, ins ≠ .jump op t := by
  cases effect_inv h with
  | intrinsic hb =>
    refine ⟨?_, fun _ _ h => by cases h⟩
    rintro ⟨⟩
    cases hb
  | _ => simp

/-- what `effect pool ins = some _` says about the operands of `ins` -/
def OperandsOK (pool : Pool) : Instr → Prop
  | .simple op => op = .RETURN ∨ op = .NOP ∨ op = .LOGICAL_NOT ∨ op = .LIST_LOAD ∨ op = .MAP_LOAD ∨
      op.builtin?.isSome = true
  | .const op i => ∃ c, pool[i]? = some c ∧
      ((op = .CONST ∧ (c.kind = "val" ∨ c.kind = "thunk")) ∨ (op = .LOAD ∧ c.kind = "name") ∨
       (op = .NEW_OBJ ∧ ∃ fs, c = .ty (.obj fs)) ∨ (op = .OBJ_LOAD ∧ c.kind = "name"))
  | .newColl op i _ => ∃ c, pool[i]? = some c ∧
      ((op = .NEW_LIST ∧ ∃ t, c = .ty (.list t)) ∨ (op = .NEW_MAP ∧ ∃ k v, c = .ty (.map k v)))
  | .jump op _ => op = .JUMP ∨ op = .IF_TRUE
  | .call op i _ => ∃ d, pool[i]? = some (.fn d) ∧
      ((op = .CALL_BY_VALUE ∧ d.isLazy = false) ∨ (op = .CALL_BY_NEED ∧ d.isLazy = true))
  | .dyn _ => True

theorem effect_operands {e : Nat × Nat} (h : effect pool ins = some e) :
    OperandsOK pool ins := by
  obtain ⟨pops, pushes⟩ := e
  cases effect_inv h <;> simp_all [OperandsOK, Const.kind]

theorem mergeAt_some
    (h : mergeAt pc cur pending = some σ) :
    (∀ x, cur = some x → x = σ) ∧ ∀ p ∈ pending, p.1 = pc → p.2 = σ := by
  unfold mergeAt at h
  split at h
  · split at h
    · rename_i hall
      simp only [Option.some.injEq] at h
      subst h
      refine ⟨by simp, ?_⟩
      intro p hp hpc
      have := List.all_eq_true.mp hall p hp
      simp_all
    · simp at h
  · split at h
    · split at h
      · rename_i hall
        simp only [Option.some.injEq] at h
        refine ⟨by simp, ?_⟩
        intro p hp hpc
        have := List.all_eq_true.mp hall p hp
        simp_all
      · simp at h
    · simp at h

/-- the state on the fall-through path after `ins` with abstract result `σ'`: none after `JUMP` -/
def fallThrough (ins : Instr) (σ' : AStack) : Option AStack :=
  match ins with
  | .jump .JUMP _ => none
  | _ => some σ'

def promise (ins : Instr) (σ' : AStack) : List (Nat × AStack) :=
  match ins with
  | .jump _ t => [(t, σ')]
  | _ => []

theorem jump_of_stepA {op : Op} {t : Nat}
    (h : stepA pool (.jump op t) σ = some σ') : op = .JUMP ∨ op = .IF_TRUE := by
  obtain ⟨_, _, heff, _⟩ := stepA_some h
  exact effect_operands heff

theorem verifyFrom_some (h : verifyFrom (fuel+1) pool code pc cur pending = true) :
    ∃ σ ins next σ', mergeAt pc cur pending = some σ ∧ decodeAt code pc = some (ins, next) ∧
      stepA pool ins σ = some σ' := by
  rw [verifyFrom] at h
  cases hm : mergeAt pc cur pending with
  | none => simp [hm] at h
  | some σ =>
    cases hd : decodeAt code pc with
    | none => simp [hm, hd] at h
    | some r =>
      cases hs : stepA pool r.1 σ with
      | none => simp [hm, hd, hs] at h
      | some σ' => exact ⟨σ, r.1, r.2, σ', rfl, rfl, hs⟩

/-- a pass that succeeds reads an instruction at its offset -/
theorem verifyFrom_lt (h : verifyFrom fuel pool code pc cur pending = true) : pc < code.size := by
  cases fuel with
  | zero => simp [verifyFrom] at h
  | succ fuel =>
    obtain ⟨_, _, _, _, _, hdec, _⟩ := verifyFrom_some h
    have := decodeAt_next hdec
    omega

/-- One step of the pass, for all instructions at once: `RETURN` ends it; anything else goes on
at `next`, a jump only forward and with a promise for its target. -/
theorem verifyFrom_succ (hm : mergeAt pc cur pending = some σ) (hd : decodeAt code pc = some (ins, next))
    (hs : stepA pool ins σ = some σ') :
    verifyFrom (fuel+1) pool code pc cur pending = true ↔
      (ins = .simple .RETURN → σ = [false] ∧ next = code.size ∧ pending.filter (·.1 != pc) = []) ∧
      (ins ≠ .simple .RETURN → (∀ op t, ins = .jump op t → pc < t ∧ t < code.size) ∧ next < code.size ∧
        verifyFrom fuel pool code next (fallThrough ins σ')
          (promise ins σ' ++ pending.filter (·.1 != pc)) = true) := by
  rw [verifyFrom]
  simp only [hm, hd, hs]
  split
  · simp [and_assoc]
  · simp [fallThrough, promise, and_assoc]
  · simp [fallThrough, promise, and_assoc]
  · rename_i hr hj hi
    have : ∀ op t, ins ≠ .jump op t := by
      rintro op t rfl
      rcases jump_of_stepA hs with rfl | rfl
      · exact hj t rfl
      · exact hi t rfl
    have hr' : ins ≠ .simple .RETURN := hr
    simp [fallThrough, promise, hr', this]

theorem fallThrough_of (h : ∀ t, ins ≠ .jump .JUMP t) (σ' : AStack) :
    fallThrough ins σ' = some σ' := by
  unfold fallThrough
  split
  · exact absurd rfl (h _)
  · rfl

theorem promise_of (h : ∀ op t, ins ≠ .jump op t) (σ' : AStack) : promise ins σ' = [] := by
  unfold promise
  split
  · exact absurd rfl (h _ _)
  · rfl

/-- local consistency of a labelling `d` (abstract stack per offset) at the instruction `ins`
at offset `o`; `offs` are the instruction boundaries of the code -/
def LocalOK (pool : Pool) (code : Code) (offs : List Nat) (d : Nat → AStack) (o : Nat) (ins : Instr) : Prop :=
  ∃ next σ', decodeAt code o = some (ins, next) ∧ stepA pool ins (d o) = some σ' ∧
    (ins = .simple .RETURN → d o = [false] ∧ next = code.size) ∧
    (∀ op t, ins = .jump op t → o < t ∧ t ∈ offs ∧ d t = σ') ∧
    (ins ≠ .simple .RETURN → (∀ t, ins ≠ .jump .JUMP t) → next ∈ offs ∧ d next = σ')

/-- `LocalOK` at `o` reads the labelling only at `o` and above -/
theorem LocalOK.mono {offs offs' : List Nat} {d d' : Nat → AStack} {o : Nat}
    (h : LocalOK pool code offs d o ins) (hoffs : ∀ x ∈ offs, x ∈ offs')
    (hd : ∀ x, o ≤ x → d' x = d x) : LocalOK pool code offs' d' o ins := by
  obtain ⟨nx, σ2, h1, h2, h3, h4, h5⟩ := h
  have hnx := decodeAt_next h1
  rw [← hd o (Nat.le_refl _)] at h2 h3
  refine ⟨nx, σ2, h1, h2, h3, fun op t ht => ?_, fun hr hj => ?_⟩
  · obtain ⟨a, b, c⟩ := h4 op t ht
    exact ⟨a, hoffs _ b, (hd t (by omega)).trans c⟩
  · obtain ⟨b, c⟩ := h5 hr hj
    exact ⟨hoffs _ b, (hd nx (by omega)).trans c⟩

theorem decodeFrom_head {is : List (Nat × Instr)}
    (h : decodeFrom fuel code pc = some is) (hpc : pc ≠ code.size) :
    ∃ ins rest, is = (pc, ins) :: rest := by
  unfold decodeFrom at h
  simp only [hpc, if_false] at h
  split at h
  · simp at h
  · split at h
    · simp at h
    · rename_i ins next _
      simp only [Option.map_eq_some_iff] at h
      obtain ⟨rest, _, rfl⟩ := h
      exact ⟨ins, rest, rfl⟩

theorem verifyFrom_wf : ∀ (fuel pc : Nat) (cur : Option AStack)
    (pending : List (Nat × AStack)), verifyFrom fuel pool code pc cur pending = true →
    ∃ (is : List (Nat × Instr)) (d : Nat → AStack),
      decodeFrom fuel code pc = some is ∧
      (∀ x, cur = some x → d pc = x) ∧
      (∀ p ∈ pending, p.1 ∈ is.map (·.1) ∧ d p.1 = p.2) ∧
      (∀ p ∈ is, pc ≤ p.1) ∧
      (∃ o, is.getLast? = some (o, .simple .RETURN)) ∧
      ∀ o ins, (o, ins) ∈ is → LocalOK pool code (is.map (·.1)) d o ins := by
  intro fuel
  induction fuel with
  | zero => intro pc cur pending hv; simp [verifyFrom] at hv
  | succ fuel ih =>
    intro pc cur pending hv
    obtain ⟨σ, ins, next, σ', hm, hdec, hstep⟩ := verifyFrom_some hv
    obtain ⟨hret, hgo⟩ := (verifyFrom_succ hm hdec hstep).mp hv
    have hmm := mergeAt_some hm
    have hnx := decodeAt_next hdec
    have hpc : pc ≠ code.size := by omega
    by_cases hr : ins = .simple .RETURN
    · subst hr
      obtain ⟨rfl, rfl, hemp⟩ := hret rfl
      refine ⟨[(pc, .simple .RETURN)], fun _ => [false], ?_, ?_, ?_, ?_, ?_, ?_⟩
      · unfold decodeFrom
        simp only [hpc, if_false, hdec]
        unfold decodeFrom
        simp
      · intro x hx; exact (hmm.1 x hx).symm
      · intro p hp
        have hpp : p.1 = pc := by simpa using List.filter_eq_nil_iff.mp hemp p hp
        simp [hpp, hmm.2 p hp hpp]
      · intro p hp; simp at hp; subst hp; exact Nat.le_refl _
      · exact ⟨pc, rfl⟩
      · intro o ins' hmem
        simp at hmem
        obtain ⟨rfl, rfl⟩ := hmem
        exact ⟨_, σ', hdec, hstep, fun _ => ⟨rfl, rfl⟩, by simp, by simp⟩
    · -- extend the labelling of the rest by `pc ↦ σ`
      obtain ⟨hjmp, hns, hv'⟩ := hgo hr
      obtain ⟨is', d', hdf, hcur', hpend', hge', hlast', hloc'⟩ := ih next _ _ hv'
      obtain ⟨ins1, rest1, his'⟩ := decodeFrom_head hdf (by omega)
      refine ⟨(pc, ins) :: is', fun x => if x = pc then σ else d' x, ?_, ?_, ?_, ?_, ?_, ?_⟩
      · unfold decodeFrom
        simp [hpc, hdec, hdf]
      · intro x hx; simp [hmm.1 x hx]
      · intro p hp
        by_cases hpp : p.1 = pc
        · simp [hpp, hmm.2 p hp hpp]
        · have := hpend' p (List.mem_append_right _ (by simp [hp, hpp]))
          simp [hpp, this]
      · intro p hp
        rcases List.mem_cons.mp hp with rfl | hp
        · exact Nat.le_refl _
        · have := hge' p hp; omega
      · obtain ⟨o, ho⟩ := hlast'
        refine ⟨o, ?_⟩
        rw [his'] at ho ⊢
        rw [List.getLast?_cons_cons]; exact ho
      · intro o ins' hmem
        rcases List.mem_cons.mp hmem with heq | hmem
        · cases heq
          refine ⟨next, σ', hdec, by simpa using hstep, fun h => absurd h hr, ?_, ?_⟩
          · rintro op t rfl
            have ht := hpend' (t, σ') (by simp [promise])
            have hlt := (hjmp _ _ rfl).1
            exact ⟨hlt, List.mem_cons_of_mem _ ht.1, (if_neg (by omega)).trans ht.2⟩
          · intro _ hj
            exact ⟨by simp [his'], (if_neg (by omega)).trans (hcur' _ (fallThrough_of hj σ'))⟩
        · have ho := hge' _ hmem
          exact (hloc' o ins' hmem).mono (fun x hx => List.mem_cons_of_mem _ hx)
            (fun x hx => if_neg (by simp at ho; omega))

end

/-- One code unit is well formed with respect to a constant pool: it decodes completely into
instructions, and there is a labelling of the instruction boundaries by abstract stacks
(slot kinds, hence depths) that starts empty and is respected by every instruction and every
control transfer; jumps go forward to instruction boundaries; the unit ends with `RETURN`. -/
def WellFormed (pool : Pool) (code : Code) : Prop :=
  ∃ (is : List (Nat × Instr)) (d : Nat → AStack),
    decodeAll code = some is ∧ d 0 = [] ∧ (∃ o, is.getLast? = some (o, .simple .RETURN)) ∧
    ∀ o ins, (o, ins) ∈ is → LocalOK pool code (is.map (·.1)) d o ins

theorem verifyUnit_wf {pool : Pool} {code : Code} (h : verifyUnit pool code = true) :
    WellFormed pool code := by
  obtain ⟨is, d, h1, h2, _, _, h5, h6⟩ := verifyFrom_wf _ _ _ _ h
  exact ⟨is, d, h1, h2 _ rfl, h5, h6⟩

theorem zero_mem_of_decodeAll {code : Code} {is : List (Nat × Instr)} (h : decodeAll code = some is)
    (hlast : ∃ o, is.getLast? = some (o, .simple .RETURN)) : 0 ∈ is.map (·.1) := by
  by_cases hz : 0 = code.size
  · unfold decodeAll decodeFrom at h
    simp only [hz, if_true, Option.some.injEq] at h
    subst h
    simp at hlast
  · obtain ⟨ins, rest, rfl⟩ := decodeFrom_head h hz
    simp

theorem WellFormed.explicit {pool : Pool} {code : Code} (h : WellFormed pool code) :
    ∃ (is : List (Nat × Instr)) (d : Nat → AStack),
      decodeAll code = some is ∧ d 0 = [] ∧ (∃ o, is.getLast? = some (o, .simple .RETURN)) ∧
      ∀ o ins, (o, ins) ∈ is →
        ∃ next σ' pops pushes, decodeAt code o = some (ins, next) ∧ o < next ∧ next ≤ code.size ∧
          OperandsOK pool ins ∧ effect pool ins = some (pops, pushes) ∧
          stepA pool ins (d o) = some σ' ∧
          pops ≤ (d o).length ∧ σ'.length = (d o).length - pops + pushes ∧
          (ins = .simple .RETURN → d o = [false] ∧ next = code.size) ∧
          (∀ op t, ins = .jump op t → o < t ∧ t < code.size ∧ t ∈ is.map (·.1) ∧ d t = σ') ∧
          (ins ≠ .simple .RETURN → (∀ t, ins ≠ .jump .JUMP t) → next ∈ is.map (·.1) ∧ d next = σ') := by
  obtain ⟨is, d, h1, h2, h3, h4⟩ := h
  refine ⟨is, d, h1, h2, h3, fun o ins hmem => ?_⟩
  obtain ⟨next, σ', hdec, hstep, hr, hj, hn⟩ := h4 o ins hmem
  obtain ⟨pops, pushes, heff, hpops, _, hσ'⟩ := stepA_some hstep
  have hnx := decodeAt_next hdec
  refine ⟨next, σ', pops, pushes, hdec, hnx.1, hnx.2, effect_operands heff, heff, hstep, hpops, ?_, hr, ?_, hn⟩
  · subst hσ'; simp; omega
  · intro op t ht
    obtain ⟨a, b, c⟩ := hj op t ht
    refine ⟨a, ?_, b, c⟩
    obtain ⟨p, hp, hpt⟩ := List.mem_map.mp b
    obtain ⟨nx, _, hd, _⟩ := h4 p.1 p.2 hp
    have := decodeAt_next hd
    omega

/-- the internal faults the verifier rules out -/
def BadStuck (s : String) : Prop :=
  s = "stack-underflow" ∨ s = "bad-opcode-or-truncated" ∨ s = "const-kind" ∨ s = "decode" ∨
  s = "cast:thunk-as-value" ∨ s = "cast:value-as-thunk"

instance : DecidablePred BadStuck := fun s => by unfold BadStuck; exact inferInstance

open EvalM

/-- what a verified program may still stop with: anything but the ruled-out faults and fuel exhaustion (which
`EvalM.Res` admits on its own account, when there is not enough fuel) -/
def Fine : Fail → Prop
  | .stuck s => ¬ BadStuck s
  | .fuel => False
  | _ => True

/-- none of the ruled-out faults, and no fuel exhaustion when `P` ("enough fuel") holds -/
abbrev Good {α : Type} (P : Prop) (r : Except Fail α × List Event) : Prop :=
  EvalM.Res Fine (fun _ => True) P r.1

abbrev GoodM {α : Type} (P : Prop) (x : EvalM α) : Prop := EvalM.Sat Fine x (fun _ => True) P

theorem Good.explicit {α : Type} {P : Prop} {r : Except Fail α × List Event} (h : Good P r) {f : Fail}
    (hf : r.1 = .error f) :
    f ≠ .stuck "stack-underflow" ∧ f ≠ .stuck "bad-opcode-or-truncated" ∧
    f ≠ .stuck "const-kind" ∧ f ≠ .stuck "decode" ∧
    f ≠ .stuck "cast:thunk-as-value" ∧ f ≠ .stuck "cast:value-as-thunk" ∧ (P → f ≠ .fuel) := by
  have hg : Fine f ∨ (f = .fuel ∧ ¬ P) := by rw [Good, hf] at h; exact h
  rcases hg with hg | ⟨rfl, hg⟩
  · refine ⟨?_, ?_, ?_, ?_, ?_, ?_, ?_⟩
    all_goals first
      | (rintro rfl; exact hg (by simp [BadStuck]))
      | (rintro _ rfl; exact hg)
  · exact ⟨nofun, nofun, nofun, nofun, nofun, nofun, fun hP _ => hg hP⟩

theorem Good.not_fuel {α : Type} {P : Prop} {r : Except Fail α × List Event} (h : Good P r) (hP : P) :
    r.1 ≠ .error .fuel :=
  fun hf => (h.explicit hf).2.2.2.2.2.2 hP rfl

theorem BuiltinFail.fine : ∀ {f : Fail}, BuiltinFail f → Fine f
  | .stuck s, h => by
    simp only [BuiltinFail, List.mem_cons, List.not_mem_nil, or_false] at h
    rcases h with rfl | rfl | rfl | rfl | rfl | rfl | rfl <;> (show ¬ BadStuck _; unfold BadStuck; decide)
  | .modZero, _ | .badRegex, _ => trivial

theorem goodM_applyB {P : Prop} (ext : Externs) (b : BId) (args : List Val) :
    GoodM P (VmSim.applyB ext b args) := by
  refine Sat.bind (Q := fun _ => True) (Sat.lift ?_) id fun _ _ =>
    Sat.bind Sat.emitAll id fun _ _ => Sat.pure trivial
  cases h : applyBuiltin ext b args with
  | ok _ => trivial
  | error f => exact .inl (BuiltinFail.fine (applyBuiltin_cases (r := .error f) ValInv.top h))

theorem goodM_hostStrict {P : Prop} (name : String) (beh : HostBeh) (args : List Val) :
    GoodM P (hostStrict name beh args) := by
  unfold hostStrict
  refine Sat.bind Sat.emit id fun _ _ => ?_
  split
  · split
    · exact Sat.pure trivial
    · exact Sat.fail (by simp [Fine, BadStuck])
  · exact Sat.pure trivial
  · exact Sat.pure trivial
  · exact Sat.pure trivial
  · exact Sat.fail trivial
  · exact Sat.fail (by simp [Fine, BadStuck])

theorem goodM_callStrict {P : Prop} (ext : Externs) (d : FunDecl) (args : List Val) :
    GoodM P (callStrict ext d args) := by
  unfold callStrict
  split
  · split
    · split
      · exact Sat.fail (by simp [Fine, BadStuck])
      · exact goodM_applyB _ _ _
    · exact Sat.fail (by simp [Fine, BadStuck])
  · exact goodM_hostStrict _ _ _

theorem goodM_mapOfPairs {P : Prop} (ty : Ty) (kvs : List Val) (acc : EntryList) :
    GoodM P (mapOfPairs ty kvs acc) := by
  -- the three clauses of `mapOfPairs`: `case1` a pair with a map key (the recursive call), `case2` a pair
  -- whose `key?` is none, `case3` fewer than two values left
  fun_induction mapOfPairs ty kvs acc with
  | case1 => assumption
  | case2 => exact Sat.fail (by simp [Fine, BadStuck])
  | case3 => exact Sat.pure trivial

def isThunk : Slot → Bool
  | .thunk _ _ => true
  | .val _ => false

def kinds (st : List Slot) : AStack := st.map isThunk

theorem popVal_ok {st : List Slot} {σ : AStack} (h : kinds st = false :: σ) :
    ∃ v rest, st = .val v :: rest ∧ kinds rest = σ := by
  cases st with
  | nil => simp [kinds] at h
  | cons s rest =>
    cases s with
    | thunk b r => simp [kinds, isThunk] at h
    | val v => exact ⟨v, rest, rfl, by simpa [kinds, isThunk] using h⟩

theorem kinds_drop {st : List Slot} {n : Nat} {k : Bool} {τ : AStack} (h : kinds st = List.replicate n k ++ τ) :
    kinds (st.drop n) = τ := by
  rw [kinds, List.map_drop, ← kinds, h, List.drop_left' List.length_replicate]

theorem popN_ok : ∀ (n : Nat) (st : List Slot) (acc : List Val) {τ : AStack},
    kinds st = List.replicate n false ++ τ → ∃ vs, popN n st acc = pure (vs, st.drop n)
  | 0, st, acc, _, _ => ⟨acc, by simp [popN]⟩
  | n+1, st, acc, τ, h => by
    obtain ⟨v, rest, rfl, hr⟩ := popVal_ok (σ := List.replicate n false ++ τ) h
    obtain ⟨vs, hvs⟩ := popN_ok n rest (v :: acc) hr
    exact ⟨vs, by simpa [popN, popVal, EvalM.pure_bind] using hvs⟩

theorem popThunks_ok : ∀ (n : Nat) (st : List Slot) (acc : List (Code × Ty)) {τ : AStack},
    kinds st = List.replicate n true ++ τ →
    ∃ ths, popThunks n st acc = pure (ths, st.drop n) ∧
      ∀ p ∈ ths, p ∈ acc ∨ Slot.thunk p.1 p.2 ∈ st
  | 0, st, acc, _, _ => ⟨acc, by simp [popThunks], fun p hp => .inl hp⟩
  | n+1, [], acc, _, h => by simp [kinds, List.replicate_succ] at h
  | n+1, .val v :: st, acc, _, h => by simp [kinds, isThunk, List.replicate_succ] at h
  | n+1, .thunk b r :: st, acc, τ, h => by
    obtain ⟨ths, hths, hmem⟩ := popThunks_ok n st ((b, r) :: acc) (τ := τ)
      (by simpa [kinds, isThunk, List.replicate_succ] using h)
    refine ⟨ths, by simpa [popThunks] using hths, fun p hp => ?_⟩
    rcases hmem p hp with h1 | h1
    · rcases List.mem_cons.mp h1 with rfl | h2
      · exact .inr (by simp)
      · exact .inl h2
    · exact .inr (List.mem_cons_of_mem _ h1)

/-- total size of the deferred bodies stored at constant indices below `k` -/
def tsz (pool : Pool) : Nat → Nat
  | 0 => 0
  | k+1 => tsz pool k + (match pool[k]? with | some (.thunk b _) => b.size | _ => 0)

theorem tsz_thunk {pool : Pool} {i k : Nat} {b : Code} {r : Ty} (h : i < k)
    (hp : pool[i]? = some (.thunk b r)) : tsz pool i + b.size ≤ tsz pool k := by
  induction h with
  | refl => simp [tsz, hp]
  | step _ ih => simp only [tsz]; omega

def ThunksOK (pool : Pool) : Prop :=
  ∀ i b r, pool[i]? = some (.thunk b r) → verifyUnit (pool.extract 0 i) b = true

def ThunksWF (pool : Pool) : Prop :=
  ∀ i b r, pool[i]? = some (.thunk b r) → WellFormed (pool.extract 0 i) b

theorem ThunksOK.wf {pool : Pool} (h : ThunksOK pool) : ThunksWF pool :=
  fun i b r hp => verifyUnit_wf (h i b r hp)

def StackOK (pool : Pool) (k : Nat) (st : List Slot) : Prop :=
  ∀ b r, Slot.thunk b r ∈ st → ∃ i, i < k ∧ pool[i]? = some (.thunk b r)

theorem extract_getElem? {pool : Pool} {k i : Nat} {c : Const}
    (h : (pool.extract 0 k)[i]? = some c) : i < k ∧ pool[i]? = some c := by
  rw [Array.getElem?_extract] at h
  split at h
  · rename_i hlt
    simp at h
    exact ⟨by omega, h⟩
  · simp at h

theorem StackOK.push_val {pool : Pool} {k : Nat} {st : List Slot} (h : StackOK pool k st) (v : Val) :
    StackOK pool k (.val v :: st) := by
  intro b r hm
  simp at hm
  exact h b r hm

theorem StackOK.drop {pool : Pool} {k : Nat} {st : List Slot} (h : StackOK pool k st) (n : Nat) :
    StackOK pool k (st.drop n) :=
  fun b r hm => h b r (List.mem_of_mem_drop hm)

theorem StackOK.nil {pool : Pool} {k : Nat} : StackOK pool k [] := by
  intro b r hm; simp at hm

def Enough (pool : Pool) (k : Nat) (c : Code) (pc : Nat) (F : Nat) : Prop :=
  c.size - pc + tsz pool k ≤ F

section machine
variable (env : REnv) (pool : Pool)

/-- the statement proved by induction on the fuel: from a boundary of a unit at constant level `k`
whose labelling `d` is locally consistent, with a stack of the labelled kinds -/
def RunGood (F : Nat) : Prop :=
  ∀ k c (is : List (Nat × Instr)) d pc st,
    (∀ o ins, (o, ins) ∈ is → LocalOK (pool.extract 0 k) c (is.map (·.1)) d o ins) →
    pc ∈ is.map (·.1) → d pc = kinds st → StackOK pool k st →
    GoodM (Enough pool k c pc F) (run F env pool c pc st)

theorem unit_good {F k : Nat} {c : Code} (ih : RunGood env pool F)
    (hwf : WellFormed (pool.extract 0 k) c) :
    GoodM (c.size + tsz pool k ≤ F) (run F env pool c 0 []) := by
  obtain ⟨is, d, hdec, hd0, hlast, hloc⟩ := hwf
  refine (ih k c is d 0 [] hloc (zero_mem_of_decodeAll hdec hlast) hd0 StackOK.nil).mono (fun _ => id) ?_
  unfold Enough; omega

theorem run_thunk (hpool : ThunksWF pool) (F : Nat) (ih : RunGood env pool F) (k : Nat)
    (b : Code) (r : Ty) (h : ∃ i, i < k ∧ pool[i]? = some (.thunk b r)) :
    GoodM (tsz pool k ≤ F) (run F env pool b 0 []) := by
  obtain ⟨i, hik, hp⟩ := h
  refine (unit_good env pool ih (hpool i b r hp)).mono (fun _ => id) ?_
  have := tsz_thunk hik hp
  omega

theorem forceAll_good (hpool : ThunksWF pool) (F : Nat) (ih : RunGood env pool F) (k : Nat)
    (ths : List (Code × Ty)) (hths : ∀ p ∈ ths, ∃ i, i < k ∧ pool[i]? = some (.thunk p.1 p.2)) :
    ∀ (order : List Nat) (acc : Option Val), GoodM (tsz pool k ≤ F) (forceAll F env pool ths order acc)
  | [], some v => by unfold forceAll; exact Sat.pure trivial
  | [], none => by unfold forceAll; exact Sat.fail (by simp [Fine, BadStuck])
  | i :: rest, acc => by
    unfold forceAll
    split
    · rename_i body ty hget
      have hmem : (body, ty) ∈ ths := List.mem_of_getElem? hget
      exact Sat.bind (run_thunk env pool hpool F ih k body ty (hths _ hmem)) id fun v _ =>
        forceAll_good hpool F ih k ths hths rest (some v)
    · exact Sat.fail (by simp [Fine, BadStuck])

theorem callLazy_good (hpool : ThunksWF pool) (F : Nat) (ih : RunGood env pool F) (k : Nat)
    (d : FunDecl) (ths : List (Code × Ty))
    (hths : ∀ p ∈ ths, ∃ i, i < k ∧ pool[i]? = some (.thunk p.1 p.2)) :
    GoodM (tsz pool k ≤ F) (callLazy F env pool d ths) := by
  unfold callLazy
  split
  · exact Sat.bind Sat.emit id fun _ _ => forceAll_good env pool hpool F ih k ths hths _ _
  · split
    · rename_i c rc t rt f rf _
      have hc := hths (c, rc) (by simp)
      have ht := hths (t, rt) (by simp)
      have hf := hths (f, rf) (by simp)
      refine Sat.bind (run_thunk env pool hpool F ih k _ _ hc) id fun v _ => ?_
      split
      · exact run_thunk env pool hpool F ih k _ _ ht
      · exact run_thunk env pool hpool F ih k _ _ hf
      · exact Sat.fail (by simp [Fine, BadStuck])
    · exact Sat.fail (by simp [Fine, BadStuck])
  · exact Sat.fail (by simp [Fine, BadStuck])

theorem run_step (hpool : ThunksWF pool) (F : Nat) (ih : RunGood env pool F) : RunGood env pool (F+1) := by
  intro k c is d pc st hloc hpc hd hst
  obtain ⟨ins, hmem⟩ : ∃ ins, (pc, ins) ∈ is := by simpa using hpc
  obtain ⟨next, σ', hdec, hstep, hret, hjmp, hnext⟩ := hloc pc ins hmem
  rw [hd] at hstep
  obtain ⟨pops, pushes, τ, heff, hσ, hσ'⟩ := stepA_shape hstep
  have hτ := kinds_drop hσ
  have hnx := decodeAt_next hdec
  have hgo : ∀ pc' st', pc < pc' → pc' ∈ is.map (·.1) ∧ d pc' = kinds st' → StackOK pool k st' →
      GoodM (Enough pool k c pc (F+1)) (run F env pool c pc' st') := by
    intro pc' st' hlt hl hs
    refine (ih k c is d pc' st' hloc hl.1 hl.2 hs).mono (fun _ => id) ?_
    unfold Enough; omega
  subst hσ'
  -- an instruction that pushes one value goes on at `next`
  have hpush : pushes = 1 → pushKind (pool.extract 0 k) ins = false →
      ∀ x : Val, GoodM (Enough pool k c pc (F+1)) (run F env pool c next (.val x :: st.drop pops)) := by
    rintro rfl hpk x
    have hne := effect_push_one heff
    refine hgo next _ hnx.1 ?_ ((hst.drop _).push_val _)
    simpa [hpk, kinds, isThunk, ← hτ] using hnext hne.1 fun t => hne.2 _ t
  cases effect_inv heff with
  | ret =>
    obtain ⟨v, rest, rfl, _⟩ := popVal_ok hσ
    intro l
    rw [VmSim.run_return hdec]
    trivial
  | nop =>
    unfold run
    simp only [hdec]
    exact hgo next st hnx.1 (by simpa [hσ] using hnext (by simp) (by simp)) hst
  | lognot =>
    obtain ⟨v, rest, rfl, _⟩ := popVal_ok hσ
    intro l
    rw [VmSim.run_lognot hdec]
    split
    · exact hpush rfl rfl _ l
    · exact Sat.fail (by simp [Fine, BadStuck]) l
  | intrinsic hb =>
    obtain ⟨vs, hvs⟩ := popN_ok _ st [] hσ
    intro l
    rw [VmSim.run_intrinsic hdec hb (congrFun hvs l)]
    exact Res.seq (goodM_applyB _ _ _ l) id fun v l' _ => hpush rfl rfl v l'
  | constVal hp =>
    obtain ⟨_, hp'⟩ := extract_getElem? hp
    obtain rfl : τ = kinds st := by simpa using hσ.symm
    intro l
    rw [VmSim.run_const_val hdec hp']
    exact hgo next _ hnx.1 (by simpa [kinds, isThunk, pushKind, hp] using hnext (by simp) (by simp))
      (hst.push_val _) l
  | constThunk hp =>
    rename_i i b r
    obtain ⟨hik, hp'⟩ := extract_getElem? hp
    obtain rfl : τ = kinds st := by simpa using hσ.symm
    intro l
    rw [VmSim.run_const_thunk hdec hp']
    refine hgo next _ hnx.1 (by simpa [kinds, isThunk, pushKind, hp] using hnext (by simp) (by simp))
      ?_ l
    intro b' r' hm
    rcases List.mem_cons.mp hm with h | h
    · cases h; exact ⟨i, hik, hp'⟩
    · exact hst b' r' h
  | load hp =>
    intro l
    rw [VmSim.run_load hdec (extract_getElem? hp).2]
    exact hpush rfl rfl _ l
  | newObj hp =>
    obtain ⟨vs, hvs⟩ := popN_ok _ st [] hσ
    intro l
    rw [VmSim.run_newobj hdec (extract_getElem? hp).2 (congrFun hvs l)]
    exact hpush rfl rfl _ l
  | objLoad hp =>
    obtain ⟨v, rest, rfl, _⟩ := popVal_ok hσ
    have hp' := (extract_getElem? hp).2
    intro l
    cases v with
    | obj ty vs =>
      rw [VmSim.run_objload hdec hp']
      split
      · exact hpush rfl rfl _ l
      · exact Sat.fail (by simp [Fine, BadStuck]) l
    | _ =>
      rw [VmSim.run_objload_bad hdec hp' (by intros; nofun)]
      exact Sat.fail (by simp [Fine, BadStuck]) l
  | newList hp =>
    obtain ⟨vs, hvs⟩ := popN_ok _ st [] hσ
    intro l
    rw [VmSim.run_newlist hdec (extract_getElem? hp).2 (congrFun hvs l)]
    exact hpush rfl rfl _ l
  | newMap hp =>
    obtain ⟨vs, hvs⟩ := popN_ok _ st [] hσ
    intro l
    rw [VmSim.run_newmap hdec (extract_getElem? hp).2 (congrFun hvs l)]
    exact Res.seq (goodM_mapOfPairs _ _ _ l) id fun es l' _ => hpush rfl rfl _ l'
  | jump =>
    rename_i t
    intro l
    rw [VmSim.run_jump hdec]
    exact hgo t st (hjmp _ t rfl).1 (by simpa [hσ] using (hjmp _ t rfl).2) hst l
  | ifTrue =>
    rename_i t
    obtain ⟨v, rest, rfl, _⟩ := popVal_ok hσ
    have hl := hnext (by simp) (by simp)
    have hj := hjmp _ t rfl
    intro l
    rw [VmSim.run_iftrue hdec]
    split
    · exact hgo next _ hnx.1 (by simpa [← hτ] using hl) (hst.drop 1) l
    · exact hgo t _ hj.1 (by simpa [← hτ] using hj.2) (hst.drop 1) l
    · exact Sat.fail (by simp [Fine, BadStuck]) l
  | callVal hp hlz =>
    obtain ⟨vs, hvs⟩ := popN_ok _ st [] hσ
    intro l
    rw [VmSim.run_callval hdec (extract_getElem? hp).2 (congrFun hvs l)]
    exact Res.seq (goodM_callStrict _ _ _ l) id fun v l' _ => hpush rfl rfl _ l'
  | callNeed hp hlz =>
    obtain ⟨ths, hths, hmem⟩ := popThunks_ok _ st [] hσ
    have hths' : ∀ p ∈ ths, ∃ i, i < k ∧ pool[i]? = some (.thunk p.1 p.2) := by
      intro p hp
      rcases hmem p hp with h | h
      · simp at h
      · exact hst _ _ h
    intro l
    rw [VmSim.run_callneed hdec (extract_getElem? hp).2 (congrFun hths l)]
    exact Res.seq (callLazy_good env pool hpool F ih k _ ths hths' l) (by unfold Enough; omega)
      fun v l' _ => hpush rfl rfl _ l'
  | listLoad | mapLoad =>
    obtain ⟨v, st1, rfl, h1⟩ := popVal_ok hσ
    obtain ⟨w, rest, rfl, _⟩ := popVal_ok h1
    unfold run
    simp only [hdec, popVal, EvalM.pure_bind]
    repeat' split
    all_goals first
      | exact hpush rfl rfl _
      | exact Sat.fail (by simp [Fine, BadStuck])
      | exact Sat.fail trivial
  | dyn =>
    rename_i argc
    -- `argc` argument values, the callee below them
    rw [List.replicate_succ', List.append_assoc] at hσ
    obtain ⟨vs, hvs⟩ := popN_ok argc st [] hσ
    obtain ⟨f, st1, hf, _⟩ := popVal_ok (kinds_drop hσ)
    have hst1 : st.drop (argc + 1) = st1 := by rw [← List.drop_drop, hf]; rfl
    unfold run
    simp only [hdec]
    rw [hvs, EvalM.pure_bind]
    simp only
    rw [hf, show popVal (.val f :: st1) = pure (f, st1) from rfl, EvalM.pure_bind, ← hst1]
    simp only
    split
    · split
      · exact Sat.fail (by simp [Fine, BadStuck])
      · exact Sat.bind (goodM_callStrict _ _ _) id fun v _ => hpush rfl rfl _
    · exact Sat.fail (by simp [Fine, BadStuck])

theorem run_good (hpool : ThunksWF pool) : ∀ F, RunGood env pool F
  | 0 => by
    intro k c is d pc st hloc hpc _ _
    obtain ⟨ins, hmem⟩ : ∃ ins, (pc, ins) ∈ is := by simpa using hpc
    obtain ⟨next, σ', hdec, _⟩ := hloc pc ins hmem
    have := decodeAt_next hdec
    unfold run
    exact Sat.fuel (by unfold Enough; omega)
  | F+1 => run_step env pool hpool F (run_good hpool F)

end machine

theorem verify_iff {code : Code} {pool : Pool} :
    verify code pool = true ↔ verifyUnit pool code = true ∧ ThunksOK pool := by
  unfold verify ThunksOK
  rw [Bool.and_eq_true, List.all_eq_true]
  constructor
  · rintro ⟨h1, h2⟩
    refine ⟨h1, fun i b r hp => ?_⟩
    have hi := (Array.getElem?_eq_some_iff.mp hp).1
    have := h2 i (List.mem_range.mpr hi)
    simpa [hp] using this
  · rintro ⟨h1, h2⟩
    refine ⟨h1, fun i _ => ?_⟩
    split
    · rename_i b r hp; exact h2 i b r hp
    · rfl

theorem tsz_eq_foldl (pool : Pool) (k : Nat) :
    tsz pool k = (pool.toList.take k).foldl
      (fun n c => match c with | .thunk b _ => n + b.size | _ => n) 0 := by
  induction k with
  | zero => simp [tsz]
  | succ k ih =>
    rw [List.take_add_one, List.foldl_append, ← ih]
    simp only [tsz, Array.getElem?_toList]
    cases h : pool[k]? with
    | none => simp
    | some c => cases c <;> simp

theorem totalCodeSize_eq (code : Code) (pool : Pool) :
    totalCodeSize code pool = code.size + tsz pool pool.size := by
  unfold totalCodeSize
  have : List.take pool.size pool.toList = pool.toList := by
    rw [← Array.length_toList]; exact List.take_length
  rw [tsz_eq_foldl, this, Array.foldl_toList]
  rfl

/-- A well-formed program runs safely: the "consequently" clause of C11 for any locally consistent
labelling, not only the one the verifier finds. -/
theorem wellFormed_good {code : Code} {pool : Pool} (hc : WellFormed pool code) (hp : ThunksWF pool)
    (env : REnv) (fuel : Nat) (log : List Event) :
    Good (totalCodeSize code pool ≤ fuel) (run fuel env pool code 0 [] log) := by
  refine (unit_good env pool (run_good env pool hp fuel) (k := pool.size) (by simpa using hc) log).mono
    (fun _ => id) ?_
  rw [totalCodeSize_eq]
  omega

theorem verify_good {code : Code} {pool : Pool} (h : verify code pool = true) (env : REnv)
    (fuel : Nat) (log : List Event) :
    Good (totalCodeSize code pool ≤ fuel) (run fuel env pool code 0 [] log) :=
  wellFormed_good (verifyUnit_wf (verify_iff.mp h).1) (verify_iff.mp h).2.wf env fuel log

/-- the same for the body of a deferred argument, run on its own -/
theorem verify_good_thunk {code : Code} {pool : Pool} (h : verify code pool = true) (env : REnv)
    {i : Nat} {b : Code} {r : Ty} (hb : pool[i]? = some (.thunk b r))
    (fuel : Nat) (log : List Event) :
    Good (b.size + tsz pool i ≤ fuel) (run fuel env pool b 0 [] log) := by
  have hp := (verify_iff.mp h).2.wf
  exact unit_good env pool (run_good env pool hp fuel) (hp i b r hb) log

section pass
variable {pool : Pool} {code : Code} {pc next t fuel : Nat} {ins : Instr} {σ σ' : AStack}
  {pending : List (Nat × AStack)}

theorem mergeAt_fresh (h : ∀ p ∈ pending, p.1 ≠ pc) : mergeAt pc (some σ) pending = some σ := by
  unfold mergeAt
  simp only
  rw [if_pos]
  rw [List.all_eq_true]
  intro p hp
  simp [h p hp]

theorem filter_fresh (h : ∀ p ∈ pending, p.1 ≠ pc) : pending.filter (·.1 != pc) = pending := by
  rw [List.filter_eq_self]
  intro p hp
  simp [h p hp]

/-- `verifyFrom_succ` at an offset that no pending jump targets, read from right to left; that `next` lies inside
the code is `verifyFrom_lt` of the rest of the pass -/
theorem verifyFrom_fresh (hdec : decodeAt code pc = some (ins, next)) (hstep : stepA pool ins σ = some σ')
    (hr : ins ≠ .simple .RETURN) (hfresh : ∀ p ∈ pending, p.1 ≠ pc)
    (hj : ∀ op t, ins = .jump op t → pc < t ∧ t < code.size)
    (h : verifyFrom fuel pool code next (fallThrough ins σ') (promise ins σ' ++ pending) = true) :
    verifyFrom (fuel+1) pool code pc (some σ) pending = true := by
  rw [verifyFrom_succ (mergeAt_fresh hfresh) hdec hstep, filter_fresh hfresh]
  exact ⟨fun h => absurd h hr, fun _ => ⟨hj, verifyFrom_lt h, h⟩⟩

theorem verifyFrom_return (hdec : decodeAt code pc = some (.simple .RETURN, code.size)) :
    verifyFrom (fuel+1) pool code pc (some [false]) [] = true := by
  rw [verifyFrom]
  have : stepA pool (.simple .RETURN) [false] = some [] := by simp [stepA, effect, popKind]
  simp [mergeAt, hdec, this]

/-- the pass reads `cur` and `pending` at `pc` only through `mergeAt` and the promises for later offsets -/
theorem verifyFrom_congr {cur cur' : Option AStack} {pending' : List (Nat × AStack)}
    (hm : mergeAt pc cur pending = mergeAt pc cur' pending')
    (hf : pending.filter (·.1 != pc) = pending'.filter (·.1 != pc)) :
    verifyFrom fuel pool code pc cur pending = verifyFrom fuel pool code pc cur' pending' := by
  cases fuel with
  | zero => rfl
  | succ fuel => rw [verifyFrom, verifyFrom, hm, hf]

/-- a promise for the current offset that agrees with the fall-through state is absorbed -/
theorem verifyFrom_absorb :
    verifyFrom fuel pool code pc (some σ) ((pc, σ) :: pending) =
      verifyFrom fuel pool code pc (some σ) pending :=
  verifyFrom_congr (by simp only [mergeAt, List.all_cons, bne_self_eq_false, beq_self_eq_true, Bool.false_or,
    Bool.true_and]) (by simp)

/-- the fall-through state is a promise for the current offset -/
theorem verifyFrom_cur :
    verifyFrom fuel pool code pc none ((pc, σ) :: pending) =
      verifyFrom fuel pool code pc (some σ) pending :=
  verifyFrom_congr (by simp only [mergeAt, List.find?_cons, List.all_cons, bne_self_eq_false, beq_self_eq_true,
    Bool.false_or, Bool.true_and]) (by simp)

end pass

/-- `verifyFrom_cur` with a hypothesis it does not need (nothing else is promised for `pc`) -/
theorem verifyFrom_land {pool : Pool} {code : Code} {pc fuel : Nat} {σ : AStack}
    {pending : List (Nat × AStack)} (hfresh : ∀ p ∈ pending, p.1 ≠ pc) :
    verifyFrom fuel pool code pc none ((pc, σ) :: pending) =
      verifyFrom fuel pool code pc (some σ) pending :=
  verifyFrom_cur

theorem verifyFrom_fuel_le {pool : Pool} {code : Code} {fuel fuel' pc : Nat} {cur : Option AStack}
    {pending : List (Nat × AStack)} (hle : fuel ≤ fuel')
    (h : verifyFrom fuel pool code pc cur pending = true) :
    verifyFrom fuel' pool code pc cur pending = true := by
  induction fuel generalizing fuel' pc cur pending with
  | zero => simp [verifyFrom] at h
  | succ fuel ih =>
    obtain ⟨fuel', rfl⟩ := Nat.exists_eq_add_one_of_ne_zero (Nat.ne_zero_of_lt hle)
    obtain ⟨σ, ins, next, σ', hm, hdec, hstep⟩ := verifyFrom_some h
    obtain ⟨hret, hgo⟩ := (verifyFrom_succ hm hdec hstep).mp h
    exact (verifyFrom_succ hm hdec hstep).mpr
      ⟨hret, fun hr => ⟨(hgo hr).1, (hgo hr).2.1, ih (Nat.le_of_succ_le_succ hle) (hgo hr).2.2⟩⟩

end Yae.VmVerify
