/-
  The instrumented desugarer (`Yae/Spec/DesugarCost.lean`), the desugarer's part of C12: erasure (dropping the
  counter gives `desugar`), at most one call per node, and the bound on the output, by one functional induction.
-/
import Yae.Spec.DesugarCost
import Yae.Proofs.Desugar
namespace Yae

/-- The factor two: an operator node becomes a call node plus an identifier node for the operator name. -/
theorem desugarC_all :
    (∀ e : Expr, (desugarC e).1 = desugar e ∧ (desugarC e).2 ≤ e.nodes ∧
      (desugar e).nodes ≤ 2 * e.nodes) ∧
    (∀ fs : FieldEList, (desugarFieldsC fs).1 = desugarFields fs ∧
      (desugarFieldsC fs).2 ≤ nodesFields fs ∧
      nodesFields (desugarFields fs) ≤ 2 * nodesFields fs) ∧
    (∀ ps : PairList, (desugarPairsC ps).1 = desugarPairs ps ∧
      (desugarPairsC ps).2 ≤ nodesPairs ps ∧ nodesPairs (desugarPairs ps) ≤ 2 * nodesPairs ps) ∧
    (∀ es : ExprList, (desugarListC es).1 = desugarList es ∧
      (desugarListC es).2 ≤ nodesList es ∧ nodesList (desugarList es) ≤ 2 * nodesList es) := by
  apply desugar.mutual_induct
  all_goals intros
  all_goals
    simp only [desugarC, desugarListC, desugarPairsC, desugarFieldsC, desugar, desugarList,
      desugarPairs, desugarFields, Expr.nodes, nodesList, nodesPairs, nodesFields, true_and, *]
    omega

end Yae
