/-
  Facts about lists and characters that the regions share and that speak of no definition of the model: environments
  read as association lists, maximal munch (`span`, `takeWhile` on `ds ++ r`), pigeonhole for duplicate-free lists,
  characters compared by code point, a list that does not start with a character of a class.
-/
namespace Yae

/-! The model reads all its environments (`TEnv.lookupVar`, `REnv.lookupVar`, `lookupVal` of `Model/Conv`, `setGet`) by
`(l.find? fun p => p.1 == k).map (·.2)`; the lemmas are stated on that term and apply to each of them by
unfolding. -/

section Assoc
variable {α β : Type} [BEq α] [LawfulBEq α] {l : List (α × β)} {k : α} {v : β}

theorem assoc_some_mem (h : (l.find? fun p => p.1 == k).map (·.2) = some v) : (k, v) ∈ l := by
  obtain ⟨p, hf, rfl⟩ := Option.map_eq_some_iff.1 h
  have hk := List.find?_some hf
  rw [beq_iff_eq] at hk
  rw [← hk]
  exact List.mem_of_find?_eq_some hf

/-- `find?` takes the first binding of a key, so the converse needs distinct keys. -/
theorem assoc_eq_some_iff (hnd : (l.map Prod.fst).Nodup) :
    (l.find? fun p => p.1 == k).map (·.2) = some v ↔ (k, v) ∈ l := by
  refine ⟨assoc_some_mem, fun h => ?_⟩
  induction l with
  | nil => cases h
  | cons p rest ih =>
    rw [List.map_cons, List.nodup_cons] at hnd
    rcases List.mem_cons.1 h with rfl | h
    · simp
    · rw [List.find?_cons_of_neg, ih hnd.2 h]
      intro hp
      exact hnd.1 (eq_of_beq hp ▸ List.mem_map_of_mem h)

end Assoc

theorem span_append {α : Type} {p : α → Bool} {ds r : List α} (hd : ∀ c ∈ ds, p c = true)
    (hr : ∀ c t, r = c :: t → p c = false) :
    (ds ++ r).takeWhile p = ds ∧ (ds ++ r).dropWhile p = r := by
  rw [List.takeWhile_append_of_pos hd, List.dropWhile_append_of_pos hd]
  cases r with
  | nil => simp
  | cons c t => simp [hr c t rfl]

theorem span_loop_eq {α : Type} (p : α → Bool) : ∀ l acc : List α,
    List.span.loop p l acc = (acc.reverse ++ l.takeWhile p, l.dropWhile p)
  | [], acc => by simp [List.span.loop]
  | a :: l, acc => by
    cases h : p a
    · simp [List.span.loop, h]
    · simp [List.span.loop, h, span_loop_eq p l (a :: acc)]

theorem span_eq {α : Type} (p : α → Bool) (l : List α) : l.span p = (l.takeWhile p, l.dropWhile p) := by
  rw [List.span, span_loop_eq]; rfl

/-- Pigeonhole. -/
theorem nodup_subset_of_length_le {α : Type} (xs ys : List α) (hnd : xs.Nodup)
    (hsub : ∀ a, a ∈ xs → a ∈ ys) (hl : ys.length ≤ xs.length) : ∀ a, a ∈ ys → a ∈ xs := by
  intro a ha
  apply Classical.byContradiction
  intro hn
  -- otherwise `a :: xs` is duplicate-free and contained in `ys`, hence at most as long as `ys`
  have h := (List.nodup_cons.2 ⟨hn, hnd⟩).length_le_of_subset (List.cons_subset.2 ⟨ha, hsub⟩)
  rw [List.length_cons] at h
  omega

theorem nodup_of_subset_length_le {α : Type} [BEq α] [LawfulBEq α] : ∀ (xs ys : List α), ys.Nodup →
    (∀ a, a ∈ ys → a ∈ xs) → xs.length ≤ ys.length → xs.Nodup
  | [], _, _, _, _ => .nil
  | a :: xs, ys, hnd, hsub, hl => by
    rw [List.length_cons] at hl
    have ha : a ∉ xs := fun ha => by
      have := hnd.length_le_of_subset (l₂ := xs) fun b hb =>
        (List.mem_cons.1 (hsub b hb)).elim (fun e => e ▸ ha) id
      omega
    refine List.nodup_cons.2 ⟨ha, nodup_of_subset_length_le xs (ys.erase a) (hnd.erase a) (fun b hb => ?_) ?_⟩
    · have ⟨hne, hb⟩ := hnd.mem_erase_iff.1 hb
      exact (List.mem_cons.1 (hsub b hb)).resolve_left hne
    · have := nodup_subset_of_length_le ys (a :: xs) hnd hsub (by rw [List.length_cons]; exact hl) a
        List.mem_cons_self
      rw [List.length_erase_of_mem this]; omega

theorem fromUTF8?_toByteArray (s : String) : String.fromUTF8? s.toByteArray = some s := by
  unfold String.fromUTF8?
  rw [dif_pos s.isValidUTF8]
  rfl

theorem char_le_toNat (a b : Char) : a ≤ b ↔ a.toNat ≤ b.toNat := by
  rw [Char.le_def, UInt32.le_iff_toNat_le]; rfl

/-- the digit test as the model writes it three times (`Yae.isDigit`, `Num.isDigit`, `Sql.isDigit`) -/
theorem digit_iff_toNat (c : Char) : ('0' ≤ c && c ≤ '9') = true ↔ 48 ≤ c.toNat ∧ c.toNat ≤ 57 := by
  simp only [char_le_toNat, Bool.and_eq_true, decide_eq_true_eq, Char.reduceToNat]

namespace Re

def NoHead (p : Char → Bool) (l : List Char) : Prop := ∀ c t, l = c :: t → p c = false

theorem NoHead.nil (p : Char → Bool) : NoHead p [] := by intro c t h; cases h

theorem NoHead.cons {p : Char → Bool} {c : Char} (t : List Char) (h : p c = false) :
    NoHead p (c :: t) := by
  intro c' t' e; cases e; exact h

theorem NoHead.append {p : Char → Bool} {u v : List Char} (hu : NoHead p u) (hv : NoHead p v) :
    NoHead p (u ++ v) := by
  cases u with
  | nil => simpa using hv
  | cons c t => exact NoHead.cons _ (hu c t rfl)

theorem NoHead.mono {p q : Char → Bool} {l : List Char} (h : NoHead q l)
    (hpq : ∀ c, p c = true → q c = true) : NoHead p l := by
  intro c t e
  cases hp : p c
  · rfl
  · have := hpq c hp; rw [h c t e] at this; cases this

theorem NoHead.span {p : Char → Bool} {ds r : List Char} (hds : ∀ c ∈ ds, p c = true) (hr : NoHead p r) :
    (ds ++ r).span p = (ds, r) := by
  obtain ⟨h1, h2⟩ := span_append hds hr
  rw [span_eq, h1, h2]

end Re
end Yae
