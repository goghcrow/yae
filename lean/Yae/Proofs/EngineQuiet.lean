/-
  Lemmas for C13: standard output is written by `print` only — the version that covers
  DYNAMICALLY dispatched calls.

  Which function a dynamic call `e(args)` runs is decided by the VALUE of `e`; function values
  come from the run-time environment only (no built-in makes one).  So: if no value bound in the
  environment holds — at any depth — a function referring to the built-in `print` (`quietVal`),
  and no statically dispatched call of the tree is resolved to `print` (`noPrintD`), then the
  evaluation adds no `.print` event, and every value it computes is again free of `print`
  (`Yae.EngineEval.eval_quietD`: `quietWalk` of EnginePrint with `quietVal` as the invariant).
-/
import Yae.Proofs.EnginePrint
namespace Yae.EngineEval
open Yae

mutual
/-- no statically dispatched call of `print` (dynamic calls allowed) -/
def noPrintD (funs : List FunDecl) : Expr → Bool
  | .list _ es _ => noPrintDL funs es
  | .map _ ps _ => noPrintDP funs ps
  | .obj _ fs _ => noPrintDF funs fs
  | .call _ _ callee args _ resolved index =>
    (if resolved == "" then noPrintD funs callee
     else match resolveStatic funs resolved index with
       | some d => !refPrints d.ref
       | none => true) &&
    noPrintDL funs args
  | .subscript _ _ var idx _ => noPrintD funs var && noPrintD funs idx
  | .member _ _ obj _ _ _ _ => noPrintD funs obj
  | _ => true
def noPrintDL (funs : List FunDecl) : ExprList → Bool
  | .nil => true
  | .cons e es => noPrintD funs e && noPrintDL funs es
def noPrintDP (funs : List FunDecl) : PairList → Bool
  | .nil => true
  | .cons k v ps => noPrintD funs k && noPrintD funs v && noPrintDP funs ps
def noPrintDF (funs : List FunDecl) : FieldEList → Bool
  | .nil => true
  | .cons _ e fs => noPrintD funs e && noPrintDF funs fs
end

mutual
theorem noPrintD_all (funs : List FunDecl) :
    ∀ e : Expr, noPrintD funs e = true ↔ All (fun _ => True) (NoPrintAt funs) True e
  | .str .. | .num .. | .time .. | .bool .. | .ident .. => iff_of_true rfl trivial
  | .unary .. | .binary .. | .ternary .. | .group .. => iff_of_true rfl trivial
  | .list _ es _ => noPrintDL_all funs es
  | .map _ ps _ => noPrintDP_all funs ps
  | .obj _ fs _ => noPrintDF_all funs fs
  | .call _ _ callee args _ resolved index => by
    simp only [noPrintD, All, Bool.and_eq_true, noPrintDL_all funs args]
    refine and_congr_left' ?_
    split
    · simp only [true_and]; exact noPrintD_all funs callee
    · unfold NoPrintAt; cases resolveStatic funs resolved index <;> simp
  | .subscript _ _ var idx _ => by
    simp only [noPrintD, All, Bool.and_eq_true, noPrintD_all funs var, noPrintD_all funs idx]
  | .member _ _ obj _ _ _ _ => noPrintD_all funs obj
termination_by structural e => e
theorem noPrintDL_all (funs : List FunDecl) :
    ∀ es : ExprList, noPrintDL funs es = true ↔ AllL (fun _ => True) (NoPrintAt funs) True es
  | .nil => iff_of_true rfl trivial
  | .cons e es => by
    simp only [noPrintDL, AllL, Bool.and_eq_true, noPrintD_all funs e, noPrintDL_all funs es]
termination_by structural es => es
theorem noPrintDP_all (funs : List FunDecl) :
    ∀ ps : PairList, noPrintDP funs ps = true ↔ AllP (fun _ => True) (NoPrintAt funs) True ps
  | .nil => iff_of_true rfl trivial
  | .cons k v ps => by
    simp only [noPrintDP, AllP, Bool.and_eq_true, noPrintD_all funs k, noPrintD_all funs v,
      noPrintDP_all funs ps, and_assoc]
termination_by structural ps => ps
theorem noPrintDF_all (funs : List FunDecl) :
    ∀ fs : FieldEList, noPrintDF funs fs = true ↔ AllF (fun _ => True) (NoPrintAt funs) True fs
  | .nil => iff_of_true rfl trivial
  | .cons _ e fs => by
    simp only [noPrintDF, AllF, Bool.and_eq_true, noPrintD_all funs e, noPrintDF_all funs fs]
termination_by structural fs => fs
end

mutual
def quietVal : Val → Bool
  | .list _ vs => quietVals vs
  | .map _ es => quietEntries es
  | .obj _ vs => quietVals vs
  | .fn _ ref _ => !refPrints ref
  | .just _ v => quietVal v
  | _ => true
def quietVals : ValList → Bool
  | .nil => true
  | .cons v vs => quietVal v && quietVals vs
def quietEntries : EntryList → Bool
  | .nil => true
  | .cons _ _ v es => quietVal v && quietEntries es
end

theorem quietVals_iff : ∀ vs : ValList, quietVals vs = true ↔ ∀ v ∈ vs.toList, quietVal v = true
  | .nil => by simp [quietVals, ValList.toList]
  | .cons v vs => by simp [quietVals, ValList.toList, quietVals_iff vs]

theorem quietEntries_iff : ∀ es : EntryList,
    quietEntries es = true ↔ ∀ x ∈ es.toList, quietVal x.2.2 = true
  | .nil => by simp [quietEntries, EntryList.toList]
  | .cons _ _ v es => by simp [quietEntries, EntryList.toList, quietEntries_iff es]

theorem quietInv : ValInv fun v => quietVal v = true where
  num _ := rfl
  str _ := rfl
  bool _ := rfl
  time _ := rfl
  list _ vs := quietVals_iff vs
  obj _ vs := quietVals_iff vs
  map _ es := quietEntries_iff es
  just _ _ h := h

theorem applyBuiltin_print (ext : Externs) (x : Val) :
    applyBuiltin ext .PRINT_ANY [x] = .ok (x, [.print x.render]) := rfl

/-- **only `print` prints**, dynamic dispatch included -/
theorem eval_quietD (fuel : Nat) (dbg : Bool) (ρ : REnv) (e : Expr)
    (hρ : ∀ p ∈ ρ.vars, quietVal p.2 = true) (h : noPrintD ρ.funs e = true)
    (log : List Event) (hl : Silent log) :
    Silent (eval fuel dbg ρ e log).2 ∧
      ∀ v, (eval fuel dbg ρ e log).1 = .ok v → quietVal v = true :=
  have r := (quietWalk quietInv dbg ρ (D := True) (fun _ _ h => hρ _ (assoc_some_mem h))
    fun _ _ _ _ h => by simpa only [quietVal, Bool.not_eq_true'] using h).eval fuel e
    ((noPrintD_all _ e).1 h) log log ⟨rfl, hl⟩
  ⟨r.2.1.2, r.2.2⟩

theorem noPrintD_of_noPrint (funs : List FunDecl) :
    ∀ e : Expr, noPrint funs e = true → noPrintD funs e = true := fun e h =>
  (noPrintD_all funs e).2 (All.mono (fun _ h => h) (fun _ _ h => h) False.elim e (noPrint_all funs e h))
theorem noPrintDL_of_noPrintL (funs : List FunDecl) :
    ∀ es : ExprList, noPrintL funs es = true → noPrintDL funs es = true := fun es h =>
  have a := noPrintL_all funs es h
  (noPrintDL_all funs es).2 (AllL.mono₂ (fun _ h _ => h) (fun _ _ h _ => h) (fun h _ => h.elim) es a a)
theorem noPrintDP_of_noPrintP (funs : List FunDecl) :
    ∀ ps : PairList, noPrintP funs ps = true → noPrintDP funs ps = true := fun ps h =>
  have a := noPrintP_all funs ps h
  (noPrintDP_all funs ps).2 (AllP.mono₂ (fun _ h _ => h) (fun _ _ h _ => h) (fun h _ => h.elim) ps a a)
theorem noPrintDF_of_noPrintF (funs : List FunDecl) :
    ∀ fs : FieldEList, noPrintF funs fs = true → noPrintDF funs fs = true := fun fs h =>
  have a := noPrintF_all funs fs h
  (noPrintDF_all funs fs).2 (AllF.mono₂ (fun _ h _ => h) (fun _ _ h _ => h) (fun h _ => h.elim) fs a a)

end Yae.EngineEval
