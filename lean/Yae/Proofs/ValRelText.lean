/-
  C18, "same text ⇒ `==`" (`text_unique`): for good values of `tyEq` types that are separated (`Sep`), equal
  renderings followed by a stop character (or nothing) give `==` and equal rests.  By induction on `x`: the
  types tell which fields / which kind of key to expect, the stop characters where a number ends, quoted
  strings are self-delimiting.  From it, with `timeText` for the hypothesis `TimeText`: `==` is "same type and same
  text", membership in a set of texts, identity of map keys.  The `localTyped_*` lemmas at the end unfold
  `Val.LocalTyped` for the examples of `Props/C18`.
-/
import Yae.Proofs.ValRelTextBase
import Yae.Proofs.ValRelTextTime
import Yae.Proofs.ValRelSet
import Yae.Proofs.ValRelInt
namespace Yae

def Val.LocalNums (N : Float → Prop) : Val → Prop
  | .num a => N a
  | _ => True
def Val.NumsSat (N : Float → Prop) (v : Val) : Prop := v.All (Val.LocalNums N)

def NumTextInj (a : Float) : Prop :=
  ∀ b : Float, (numEQ a b = true ↔ a.toBits = b.toBits) → Num.renderNum a = Num.renderNum b →
    numEQ a b = true

/-- `N`: what is known of the numbers inside `x` -/
def TextUnique (N : Float → Prop) (x : Val) : Prop :=
  ∀ y : Val, x.Good → x.NumsSat N → y.Good → tyEq x.typeOf y.typeOf = true → Sep x y →
    ∀ s s' : List Char, Term stopV s → Term stopV s' → R x ++ s = R y ++ s' →
      valEq x y = true ∧ s = s'

theorem numTextInj_of_floatFacts (F : FloatFacts) (a : Float) : NumTextInj a := by
  intro b hiff h
  have := (prim_valEq_iff_render F (x := .num a) trivial (Sep.num hiff)).2
    (by simpa [Val.render] using h)
  simpa [valEq_num] using this

theorem textUnique_num {N : Float → Prop} (hN : ∀ a, N a → NumTextInj a) (a : Float) :
    TextUnique N (.num a) := by
  intro y _ hn _ _ hs s s' ht ht' h
  cases hs with
  | @num _ b hiff =>
    rw [R_num, R_num] at h
    obtain ⟨h1, h2⟩ := prefix_unique stopV _ _ _ _
      (fun c hc => (numChar_not_stop (renderNum_numChar a c hc)).1)
      (fun c hc => (numChar_not_stop (renderNum_numChar b c hc)).1) ht ht' h
    refine ⟨?_, h2⟩
    have hna : N a := Val.All.self hn
    rw [valEq_num]
    exact hN a hna b hiff (String.toList_inj.1 h1)

theorem textUnique_str {N : Float → Prop} (a : String) : TextUnique N (.str a) := by
  intro y _ _ _ _ hs s s' _ _ h
  cases hs with
  | str _ b =>
    rw [R_str, R_str] at h
    obtain ⟨h1, h2⟩ := quote_prefix_unique a b s s' h
    exact ⟨by simp [valEq_str, h1], h2⟩

theorem textUnique_bool {N : Float → Prop} (a : Bool) : TextUnique N (.bool a) := by
  intro y _ _ _ _ hs s s' ht ht' h
  cases hs with
  | bool _ b =>
    rw [R_bool, R_bool] at h
    obtain ⟨h1, h2⟩ := prefix_unique stopV _ _ _ _ (fun c hc => (boolText_chars a c hc).1)
      (fun c hc => (boolText_chars b c hc).1) ht ht' h
    have : a = b := (boolText_inj a b).1 (String.toList_inj.1 h1)
    exact ⟨by simp [valEq_bool, this], h2⟩

theorem textUnique_time {N : Float → Prop} (TT : TimeText) (a : TimeV) :
    TextUnique N (.time a) := by
  intro y hx _ hy _ hs s s' ht ht' h
  cases hs with
  | @time _ b _ =>
    have hoa : a.TextOK := (Val.All.self hx).2.2
    have hob : b.TextOK := (Val.All.self hy).2.2
    rw [R_time, R_time] at h
    obtain ⟨h1, h2⟩ := prefix_unique stopV _ _ _ _ (TT.chars a hoa) (TT.chars b hob) ht ht' h
    refine ⟨?_, h2⟩
    rw [valEq_time]
    exact TT.inj a b hoa hob (String.toList_inj.1 h1)

theorem textUnique_nothing {N : Float → Prop} (el : Ty) : TextUnique N (.nothing el) := by
  intro y _ _ _ hty hs s s' _ _ h
  cases hs with
  | @nothing _ eb hr =>
    have hty' : tyEq el eb = true := by simpa [Val.typeOf, tyEq] using hty
    rw [R_nothing, R_nothing, hr hty'] at h
    simp only [List.append_assoc] at h
    have h2 := List.append_cancel_left (List.append_cancel_left (List.append_cancel_left h))
    exact ⟨by rw [valEq_nothing, hty'], h2⟩

theorem textUnique_just {N : Float → Prop} (el : Ty) (v : Val) (ih : TextUnique N v) :
    TextUnique N (.just el v) := by
  intro y hx hn hy hty hs s s' ht ht' h
  cases hs with
  | @just _ eb _ w hr hs' =>
    have hty' : tyEq el eb = true := by simpa [Val.typeOf, tyEq] using hty
    have hx' := Val.all_just.1 hx
    have hy' := Val.all_just.1 hy
    rw [R_just, R_just, hr hty'] at h
    simp only [List.append_assoc, List.cons_append, List.nil_append] at h
    have h2 := List.append_cancel_left (List.append_cancel_left h)
    simp only [List.cons.injEq, true_and] at h2
    have htv : tyEq v.typeOf el = true := hx'.1.2.1
    have htw : tyEq w.typeOf eb = true := hy'.1.2.1
    have htvw := tyEq_via (Val.Good.wf hx'.2).typeOf_wf (Val.Good.wf hy'.2).typeOf_wf htv hty' htw
    obtain ⟨he, hs2⟩ := ih w hx'.2 (Val.all_just.1 hn).2 hy'.2 htvw hs' _ _ (Term.cons (by decide) s)
      (Term.cons (by decide) s') h2
    refine ⟨?_, by simpa using hs2⟩
    rw [valEq_just, hty', he]; rfl

theorem R_head_ne (TT : TimeText) {v : Val} (hg : v.Good) (t : List Char) :
    (R v ++ t).head? ≠ some ']' := by
  intro hh
  obtain ⟨c, hc, hcs⟩ := R_head TT (Val.All.self hg).1 (Val.All.self hg).2.2 t
  rw [hc] at hh; cases hh; exact absurd hcs (by decide)

theorem entryText_head_ne {e : Kind × String × Val} (hk : KeyGenuine e.1 e.2.1) (u : List Char) :
    (entryText e ++ u).head? ≠ some ']' := by
  intro hh
  obtain ⟨c, hc, _, hc2⟩ := key_head hk (':' :: ' ' :: (R e.2.2 ++ u))
  simp only [entryText, List.append_assoc, List.cons_append] at hh
  rw [hc] at hh; cases hh; exact hc2 rfl

theorem textUnique_list {N : Float → Prop} (TT : TimeText) (tx : Ty) (xs : ValList)
    (ih : ∀ v ∈ xs.toList, TextUnique N v) : TextUnique N (.list tx xs) := by
  intro y hx hn hy hty hs s s' ht ht' h
  cases hs with
  | @list _ ty _ ys hs' =>
    have hx' := Val.all_list.1 hx
    have hy' := Val.all_list.1 hy
    obtain ⟨⟨_, ex, rfl⟩, htyx, _⟩ := hx'.1
    obtain ⟨⟨_, ey, rfl⟩, htyy, _⟩ := hy'.1
    have hee : tyEq ex ey = true := by simpa [Val.typeOf, tyEq] using hty
    rw [R_list, R_list] at h
    obtain ⟨hl, hr, hs2⟩ := seq_unique R R (fun v w => valEq v w = true) '[' ']' (by decide)
      (by decide) xs.toList ys.toList s s'
      (Or.inr ⟨fun v hv => R_head_ne TT (hx'.2 v hv), fun v hv => R_head_ne TT (hy'.2 v hv)⟩)
      (fun i v w hv hw t t' htt htt' he => by
        have hvm : v ∈ xs.toList := List.mem_of_getElem? hv
        have hwm : w ∈ ys.toList := List.mem_of_getElem? hw
        have htvw := tyEq_via (Val.Good.wf (hx'.2 v hvm)).typeOf_wf
          (Val.Good.wf (hy'.2 w hwm)).typeOf_wf (htyx ex rfl v hvm) hee
          (htyy ey rfl w hwm)
        exact ih v hvm w (hx'.2 v hvm) ((Val.all_list.1 hn).2 v hvm) (hy'.2 w hwm) htvw
          (hs' i v w hv hw) t t' htt htt' he) h
    refine ⟨?_, hs2⟩
    rw [valEq_list]
    simp only [Bool.and_eq_true, beq_iff_eq]
    refine ⟨hty, ?_, (valEqList_iff xs ys).2 ⟨hl, hr⟩⟩
    rw [← ValList.length_toList, ← ValList.length_toList]; exact hl

/-- an empty map renders as `[:]`; the text of a non-empty one continues after `[` with a key -/
theorem R_map_nil_ne_cons {ty ty' : Ty} {t : Kind} {k : String} {v : Val} {es : EntryList}
    (hk : ∀ e ∈ (EntryList.cons t k v es).toList, KeyGenuine e.1 e.2.1) (s s' : List Char) :
    R (.map ty .nil) ++ s ≠ R (.map ty' (.cons t k v es)) ++ s' := by
  intro h
  rw [R_map_nil, R_map_cons] at h
  cases hq : sortE (.cons t k v es) with
  | nil =>
    have := length_sortE (.cons t k v es)
    rw [hq] at this; simp [EntryList.length] at this
  | cons e es' =>
    rw [hq] at h
    simp only [List.cons_append, List.nil_append, List.map_cons, seqT, entryText,
      List.append_assoc, List.cons.injEq, true_and] at h
    have hem : e ∈ (EntryList.cons t k v es).toList := mem_sortE.1 (by rw [hq]; simp)
    obtain ⟨c, hc, hc1, _⟩ := key_head (hk e hem)
      (':' :: ' ' :: (R e.2.2 ++ tailT ']' (es'.map entryText) s'))
    rw [← h] at hc
    cases hc; exact hc1 rfl

theorem Matches.of_indexwise {α κ : Type} {k : α → κ} {P : α → α → Prop} {l₁ l₂ I J : List α}
    (hI : ∀ a ∈ l₁, a ∈ I) (hJ : ∀ b ∈ J, b ∈ l₂) (hl : I.length = J.length)
    (h : ∀ (i : Nat) a b, I[i]? = some a → J[i]? = some b → k b = k a ∧ P a b) :
    Matches k P l₁ l₂ := fun a ha =>
  let ⟨b, hb, hkp⟩ := exists_of_indexwise hl h a (hI a ha)
  ⟨b, hJ b hb, hkp⟩

theorem textUnique_map {N : Float → Prop} (tx : Ty) (xs : EntryList)
    (ih : ∀ e ∈ xs.toList, TextUnique N e.2.2) : TextUnique N (.map tx xs) := by
  intro y hx hn hy hty hs s s' ht ht' h
  cases hs with
  | @map _ ty _ ys hs' =>
    have hx' := Val.all_map.1 hx
    have hy' := Val.all_map.1 hy
    obtain ⟨⟨_, hndx, kx, vx, rfl, htagx⟩, htyx, hkx⟩ := hx'.1
    obtain ⟨⟨_, hndy, ky, vy, rfl, htagy⟩, htyy, hky⟩ := hy'.1
    have hkv : tyEq kx ky = true ∧ tyEq vx vy = true := by
      simpa [Val.typeOf, tyEq] using hty
    have hkind : kx.kind = ky.kind := tyEq_kind hkv.1
    -- entries at the same position of the sorted lists: same key, `==` values
    have H : ∀ (i : Nat) e e', (sortE xs)[i]? = some e → (sortE ys)[i]? = some e' →
        ∀ t t', Term stopV t → Term stopV t' → entryText e ++ t = entryText e' ++ t' →
        (entryKey e' = entryKey e ∧ valEq e.2.2 e'.2.2 = true) ∧ t = t' := by
      intro i e e' he he' t t' htt htt' hh
      have hem : e ∈ xs.toList := mem_sortE.1 (List.mem_of_getElem? he)
      have hem' : e' ∈ ys.toList := mem_sortE.1 (List.mem_of_getElem? he')
      have htag : e'.1 = e.1 := by rw [htagx e hem, htagy e' hem', hkind]
      simp only [entryText, List.append_assoc, List.cons_append] at hh
      obtain ⟨hk, hrest⟩ := key_prefix_unique (hkx e hem) (htag ▸ hky e' hem') _ _ hh
      simp only [List.cons.injEq, true_and] at hrest
      have hkey : entryKey e' = entryKey e := Prod.ext htag hk.symm
      have htvw := tyEq_via (Val.Good.wf (hx'.2 e hem)).typeOf_wf
        (Val.Good.wf (hy'.2 e' hem')).typeOf_wf (htyx kx vx rfl e hem) hkv.2
        (htyy ky vy rfl e' hem')
      obtain ⟨hv, ht2⟩ := ih e hem e'.2.2 (hx'.2 e hem) ((Val.all_map.1 hn).2 e hem)
        (hy'.2 e' hem') htvw
        (hs' _ _ _ _ (EntryList.find?_of_mem_key hndx hem rfl)
          (EntryList.find?_of_mem_key hndy hem' hkey)) t t' htt htt' hrest
      exact ⟨⟨hkey, hv⟩, ht2⟩
    cases xs with
    | nil =>
      cases ys with
      | nil =>
        rw [R_map_nil, R_map_nil] at h
        refine ⟨?_, List.append_cancel_left h⟩
        rw [valEq_map]
        simp only [EntryList.length, valEqEntries, beq_self_eq_true, Bool.and_true]
        exact hty
      | cons t k v ys => exact absurd h (R_map_nil_ne_cons hky s s')
    | cons t k v xs =>
      cases ys with
      | nil => exact absurd h.symm (R_map_nil_ne_cons hkx s' s)
      | cons t' k' v' ys =>
        rw [R_map_cons, R_map_cons] at h
        obtain ⟨hl, hr, hs2⟩ := seq_unique entryText entryText
          (fun e e' => entryKey e' = entryKey e ∧ valEq e.2.2 e'.2.2 = true) '[' ']' (by decide)
          (by decide) _ _ s s'
          (Or.inr ⟨fun e he => entryText_head_ne (hkx e (mem_sortE.1 he)),
            fun e he => entryText_head_ne (hky e (mem_sortE.1 he))⟩)
          H h
        refine ⟨?_, hs2⟩
        rw [valEq_map]
        simp only [Bool.and_eq_true, beq_iff_eq]
        exact ⟨hty, by rw [← length_sortE, ← length_sortE]; exact hl,
          (valEqEntries_iff_matches hndy).2
            (Matches.of_indexwise (fun _ => mem_sortE.2) (fun _ => mem_sortE.1) hl hr)⟩

theorem textUnique_obj {N : Float → Prop} (tx : Ty) (xs : ValList)
    (ih : ∀ v ∈ xs.toList, TextUnique N v) : TextUnique N (.obj tx xs) := by
  intro y hx hnum hy hty hs s s' ht ht' h
  cases hs with
  | @obj _ ty _ ys hs' =>
    have hx' := Val.all_obj.1 hx
    have hy' := Val.all_obj.1 hy
    obtain ⟨⟨hwx, fs, rfl, hlx⟩, htyx, _⟩ := hx'.1
    obtain ⟨⟨hwy, gs, rfl, hly⟩, htyy, _⟩ := hy'.1
    have hfg : fs.length = gs.length ∧ tyEqFields fs gs = true := by
      simpa [Val.typeOf, tyEq] using hty
    have hndx := wf_obj_nodup hwx
    have hndy := wf_obj_nodup hwy
    have hperm : fs.names.Perm gs.names :=
      perm_of_subset_nodup hndx hndy (tyEqFields_mem fs gs hfg.2)
        (by rw [FieldList.length_names, FieldList.length_names, hfg.1]; exact Nat.le_refl _)
    have hnames : (sortP fs xs).map Prod.fst = (sortP gs ys).map Prod.fst := by
      rw [sortP_names fs xs hlx, sortP_names gs ys hly]
      exact sortBy_eq_of_perm id hperm (by simpa using hndx)
    have hlen : (sortP fs xs).length = (sortP gs ys).length := by
      have := congrArg List.length hnames
      simpa using this
    rw [R_obj, R_obj] at h
    obtain ⟨hl, hr, hs2⟩ := seq_unique pairText pairText
      (fun p q => q.1 = p.1 ∧ valEq p.2 q.2 = true) '{' '}' (by decide) (by decide)
      _ _ s s' (Or.inl hlen)
      (fun i p q hp hq t t' htt htt' hh => by
        have hn : q.1 = p.1 := by
          have hi := congrArg (·[i]?) hnames
          simp only [List.getElem?_map, hp, hq, Option.map_some, Option.some.injEq] at hi
          exact hi.symm
        have hpm : p ∈ objPairs fs xs := mem_sortP.1 (List.mem_of_getElem? hp)
        have hqm : q ∈ objPairs gs ys := mem_sortP.1 (List.mem_of_getElem? hq)
        have hvm : p.2 ∈ xs.toList := (List.of_mem_zip hpm).2
        have hwm : q.2 ∈ ys.toList := (List.of_mem_zip hqm).2
        simp only [pairText, List.append_assoc, List.cons_append, hn] at hh
        have hrest := List.append_cancel_left hh
        simp only [List.cons.injEq, true_and] at hrest
        obtain ⟨tp, hfp, htp⟩ := objPairs_field_ty fs xs hndx (htyx fs rfl) p.1 p.2 hpm
        obtain ⟨tq, hfq, htq⟩ := objPairs_field_ty gs ys hndy (htyy gs rfl) q.1 q.2 hqm
        obtain ⟨u, hfu, htu⟩ := tyEqFields_find fs gs p.1 tp hfg.2 hfp
        rw [← hn, hfq] at hfu; cases hfu
        have htvw := tyEq_via (Val.Good.wf (hx'.2 _ hvm)).typeOf_wf
          (Val.Good.wf (hy'.2 _ hwm)).typeOf_wf htp htu htq
        obtain ⟨hv, ht2⟩ := ih p.2 hvm q.2 (hx'.2 _ hvm) ((Val.all_obj.1 hnum).2 _ hvm)
          (hy'.2 _ hwm) htvw
          (hs' _ _ _ (mem_objGet?_of_nodup fs xs p.1 p.2 hndx hpm)
            (hn ▸ mem_objGet?_of_nodup gs ys q.1 q.2 hndy hqm)) t t' htt htt' hrest
        exact ⟨⟨hn, hv⟩, ht2⟩) h
    refine ⟨?_, hs2⟩
    rw [valEq_obj]
    simp only [Bool.and_eq_true, beq_iff_eq]
    exact ⟨hty, by rw [← hlx, ← hly]; exact hfg.1,
      (valEqFields_iff_matches hndy).2
        (Matches.of_indexwise (fun _ => mem_sortP.2) (fun _ => mem_sortP.1) hl hr)⟩

theorem text_unique {N : Float → Prop} (hN : ∀ a, N a → NumTextInj a) (TT : TimeText) :
    ∀ x : Val, TextUnique N x := by
  apply Val.induct_mem
  case num => exact textUnique_num hN
  case str => exact textUnique_str
  case bool => exact textUnique_bool
  case time => exact textUnique_time TT
  case list => exact textUnique_list TT
  case map => exact textUnique_map
  case obj => exact textUnique_obj
  case fn => intro ty r l y hx; exact absurd (Val.All.self hx).2.2 (by simp [Val.LocalTextOK])
  case just => exact textUnique_just
  case nothing => exact textUnique_nothing
  case nil => intro y hx; exact absurd (Val.All.self hx).1 (by simp [Val.LocalWF])

theorem numsSat_true (v : Val) : v.NumsSat (fun _ => True) := by
  apply Val.induct_mem (P := fun v => v.NumsSat (fun _ => True))
  case list => intro ty vs ih; exact Val.all_list.2 ⟨trivial, ih⟩
  case obj => intro ty vs ih; exact Val.all_obj.2 ⟨trivial, ih⟩
  case map => intro ty es ih; exact Val.all_map.2 ⟨trivial, ih⟩
  case just => intro el v ih; exact Val.all_just.2 ⟨trivial, ih⟩
  all_goals (intros; simp [Val.NumsSat, Val.All, Val.LocalNums])

theorem render_imp_valEq (F : FloatFacts) (TT : TimeText) {x y : Val} (hx : x.Good) (hy : y.Good)
    (hty : tyEq x.typeOf y.typeOf = true) (hs : Sep x y) (h : x.render = y.render) :
    valEq x y = true :=
  (text_unique (N := fun _ => True) (fun a _ => numTextInj_of_floatFacts F a) TT x y hx
    (numsSat_true x) hy hty hs [] [] (Term.nil _) (Term.nil _) (by simp [R, h])).1

def Val.NoNum (v : Val) : Prop := v.NumsSat (fun _ => False)

/-- without any assumption on `Float`, for values without numbers -/
theorem render_imp_valEq_noNum (TT : TimeText) {x y : Val} (hx : x.Good) (hn : x.NoNum)
    (hy : y.Good) (hty : tyEq x.typeOf y.typeOf = true) (hs : Sep x y)
    (h : x.render = y.render) : valEq x y = true :=
  (text_unique (N := fun _ => False) (fun _ h => h.elim) TT x y hx hn hy hty hs [] []
    (Term.nil _) (Term.nil _) (by simp [R, h])).1

theorem valEq_iff_render (F : FloatFacts) {x y : Val} (hx : x.Good) (hy : y.Good) (hs : Sep x y) :
    valEq x y = true ↔ (tyEq x.typeOf y.typeOf = true ∧ x.render = y.render) :=
  ⟨fun h => ⟨valEq_imp_tyEq h, valEq_imp_render' x y hx.wf hy.wf hs h⟩,
   fun h => render_imp_valEq F timeText hx hy h.1 hs h.2⟩

theorem valEq_iff_render_noNum {x y : Val} (hx : x.Good) (hn : x.NoNum) (hy : y.Good)
    (hs : Sep x y) :
    valEq x y = true ↔ (tyEq x.typeOf y.typeOf = true ∧ x.render = y.render) :=
  ⟨fun h => ⟨valEq_imp_tyEq h, valEq_imp_render' x y hx.wf hy.wf hs h⟩,
   fun h => render_imp_valEq_noNum timeText hx hn hy h.1 hs h.2⟩

def Comparable (x : Val) (l : List Val) : Prop :=
  ∀ v ∈ l, v.Good ∧ tyEq x.typeOf v.typeOf = true ∧ Sep x v

theorem render_mem_iff (F : FloatFacts) {x : Val} {l : List Val} (hx : x.Good)
    (hl : Comparable x l) : x.render ∈ renders l ↔ ∃ v ∈ l, valEq x v = true := by
  simp only [renders, List.mem_map]
  constructor
  · rintro ⟨v, hv, he⟩
    obtain ⟨hg, ht, hs⟩ := hl v hv
    exact ⟨v, hv, render_imp_valEq F timeText hx hg ht hs he.symm⟩
  · rintro ⟨v, hv, he⟩
    obtain ⟨hg, _, hs⟩ := hl v hv
    exact ⟨v, hv, (valEq_imp_render' x v hx.wf hg.wf hs he).symm⟩

theorem setHas_valSetOf_iff (F : FloatFacts) {x : Val} {ys : ValList} (hx : x.Good)
    (hl : Comparable x ys.toList) :
    setHas (valSetOf ys) x.render = true ↔ ∃ v ∈ ys.toList, valEq x v = true := by
  rw [setHas_valSetOf, decide_eq_true_eq]
  exact render_mem_iff F hx hl

theorem valSetOf_pair_merged_iff (F : FloatFacts) {x y : Val} (hx : x.Good) (hy : y.Good)
    (hty : tyEq x.typeOf y.typeOf = true) (hs : Sep x y) :
    (valSetOf (.cons x (.cons y .nil))).length = 1 ↔ valEq x y = true := by
  rw [valEq_iff_render F hx hy hs, and_iff_right hty]
  simp only [valSetOf, List.filter_nil, List.filter_cons, List.length_cons]
  by_cases h : y.render = x.render
  · simp [h]
  · have h' : ¬ x.render = y.render := fun e => h e.symm
    simp [h, h']

theorem key_eq_iff_valEq (F : FloatFacts) {x y : Val} (hk : x.key?.isSome = true)
    (hox : x.TextOK) (hoy : y.TextOK) (hs : Sep x y) :
    x.key? = y.key? ↔ valEq x y = true := by
  cases hs <;> try (simp [Val.key?] at hk; done)
  case num a b hiff => exact (prim_valEq_iff_key F (x := .num a) trivial (Sep.num hiff)).symm
  case str a b => exact (prim_valEq_iff_key F (x := .str a) trivial (Sep.str a b)).symm
  case bool a b => exact (prim_valEq_iff_key F (x := .bool a) trivial (Sep.bool a b)).symm
  case time a b hz =>
    have hoa : a.TextOK := Val.All.self hox
    have hob : b.TextOK := Val.All.self hoy
    constructor
    · intro h
      simp only [Val.key?, Option.some.injEq, Prod.mk.injEq, true_and] at h
      rw [valEq_time]
      exact timeText.inj a b hoa hob (Num.quote_injective h)
    · intro h
      exact time_valEq_imp_key (Sep.time hz) h

theorem select_same_entry_iff (F : FloatFacts) {x y : Val} {t t' : Kind} {k k' : String}
    (hkx : x.key? = some (t, k)) (hky : y.key? = some (t', k')) (hox : x.TextOK)
    (hoy : y.TextOK) (hs : Sep x y) :
    (∀ es : EntryList, es.find? t k = es.find? t' k') ↔ valEq x y = true := by
  rw [← key_eq_iff_valEq F (by rw [hkx]; rfl) hox hoy hs, hkx, hky]
  constructor
  · intro h
    have := h (.cons t k .nil .nil)
    simp only [EntryList.find?, and_self, if_true] at this
    split at this
    · next hc => rw [hc.1, hc.2]
    · exact absurd this (by simp)
  · intro h es
    cases h; rfl

theorem localTyped_list (el : Ty) (vs : ValList) :
    (Val.list (.list el) vs).LocalTyped ↔ ∀ v ∈ vs.toList, tyEq v.typeOf el = true :=
  ⟨fun h => h el rfl, fun h el' he => by cases he; exact h⟩

theorem localTyped_obj_nil (vs : ValList) : (Val.obj (.obj .nil) vs).LocalTyped := by
  intro fs h; cases h
  intro i n t v hg; simp [FieldList.get?] at hg

theorem localTyped_obj_nil_vals (fs : FieldList) : (Val.obj (.obj fs) .nil).LocalTyped := by
  intro fs' h; cases h
  intro i n t v _ hv; simp [ValList.toList] at hv

theorem localTyped_obj_cons (n : String) (t : Ty) (fs : FieldList) (v : Val) (vs : ValList) :
    (Val.obj (.obj (.cons n t fs)) (.cons v vs)).LocalTyped ↔
      (tyEq v.typeOf t = true ∧ (Val.obj (.obj fs) vs).LocalTyped) := by
  constructor
  · intro h
    refine ⟨h _ rfl 0 n t v (by simp [FieldList.get?]) (by simp [ValList.toList]), ?_⟩
    intro fs' hf; cases hf
    intro i n' t' v' hg hv
    exact h _ rfl (i+1) n' t' v' (by simpa [FieldList.get?] using hg)
      (by simpa [ValList.toList] using hv)
  · rintro ⟨h0, h1⟩ fs' hf; cases hf
    intro i n' t' v' hg hv
    cases i with
    | zero =>
      simp [FieldList.get?] at hg; simp [ValList.toList] at hv
      rw [← hv, ← hg.2]; exact h0
    | succ i =>
      exact h1 _ rfl i n' t' v' (by simpa [FieldList.get?] using hg)
        (by simpa [ValList.toList] using hv)

end Yae
