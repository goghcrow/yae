/- C15, `conv.typeOf` / `conv.valOf` (`Yae/Model/Conv.lean`): what a success of `typeOf` looks like, one lemma per shape
   of the Go type; reported types are well formed and independent of the level; the successful runs of `valOfU`
   and its helpers as one relation (`Conv`), the definition inverted once; converted values are deeply well formed. -/
import Yae.Model.Conv
import Yae.Proofs.ExceptLemmas
import Yae.Proofs.SoundnessBasic
namespace Yae.ConvVal
open Yae Yae.Sound

/-- `wfFields` without the distinctness of the names, which `typeOf` and `valOfU` check separately -/
def allWf : FieldList → Bool
  | .nil => true
  | .cons _ t fs => t.wf && allWf fs

theorem wfFields_of : ∀ fs : FieldList, fieldNamesDistinct fs = true → allWf fs = true →
    wfFields fs = true
  | .nil, _, _ => rfl
  | .cons n t fs, h1, h2 => by
    simp only [fieldNamesDistinct, Bool.and_eq_true] at h1
    simp only [allWf, Bool.and_eq_true] at h2
    simp only [wfFields, Bool.and_eq_true]
    exact ⟨⟨h1.1, h2.1⟩, wfFields_of fs h1.2 h2.2⟩

theorem typeOf_depth (t : GoType) (lv : Nat) (h : lv > maxLevel) : typeOf t lv = .error .depth := by
  cases t <;> exact if_pos h

theorem typeOf_le {t : GoType} {lv : Nat} {T : Ty} (h : typeOf t lv = .ok T) : lv ≤ maxLevel := by
  rcases Nat.lt_or_ge maxLevel lv with hl | hl
  · rw [typeOf_depth t lv hl] at h; cases h
  · exact hl

def scalarTy : GoType → Option Ty
  | .bool => some .bool
  | .string => some .str
  | .time => some .time
  | .int _ | .uint _ | .float32 | .float64 => some .num
  | _ => none

theorem typeOf_array (n : Nat) (el : GoType) (lv : Nat) :
    typeOf (.array n el) lv = typeOf (.slice el) lv :=
  rfl

section
variable {α : Type} {t el k e : GoType} {fs : GoFieldList} {lv : Nat} {T S : Ty} {F : FieldList}

/-- every case of `typeOf` is `if lv > maxLevel then .error .depth else body` -/
theorem depth_ok {x : Except ConvErr α} {v : α}
    (h : (if lv > maxLevel then .error .depth else x) = .ok v) : x = .ok v := by
  split at h
  · cases h
  · exact h

theorem typeOf_ptr (h : typeOf (.ptr t) lv = .ok T) : typeOf t lv = .ok T :=
  depth_ok h

theorem typeOf_scalar (hs : scalarTy t = some S) (h : typeOf t lv = .ok T) : T = S := by
  cases t <;> cases hs <;> exact (Except.ok.inj (depth_ok h)).symm

theorem typeOf_slice_inv (h : typeOf (.slice el) lv = .ok T) :
    ∃ e, typeOf el (lv+1) = .ok e ∧ T = .list e := by
  have h : (typeOf el (lv+1) >>= fun e => pure (.list e)) = .ok T := depth_ok h
  obtain ⟨e, he, hT⟩ := Except.bind_eq_ok.1 h
  exact ⟨e, he, (Except.pure_eq_ok.1 hT).symm⟩

theorem typeOf_map_inv (h : typeOf (.map k e) lv = .ok T) :
    ∃ k' e', typeOf k (lv+1) = .ok k' ∧ typeOf e (lv+1) = .ok e' ∧ k'.keyable = true ∧
      T = .map k' e' := by
  have h : (typeOf k (lv+1) >>= fun k' => typeOf e (lv+1) >>= fun v' =>
      if k'.keyable then pure (.map k' v') else throw .mapKey) = .ok T := depth_ok h
  obtain ⟨k', hk, h⟩ := Except.bind_eq_ok.1 h
  obtain ⟨v', hv, h⟩ := Except.bind_eq_ok.1 h
  split at h
  · next hkey => exact ⟨k', v', hk, hv, hkey, (Except.pure_eq_ok.1 h).symm⟩
  · exact absurd h Except.throw_ne_ok

theorem typeOf_struct_inv (h : typeOf (.struct fs) lv = .ok T) :
    ∃ F, typeOfFields fs (lv+1) = .ok F ∧ fieldNamesDistinct F = true ∧ T = .obj F := by
  have h : (typeOfFields fs (lv+1) >>= fun F =>
      if fieldNamesDistinct F then pure (.obj F) else throw .dupField) = .ok T := depth_ok h
  obtain ⟨F, hF, h⟩ := Except.bind_eq_ok.1 h
  split at h
  · next hd => exact ⟨F, hF, hd, (Except.pure_eq_ok.1 h).symm⟩
  · exact absurd h Except.throw_ne_ok

theorem typeOfFields_nil_inv (h : typeOfFields .nil lv = .ok F) : F = .nil :=
  (Except.pure_eq_ok.1 h).symm

theorem typeOfFields_cons_inv {name tag : String} {ex : Bool}
    (h : typeOfFields (.cons name tag t ex fs) lv = .ok F) :
    ∃ ft rest', typeOf t lv = .ok ft ∧ typeOfFields fs lv = .ok rest' ∧
      F = .cons (parseTag name tag).1 (if (parseTag name tag).2 then .maybe ft else ft) rest' := by
  have h : (typeOf t lv >>= fun ft => typeOfFields fs lv >>= fun rest' =>
      pure (.cons (parseTag name tag).1 (if (parseTag name tag).2 then Ty.maybe ft else ft) rest'))
      = .ok F := h
  obtain ⟨ft, hft, h⟩ := Except.bind_eq_ok.1 h
  obtain ⟨rest', hr, h⟩ := Except.bind_eq_ok.1 h
  exact ⟨ft, rest', hft, hr, (Except.pure_eq_ok.1 h).symm⟩

end

mutual
theorem typeOf_wf : ∀ (t : GoType) (lv : Nat) (T : Ty), typeOf t lv = .ok T → T.wf = true
  | .bool | .int _ | .uint _ | .float32 | .float64 | .string | .time => by
    intro lv T h; cases typeOf_scalar rfl h; rfl
  | .iface | .unsupported _ => by
    intro lv T h; cases depth_ok h
  | .ptr t => fun lv T h => typeOf_wf t lv T (typeOf_ptr h)
  | .slice el | .array _ el => by
    intro lv T h
    obtain ⟨e, he, rfl⟩ := typeOf_slice_inv (el := el) h
    exact typeOf_wf el (lv+1) e he
  | .map k v => by
    intro lv T h
    obtain ⟨k', v', hk, hv, hkey, rfl⟩ := typeOf_map_inv h
    simp only [Ty.wf, hkey, typeOf_wf k (lv+1) k' hk, typeOf_wf v (lv+1) v' hv, Bool.and_self]
  | .struct fs => by
    intro lv T h
    obtain ⟨F, hF, hd, rfl⟩ := typeOf_struct_inv h
    exact wfFields_of F hd (typeOfFields_wf fs (lv+1) F hF)
theorem typeOfFields_wf : ∀ (fs : GoFieldList) (lv : Nat) (F : FieldList),
    typeOfFields fs lv = .ok F → allWf F = true
  | .nil, lv, F, h => by cases typeOfFields_nil_inv h; rfl
  | .cons name tag t ex rest, lv, F, h => by
    obtain ⟨ft, rest', hft, hr, rfl⟩ := typeOfFields_cons_inv h
    have hw := typeOf_wf t lv ft hft
    simp only [allWf, Bool.and_eq_true]
    refine ⟨?_, typeOfFields_wf rest lv rest' hr⟩
    split
    · exact hw
    · exact hw
end

mutual
theorem typeOf_level : ∀ (t : GoType) (lv lv' : Nat) (T T' : Ty),
    typeOf t lv = .ok T → typeOf t lv' = .ok T' → T = T'
  | .bool | .int _ | .uint _ | .float32 | .float64 | .string | .time => by
    intro lv lv' T T' h h'
    exact (typeOf_scalar rfl h).trans (typeOf_scalar rfl h').symm
  | .iface | .unsupported _ => by
    intro lv lv' T T' h; cases depth_ok h
  | .ptr t => fun lv lv' T T' h h' => typeOf_level t lv lv' T T' (typeOf_ptr h) (typeOf_ptr h')
  | .slice el | .array _ el => by
    intro lv lv' T T' h h'
    obtain ⟨e, he, rfl⟩ := typeOf_slice_inv (el := el) h
    obtain ⟨e', he', rfl⟩ := typeOf_slice_inv (el := el) h'
    rw [typeOf_level el _ _ e e' he he']
  | .map k v => by
    intro lv lv' T T' h h'
    obtain ⟨k1, v1, hk1, hv1, _, rfl⟩ := typeOf_map_inv h
    obtain ⟨k2, v2, hk2, hv2, _, rfl⟩ := typeOf_map_inv h'
    rw [typeOf_level k _ _ k1 k2 hk1 hk2, typeOf_level v _ _ v1 v2 hv1 hv2]
  | .struct fs => by
    intro lv lv' T T' h h'
    obtain ⟨f1, hf1, _, rfl⟩ := typeOf_struct_inv h
    obtain ⟨f2, hf2, _, rfl⟩ := typeOf_struct_inv h'
    rw [typeOfFields_level fs _ _ f1 f2 hf1 hf2]
theorem typeOfFields_level : ∀ (fs : GoFieldList) (lv lv' : Nat) (F F' : FieldList),
    typeOfFields fs lv = .ok F → typeOfFields fs lv' = .ok F' → F = F'
  | .nil, lv, lv', F, F', h, h' => by
    cases typeOfFields_nil_inv h; cases typeOfFields_nil_inv h'; rfl
  | .cons name tag t ex rest, lv, lv', F, F', h, h' => by
    obtain ⟨ft, r1, hft, hr1, rfl⟩ := typeOfFields_cons_inv h
    obtain ⟨ft', r2, hft', hr2, rfl⟩ := typeOfFields_cons_inv h'
    rw [typeOf_level t _ _ ft ft' hft hft', typeOfFields_level rest _ _ r1 r2 hr1 hr2]
end

theorem valOf_depth (g : GoVal) (lv : Nat) (ro : Bool) (h : lv > maxLevel) :
    valOf g lv ro = .error .depth := by
  simp only [valOf, valOfChecks, h, if_true]

theorem valOf_nil (g : GoVal) (lv : Nat) (ro : Bool) (hl : lv ≤ maxLevel) (hn : g.isNil = true) :
    valOf g lv ro = .error (if lv = 0 then .nilTop else .nilInside) := by
  have : ¬ lv > maxLevel := by omega
  simp only [valOf, valOfChecks, this, if_false, hn, if_true]

/-- nil containers are converted like empty ones, arrays like slices: by computation (the rules `emptySeq`, `seq`,
`emptyMap` of `Conv` below treat them alike through `seqOf` / `mapOf`) -/
theorem valOfU_sliceNil (el : GoType) (lv : Nat) (ro : Bool) :
    valOfU (.sliceNil el) lv ro = valOfU (.slice el .nil) lv ro :=
  rfl

theorem valOfU_mapNil (k e : GoType) (lv : Nat) (ro : Bool) :
    valOfU (.mapNil k e) lv ro = valOfU (.map k e .nil) lv ro :=
  rfl

theorem valOfU_array (el : GoType) (vs : GoValList) (lv : Nat) (ro : Bool) :
    valOfU (.array el vs) lv ro = valOfU (.slice el vs) lv ro := by
  cases vs <;> rfl

theorem valOfU_slice_cons (el : GoType) (e : GoVal) (es : GoValList) (lv : Nat) (ro : Bool) :
    valOfU (.slice el (.cons e es)) lv ro =
      (valOf e (lv+1) ro >>= fun v0 => valOfRest v0.typeOf es (lv+1) ro >>= fun rest =>
        pure (.list (.list v0.typeOf) (.cons v0 rest))) :=
  rfl

section
variable {g e k0 e0 x : GoVal} {es xs : GoValList} {rest : GoEntryList} {el k t : GoType}
  {frest : GoFieldList} {name tag : String} {ex : Bool} {lv : Nat} {ro : Bool} {v vl : Val}
  {ftys : FieldList} {vals : ValList}

theorem valOfChecks_ok {k : Unit → Except ConvErr Val}
    (h : valOfChecks g lv k = .ok v) : lv ≤ maxLevel ∧ g.isNil = false ∧ k () = .ok v := by
  unfold valOfChecks at h
  split at h
  · cases h
  · split at h
    · cases h
    · next h1 h2 => exact ⟨by omega, by simpa using h2, h⟩

theorem valOf_eq_valOfU (ro : Bool) (hl : lv ≤ maxLevel) (hn : g.isNil = false) :
    valOf g lv ro = valOfU g lv ro := by
  have : ¬ lv > maxLevel := by omega
  simp only [valOf, valOfChecks, this, if_false, hn, Bool.false_eq_true]

theorem valOf_ok (h : valOf g lv ro = .ok v) : valOfU g lv ro = .ok v :=
  (valOfChecks_ok h).2.2

theorem key?_kind {tag : Kind} {txt : String} (h : v.key? = some (tag, txt)) :
    tag = v.typeOf.kind := by
  cases v <;> simp [Val.key?] at h <;> simp [Val.typeOf, Ty.kind, h.1.symm]

theorem guard_ok {ε α : Type} {b : Bool} {e : ε} {k : Unit → Except ε α} {v : α} :
    (if (!b) = true then (throw e >>= k) else k ()) = .ok v ↔ b = true ∧ k () = .ok v := by
  cases b
  · exact ⟨fun h => (by cases h), fun h => (by cases h.1)⟩
  · exact ⟨fun h => ⟨rfl, h⟩, fun h => h.2⟩

theorem valOfRest_cons (t0 : Ty) (e : GoVal) (es : GoValList) (lv : Nat) (ro : Bool) :
    valOfRest t0 (.cons e es) lv ro =
      (valOf e lv ro >>= fun x =>
        if tyEq t0 x.typeOf then (valOfRest t0 es lv ro >>= fun r => pure (.cons x r))
        else .error .mixed) := by
  show (valOf e lv ro >>= fun x => _) = _
  rcases valOf e lv ro with _ | x
  · rfl
  · show _ = (if tyEq t0 x.typeOf then _ else _)
    cases h : tyEq t0 x.typeOf <;> simp [bind, Except.bind, h] <;> rfl

/-- the `let ev ← …` step of the map case.  For a key with a NaN inside `MapIndex(k)` yields the zero Value, on
which `valOf` fails at its entry checks (depth first, then nil, hence the inner `if`): a success means no NaN. -/
theorem entry_ok {k : GoVal} {α : Type} {f : Val → Except ConvErr α} {r : α}
    (h : (if keyHasNaN k = true then
            (if lv > maxLevel then Except.error ConvErr.depth else Except.error ConvErr.nilInside)
              >>= f
          else valOf e lv ro >>= f) = .ok r) :
    keyHasNaN k = false ∧ ∃ ev, valOf e lv ro = .ok ev ∧ f ev = .ok r := by
  split at h
  · split at h <;> cases h
  · next hn => exact ⟨by simpa using hn, Except.bind_eq_ok.1 h⟩

end

def FieldsOK : FieldList → ValList → Prop
  | .nil, .nil => True
  | .cons _ t fs, .cons v vs => WF v = true ∧ t = v.typeOf ∧ FieldsOK fs vs
  | _, _ => False

theorem FieldsOK.wfObj : ∀ (fs : FieldList) (vs : ValList), FieldsOK fs vs →
    WFObj fs vs = true ∧ allWf fs = true
  | .nil, .nil, _ => ⟨rfl, rfl⟩
  | .cons _ t fs, .cons v vs, h => by
    obtain ⟨h1, h2, h3⟩ := h
    have ih := FieldsOK.wfObj fs vs h3
    have hw := WF_typeOf_wf v h1
    subst h2
    simp only [WFObj, allWf, Bool.and_eq_true]
    exact ⟨⟨⟨h1, tyEq_refl' hw⟩, ih.1⟩, hw, ih.2⟩
  | .nil, .cons _ _, h => by cases h
  | .cons _ _ _, .nil, h => by cases h

/-! ### The successful runs of `valOfU` and its three helpers as one relation

`Conv J`: the call in the judgement `J` returns the value in `J`, one rule per successful path of the four
functions.  The definition is inverted once (`conv_val` …); what is true of every converted value is an
induction on `Conv` with a motive by `match` on the judgement. -/

inductive ConvJudgement where
  | val (g : GoVal) (lv : Nat) (ro : Bool) (v : Val)
  | rest (t0 : Ty) (es : GoValList) (lv : Nat) (ro : Bool) (xs : ValList)
  | entries (kt et : Ty) (es : GoEntryList) (lv : Nat) (ro : Bool) (acc out : EntryList)
  | fields (fs : GoFieldList) (vs : GoValList) (lv : Nat) (ro : Bool) (ftys : FieldList) (vals : ValList)

def seqOf : GoVal → Option (GoType × GoValList)
  | .sliceNil el => some (el, .nil)
  | .slice el vs | .array el vs => some (el, vs)
  | _ => none

def mapOf : GoVal → Option (GoType × GoType × GoEntryList)
  | .mapNil k e => some (k, e, .nil)
  | .map k e es => some (k, e, es)
  | _ => none

/-- An element, key, entry value or field is converted by `valOf` (the premise with the equation: depth and nil
checks) and what it returns is again derivable. -/
inductive Conv : ConvJudgement → Prop
  | ptr {p lv ro v} : Conv (.val p lv ro v) → Conv (.val (.ptr p) lv ro v)
  | iface {p lv ro v} : Conv (.val p lv ro v) → Conv (.val (.iface p) lv ro v)
  | time {t lv} : Conv (.val (.time t) lv false (.time t))
  | bool {b lv ro} : Conv (.val (.bool b) lv ro (.bool b))
  | int {k i lv ro} : Conv (.val (.int k i) lv ro (.num (intToFloat i)))
  | uint {k n lv ro} : Conv (.val (.uint k n) lv ro (.num (natToFloat n)))
  | float {k x lv ro} : Conv (.val (.float k x) lv ro (.num x))
  | string {s lv ro} : Conv (.val (.string s) lv ro (.str s))
  | emptySeq {g el lv ro t} : seqOf g = some (el, .nil) → typeOf (.slice el) lv = .ok t →
      Conv (.val g lv ro (.list t .nil))
  | seq {g el e es lv ro v0 rest} : seqOf g = some (el, .cons e es) → valOf e (lv+1) ro = .ok v0 →
      Conv (.val e (lv+1) ro v0) → Conv (.rest v0.typeOf es (lv+1) ro rest) →
      Conv (.val g lv ro (.list (.list v0.typeOf) (.cons v0 rest)))
  | emptyMap {g k e lv ro t} : mapOf g = some (k, e, .nil) → typeOf (.map k e) lv = .ok t →
      Conv (.val g lv ro (.map t .nil))
  | map {k e k0 e0 rest lv ro kv ev tag txt es'} : valOf k0 (lv+1) ro = .ok kv →
      Conv (.val k0 (lv+1) ro kv) → keyHasNaN k0 = false → valOf e0 (lv+1) ro = .ok ev →
      Conv (.val e0 (lv+1) ro ev) → kv.typeOf.keyable = true → kv.key? = some (tag, txt) →
      Conv (.entries kv.typeOf ev.typeOf rest (lv+1) ro (.cons tag txt ev .nil) es') →
      Conv (.val (.map k e (.cons k0 e0 rest)) lv ro (.map (.map kv.typeOf ev.typeOf) es'))
  | struct {fs vs lv ro ftys vals} : Conv (.fields fs vs lv ro ftys vals) →
      fieldNamesDistinct ftys = true → Conv (.val (.struct fs vs) lv ro (.obj (.obj ftys) vals))
  | rnil {t0 lv ro} : Conv (.rest t0 .nil lv ro .nil)
  | rcons {t0 e es lv ro x r} : valOf e lv ro = .ok x → Conv (.val e lv ro x) →
      tyEq t0 x.typeOf = true → Conv (.rest t0 es lv ro r) → Conv (.rest t0 (.cons e es) lv ro (.cons x r))
  | enil {kt et lv ro acc} : Conv (.entries kt et .nil lv ro acc acc)
  | econs {kt et k e rest lv ro acc out kv ev tag txt} : valOf k lv ro = .ok kv →
      Conv (.val k lv ro kv) → tyEq kt kv.typeOf = true → keyHasNaN k = false →
      valOf e lv ro = .ok ev → Conv (.val e lv ro ev) → tyEq et ev.typeOf = true →
      kv.key? = some (tag, txt) → Conv (.entries kt et rest lv ro (acc.insert tag txt ev) out) →
      Conv (.entries kt et (.cons k e rest) lv ro acc out)
  | fnil {fs vs lv ro} : fs = .nil ∨ vs = .nil → Conv (.fields fs vs lv ro .nil .nil)
  | absent {name tag t ex frest x xs lv ro ft f2 v2} : x.isNil = true → typeOf t 0 = .ok ft →
      Conv (.fields frest xs lv ro f2 v2) →
      Conv (.fields (.cons name tag t ex frest) (.cons x xs) lv ro
        (.cons (parseTag name tag).1 (.maybe ft) f2) (.cons (.nothing ft) v2))
  | present {name tag t ex frest x xs lv ro w vl f2 v2} : x.isNil = false →
      valOf x (lv+1) (ro || !ex) = .ok w → Conv (.val x (lv+1) (ro || !ex) w) →
      vl = (if (parseTag name tag).2 then .just w.typeOf w else w) →
      Conv (.fields frest xs lv ro f2 v2) →
      Conv (.fields (.cons name tag t ex frest) (.cons x xs) lv ro
        (.cons (parseTag name tag).1 vl.typeOf f2) (.cons vl v2))

mutual
theorem conv_val : ∀ (g : GoVal) (lv : Nat) (ro : Bool) (v : Val),
    valOfU g lv ro = .ok v → Conv (.val g lv ro v)
  | .invalid | .ptrNil _ | .ifaceNil | .unsupported _ _ => by
    intro lv ro v h; cases h
  | .ptr p => fun lv ro v h => .ptr (conv_val p lv ro v h)
  | .iface p => fun lv ro v h => .iface (conv_val p lv ro v h)
  | .time t => by
    intro lv ro v h
    cases ro <;> cases h
    exact .time
  | .bool _ => by intro lv ro v h; cases h; exact .bool
  | .int _ _ => by intro lv ro v h; cases h; exact .int
  | .uint _ _ => by intro lv ro v h; cases h; exact .uint
  | .float _ _ => by intro lv ro v h; cases h; exact .float
  | .string _ => by intro lv ro v h; cases h; exact .string
  | .sliceNil el | .slice el .nil | .array el .nil => by
    intro lv ro v h
    obtain ⟨t, ht, h⟩ := Except.bind_eq_ok.1 h
    cases Except.pure_eq_ok.1 h
    exact .emptySeq (el := el) rfl ht
  | .mapNil k e | .map k e .nil => by
    intro lv ro v h
    obtain ⟨t, ht, h⟩ := Except.bind_eq_ok.1 h
    cases Except.pure_eq_ok.1 h
    exact .emptyMap rfl ht
  | .slice el (.cons e es) | .array el (.cons e es) => by
    intro lv ro v h
    obtain ⟨v0, h0, h⟩ := Except.bind_eq_ok.1 h
    obtain ⟨rest, hr, h⟩ := Except.bind_eq_ok.1 h
    cases Except.pure_eq_ok.1 h
    exact .seq (el := el) rfl h0 (conv_val e _ ro v0 (valOf_ok h0)) (conv_rest _ es _ ro rest hr)
  | .map k e (.cons k0 e0 rest) => by
    intro lv ro v h
    obtain ⟨kv, hk, h⟩ := Except.bind_eq_ok.1 h
    obtain ⟨hn, ev, he, h⟩ := entry_ok h
    obtain ⟨hkey, h⟩ := guard_ok.1 h
    split at h
    · cases h
    · next tag txt hkq =>
      obtain ⟨es', hes, h⟩ := Except.bind_eq_ok.1 h
      cases Except.pure_eq_ok.1 h
      exact .map hk (conv_val k0 _ ro kv (valOf_ok hk)) hn he (conv_val e0 _ ro ev (valOf_ok he)) hkey hkq
        (conv_entries _ _ rest _ ro _ es' hes)
  | .struct fs vs => by
    intro lv ro v h
    cases fs with
    | nil => cases Except.pure_eq_ok.1 h; exact .struct (.fnil (.inl rfl)) rfl
    | cons n tg t ex fr =>
      obtain ⟨⟨ftys, vals⟩, hf, h⟩ := Except.bind_eq_ok.1 h
      dsimp only at h
      split at h
      · next hd =>
        cases Except.pure_eq_ok.1 h
        exact .struct (conv_fields _ vs lv ro ftys vals hf) hd
      · exact absurd h Except.throw_ne_ok
theorem conv_rest : ∀ (t0 : Ty) (vs : GoValList) (lv : Nat) (ro : Bool) (xs : ValList),
    valOfRest t0 vs lv ro = .ok xs → Conv (.rest t0 vs lv ro xs)
  | t0, .nil, lv, ro, xs, h => by cases h; exact .rnil
  | t0, .cons e es, lv, ro, xs, h => by
    obtain ⟨x, hx, h⟩ := Except.bind_eq_ok.1 h
    obtain ⟨hty, h⟩ := guard_ok.1 h
    obtain ⟨r, hr, h⟩ := Except.bind_eq_ok.1 h
    cases Except.pure_eq_ok.1 h
    exact .rcons hx (conv_val e lv ro x (valOf_ok hx)) hty (conv_rest t0 es lv ro r hr)
theorem conv_entries : ∀ (kt et : Ty) (es : GoEntryList) (lv : Nat) (ro : Bool)
    (acc out : EntryList), valOfEntries kt et es lv ro acc = .ok out →
    Conv (.entries kt et es lv ro acc out)
  | kt, et, .nil, lv, ro, acc, out, h => by cases h; exact .enil
  | kt, et, .cons k e rest, lv, ro, acc, out, h => by
    obtain ⟨kv, hk, h⟩ := Except.bind_eq_ok.1 h
    obtain ⟨hkt, h⟩ := guard_ok.1 h
    obtain ⟨hn, ev, he, h⟩ := entry_ok h
    obtain ⟨het, h⟩ := guard_ok.1 h
    split at h
    · cases h
    · next tag txt hkq =>
      exact .econs hk (conv_val k lv ro kv (valOf_ok hk)) hkt hn he (conv_val e lv ro ev (valOf_ok he))
        het hkq (conv_entries kt et rest lv ro _ out h)
theorem conv_fields : ∀ (fs : GoFieldList) (vs : GoValList) (lv : Nat) (ro : Bool)
    (ftys : FieldList) (vals : ValList),
    valOfFields fs vs lv ro = .ok (ftys, vals) → Conv (.fields fs vs lv ro ftys vals)
  | .cons name tag t ex frest, .cons x xs, lv, ro, ftys, vals, h => by
    -- the `do` block of `valOfFields` branches on `x.isNil` with the rest of the block in both branches
    change (if x.isNil = true then _ else _) = _ at h
    split at h
    · next hn =>
      obtain ⟨ft, hft, h⟩ := Except.bind_eq_ok.1 h
      obtain ⟨vl, hv, h⟩ := Except.bind_eq_ok.1 h
      cases Except.pure_eq_ok.1 hv
      obtain ⟨⟨f2, v2⟩, hr, h⟩ := Except.bind_eq_ok.1 h
      cases Except.pure_eq_ok.1 h
      exact .absent hn hft (conv_fields frest xs lv ro f2 v2 hr)
    · next hn =>
      obtain ⟨w, hw, h⟩ := Except.bind_eq_ok.1 h
      obtain ⟨vl, hv, h⟩ := Except.bind_eq_ok.1 h
      cases Except.pure_eq_ok.1 hv
      obtain ⟨⟨f2, v2⟩, hr, h⟩ := Except.bind_eq_ok.1 h
      cases Except.pure_eq_ok.1 h
      exact .present (by simpa using hn) hw (conv_val x _ _ w (valOf_ok hw)) rfl
        (conv_fields frest xs lv ro f2 v2 hr)
  | .nil, vs, lv, ro, ftys, vals, h => by
    have h : pure (.nil, .nil) = Except.ok (ε := ConvErr) (ftys, vals) := by cases vs <;> exact h
    cases Except.pure_eq_ok.1 h; exact .fnil (.inl rfl)
  | .cons _ _ _ _ _, .nil, lv, ro, ftys, vals, h => by
    cases Except.pure_eq_ok.1 h; exact .fnil (.inr rfl)
end

def ConvJudgement.WFOut : ConvJudgement → Prop
  | .val _ _ _ v => WF v = true
  | .rest t0 _ _ _ xs => WFList t0 xs = true
  | .entries kt et _ _ _ acc out => WFEntries kt et acc = true → WFEntries kt et out = true
  | .fields _ _ _ _ ftys vals => FieldsOK ftys vals

theorem Conv.wf {J : ConvJudgement} (h : Conv J) : J.WFOut := by
  induction h <;> simp only [ConvJudgement.WFOut] at *
  case time | bool | int | uint | float | string => rfl
  case ptr ih | iface ih => exact ih
  case emptySeq ht =>
    have hw := typeOf_wf _ _ _ ht
    obtain ⟨e, _, rfl⟩ := typeOf_slice_inv ht
    simp only [WF, WFList, hw, Bool.and_self]
  case emptyMap ht =>
    have hw := typeOf_wf _ _ _ ht
    obtain ⟨k', e', _, _, _, rfl⟩ := typeOf_map_inv ht
    simp only [WF, WFEntries, hw, Bool.and_self]
  case seq w0 wr =>
    have hw := WF_typeOf_wf _ w0
    simp only [WF, WFList, Ty.wf, w0, wr, hw, tyEq_refl' hw, Bool.and_self]
  case map hkey hkq _ wk we ih =>
    have hwk := WF_typeOf_wf _ wk
    have hwe := WF_typeOf_wf _ we
    have := ih (by simp only [WFEntries, key?_kind hkq, we, tyEq_refl' hwe, beq_self_eq_true,
      Bool.and_self])
    simp only [WF, Ty.wf, hkey, hwk, hwe, this, Bool.and_self]
  case struct hd ih =>
    have := FieldsOK.wfObj _ _ ih
    simp only [WF, Ty.wf, wfFields_of _ hd this.2, this.1, Bool.and_self]
  case rnil => rfl
  case rcons hty _ wx wr => simp only [WFList, wx, wr, hty, Bool.and_self]
  case enil => exact id
  case econs hkt _ _ _ het hkq _ _ we ih =>
    exact fun ha => ih (WFEntries_insert _ _ _ _ _ _ ha (by rw [key?_kind hkq, tyEq_kind hkt]) we het)
  case fnil => trivial
  case absent hft _ ih => exact ⟨typeOf_wf _ 0 _ hft, rfl, ih⟩
  -- the thirteen variables of the rule, its five premises (`hvl` the fourth), the two induction hypotheses
  case present name tag _ _ _ _ _ _ _ w _ _ _ _ _ _ hvl _ ww ih =>
    refine ⟨?_, rfl, ih⟩
    subst hvl
    split
    · simp only [WF, ww, WF_typeOf_wf w ww, tyEq_refl' (WF_typeOf_wf w ww), Bool.and_self]
    · exact ww

theorem valOfU_wf : ∀ (v : GoVal) (lv : Nat) (ro : Bool) (x : Val),
    valOfU v lv ro = .ok x → WF x = true :=
  fun _ _ _ _ h => (conv_val _ _ _ _ h).wf
theorem valOfRest_wf : ∀ (t0 : Ty) (vs : GoValList) (lv : Nat) (ro : Bool) (xs : ValList),
    valOfRest t0 vs lv ro = .ok xs → WFList t0 xs = true :=
  fun _ _ _ _ _ h => (conv_rest _ _ _ _ _ h).wf
theorem valOfEntries_wf : ∀ (kt et : Ty) (es : GoEntryList) (lv : Nat) (ro : Bool)
    (acc out : EntryList), WFEntries kt et acc = true →
    valOfEntries kt et es lv ro acc = .ok out → WFEntries kt et out = true :=
  fun _ _ _ _ _ _ _ ha h => (conv_entries _ _ _ _ _ _ _ h).wf ha
theorem valOfFields_wf : ∀ (fs : GoFieldList) (vs : GoValList) (lv : Nat) (ro : Bool)
    (ftys : FieldList) (vals : ValList),
    valOfFields fs vs lv ro = .ok (ftys, vals) → FieldsOK ftys vals :=
  fun _ _ _ _ _ _ h => (conv_fields _ _ _ _ _ _ h).wf

theorem valOf_wf {g : GoVal} {lv : Nat} {ro : Bool} {v : Val} (h : valOf g lv ro = .ok v) :
    WF v = true :=
  valOfU_wf g lv ro v (valOf_ok h)

theorem typeOfRV_wf {g : GoVal} {T : Ty} (h : typeOfRV g = .ok T) : T.wf = true := by
  unfold typeOfRV at h
  split at h
  · next x hx => cases h; exact WF_typeOf_wf x (valOf_wf hx)
  · split at h
    · cases h
    · exact typeOf_wf _ 0 T h

theorem valEnvOf_ok {g : GoVal} {env : List (String × Val)} (h : valEnvOf g = .ok env) :
    (g = .invalid ∧ env = []) ∨ (g ≠ .invalid ∧
      ((∃ es, reflectMap g = .strMap es ∧ valEnvOfMap es = .ok env) ∨ (reflectMap g = .notMap ∧
        ∃ fs vs, valOf g 0 = .ok (.obj (.obj fs) vs) ∧ env = List.zip fs.names vs.toList))) := by
  unfold valEnvOf at h
  split at h
  · exact .inl ⟨rfl, (Except.pure_eq_ok.1 h).symm⟩
  · next hne =>
    refine .inr ⟨fun e => hne e, ?_⟩
    split at h
    · cases h
    · next es hrm => exact .inl ⟨es, hrm, h⟩
    · next hrm =>
      obtain ⟨x, hx, h⟩ := Except.bind_eq_ok.1 h
      split at h
      · next fs vs => exact .inr ⟨hrm, fs, vs, hx, (Except.pure_eq_ok.1 h).symm⟩
      · exact absurd h Except.throw_ne_ok

end Yae.ConvVal
