/-
  The tree returned by `check` satisfies `Ann` (`elab_ann`); the type of a tree with `Ann` is well formed and
  variable free (`ann_wf`).  Both under `VarsOK Γ`.
-/
import Yae.Proofs.SoundnessInfer
import Yae.Proofs.CheckElab
import Yae.Proofs.AnnInd
namespace Yae.Sound

theorem okVars_of_slotFree : ∀ t : Ty, slotFree t = true → okVars t = true :=
  fun t h => okVars_of_varsIn t (slotFree_varsIn h)
theorem okVarsFields_of_slotFree : ∀ fs : FieldList, slotFreeFields fs = true →
    okVarsFields fs = true :=
  slotFreeFields_okVars

/-- every field type is well formed: `wfFields` without the test for duplicate names, which is `mkObj.wfFieldsShallow` -/
def wfTysFields : FieldList → Bool
  | .nil => true
  | .cons _ t fs => t.wf && wfTysFields fs

theorem wfFields_of_shallow : ∀ fs : FieldList, mkObj.wfFieldsShallow fs = true →
    wfTysFields fs = true → wfFields fs = true
  | .nil, _, _ => rfl
  | .cons n t fs, h1, h2 => by
    simp only [mkObj.wfFieldsShallow, Bool.and_eq_true] at h1
    simp only [wfTysFields, Bool.and_eq_true] at h2
    simp only [wfFields, Bool.and_eq_true]
    exact ⟨⟨h1.1, h2.1⟩, wfFields_of_shallow fs h1.2 h2.2⟩

/-- What overload resolution found is an entry of the table that the run-time lookup finds again, and it stands
under the key resolution looked under. -/
theorem resolve_inv {Γ : TEnv} {fname : String} {args : TyList} {r : Resolved}
    (h : Resolves Γ fname args (.ok r)) :
    (r.key == "") = false ∧
    ∃ d ps ret, resolveStatic Γ.funs r.key r.index = some d ∧ d ∈ Γ.funs ∧
      d.ty = .fn r.fname ps ret ∧
      ((slotFree (.fn r.fname ps ret) = true ∧ r.params = ps ∧ r.ret = ret ∧
          (d.key == ((overloadKey fname args .bot).1, true)) = true) ∨
       (slotFree (.fn r.fname ps ret) = false ∧
          (d.key == ("∀.λ " ++ fname ++ " " ++ toString args.length, false)) = true ∧
          ∃ c, inferFun c r.fname ps ret args = .ok (r.params, r.ret))) := by
  cases h with
  | mono hm hty =>
    obtain ⟨hmem, hkey⟩ := lookupMono_mem hm
    refine ⟨?_, _, _, _, by simp [resolveStatic, hm], hmem, hty,
      .inl ⟨hty ▸ key_slotFree hty hkey, rfl, rfl, hkey⟩⟩
    simp only [overloadKey]
    split <;> simp
  | poly hm ht =>
    obtain ⟨d, ps, ret, c, _, hg, hty, hinf⟩ := ht.found rfl
    simp only [Nat.sub_zero] at hg
    obtain ⟨hmem, hkey⟩ := lookupPoly_mem (List.mem_of_getElem? hg)
    refine ⟨by simp, d, ps, ret, ?_, hmem, hty, .inr ⟨hty ▸ key_slotFree hty hkey, hkey, c, liftU_some hinf⟩⟩
    simp only [resolveStatic]
    rw [if_neg (by omega)]
    simpa using hg

theorem resolve_ok {Γ : TEnv} (hf : FunsOK Γ.funs) {fname : String} {args : TyList} {r : Resolved}
    (hargs : slotFreeList args = true) (hargsw : wfList args = true)
    (h : Resolves Γ fname args (.ok r)) (hte : tyEqList r.params args = true) :
    (r.key == "") = false ∧
    ∃ d n ps ret, resolveStatic Γ.funs r.key r.index = some d ∧ d.ty = .fn n ps ret ∧
      Inst ps ret args r.ret := by
  obtain ⟨hne, d, ps, ret, hres, hmem, hty, hcase⟩ := resolve_inv h
  refine ⟨hne, d, _, ps, ret, hres, hty, ?_⟩
  have hok := hf d hmem
  simp only [declOK, hty, Bool.and_eq_true] at hok
  rcases hcase with ⟨hsf, rfl, rfl, _⟩ | ⟨_, _, c, hinf⟩
  · simp only [slotFree, Bool.and_eq_true] at hsf
    refine ⟨[], Subst.ground_nil, ?_, (substG_nil _).symm, hok.1.1.1.2, hsf.2⟩
    rw [substGList_nil]
    exact tyEqList_sound _ args hok.1.1.1.1 hte
  · exact inferFun_inst hok.1.1.1.1 hok.1.1.1.2 hok.1.1.2 hok.1.2 hargs hargsw hinf hte

def VarsOK (Γ : TEnv) : Prop := ∀ p ∈ Γ.vars, p.2.wf = true ∧ slotFree p.2 = true

def AnnKind.TypesWF : AnnKind → Prop
  | .expr _ T => T.wf = true ∧ slotFree T = true
  | .elems .. | .pairs .. => True
  | .fields _ tys => wfTysFields tys = true ∧ slotFreeFields tys = true
  | .args _ tys => wfList tys = true ∧ slotFreeList tys = true

theorem AnnKind.Holds.typesWF {Γ : TEnv} (hv : VarsOK Γ) {K : AnnKind} (h : K.Holds Γ) : K.TypesWF := by
  induction h using AnnKind.Holds.induct with simp only [AnnKind.TypesWF] at *
  | str | num | time | bool | listNil | mapNil | fnil | anil => exact ⟨rfl, rfl⟩
  | listCons _ _ ih | subList _ _ _ ih => exact ih
  | mapCons _ hp _ _ a1 a2 => simp [Ty.wf, slotFree, Ty.keyable, hp, a1, a2]
  | obj _ hsh ih => exact ⟨wfFields_of_shallow _ hsh ih.1, ih.2⟩
  | ident hl => exact hv _ (lookupVar_mem hl)
  | callStatic _ _ _ _ hi | callDyn _ _ hi =>
    obtain ⟨_, _, _, _, h1, h2⟩ := hi
    exact ⟨h1, h2⟩
  | subMap _ _ _ ih =>
    simp only [Ty.wf, slotFree, Bool.and_eq_true] at ih
    exact ⟨ih.1.2, ih.2.2⟩
  | member _ hf ih =>
    simp only [Ty.wf, slotFree] at ih
    exact ⟨wfFields_find _ _ _ ih.1 hf, slotFreeFields_find _ _ _ ih.2 hf⟩
  | fcons _ _ a1 a2 => simp [wfTysFields, slotFreeFields, a1, a2]
  | acons _ _ a1 a2 => simp [wfList, slotFreeList, a1, a2]

theorem ann_wf {Γ : TEnv} (hv : VarsOK Γ) : ∀ (e : Expr) (T : Ty), Ann Γ e T →
    T.wf = true ∧ slotFree T = true :=
  fun _ _ h => AnnKind.Holds.typesWF hv (K := .expr _ _) h

theorem annFields_wf {Γ : TEnv} (hv : VarsOK Γ) : ∀ (fs : FieldEList) (tys : FieldList),
    AnnFields Γ fs tys → wfTysFields tys = true ∧ slotFreeFields tys = true :=
  fun _ _ h => AnnKind.Holds.typesWF hv (K := .fields _ _) h

theorem annArgs_wf {Γ : TEnv} (hv : VarsOK Γ) : ∀ (es : ExprList) (tys : TyList),
    AnnArgs Γ es tys → wfList tys = true ∧ slotFreeList tys = true :=
  fun _ _ h => AnnKind.Holds.typesWF hv (K := .args _ _) h

theorem elab_ann {Γ : TEnv} (hf : FunsOK Γ.funs) (hv : VarsOK Γ) {j : CheckJudgement} (h : Elab Γ j) :
    match j with
    | .expr _ T e' => Ann Γ e' T
    | .elems T _ es' => AnnElems Γ es' T
    | .pairs K V _ ps' => AnnPairs Γ ps' K V
    | .fields _ Fs fs' => AnnFields Γ fs' Fs
    | .args _ Ts es' => AnnArgs Γ es' Ts := by
  induction h with
  | str | num | time | bool | listNil | mapNil => constructor
  | listCons _ _ ih ihs => exact .listCons ih ihs
  | mapCons _ hp _ _ ihk ihv ihps => exact .mapCons ihk hp ihv ihps
  | obj _ hsh ih => exact .obj ih hsh
  | ident _ hl => exact .ident hl
  -- the two call rules are where `Ann` says more than `Elab`: the signature found instantiates to the argument types
  | callStatic _ h2 hte iha =>
    obtain ⟨w1, s1⟩ := annArgs_wf hv _ _ iha
    obtain ⟨hne, d, n, ps, ret, hres, hty, hinst⟩ := resolve_ok hf s1 w1 h2 hte
    exact .callStatic iha hne hres hty hinst
  | callDyn _ _ hinf hte iha ihc =>
    obtain ⟨w1, s1⟩ := annArgs_wf hv _ _ iha
    obtain ⟨w2, s2⟩ := ann_wf hv _ _ ihc
    simp only [Ty.wf, slotFree, Bool.and_eq_true] at w2 s2
    exact .callDyn ihc iha (inferFun_inst w2.1 w2.2 (slotFreeList_okVars _ s2.1)
      (okVars_of_slotFree _ s2.2) s1 w1 hinf hte)
  | subList _ _ hte ihv ihi => exact .subList ihv ihi hte
  | subMap _ _ hte ihv ihi => exact .subMap ihv ihi hte
  | member _ hfind _ ih => exact .member ih hfind
  | elemsNil | pairsNil | fieldsNil | argsNil => exact .nil
  | elemsCons _ hte _ ih ihs => exact .cons ih hte ihs
  | pairsCons _ hk _ hv' _ ihk ihv ihps => exact .cons ihk hk ihv hv' ihps
  | fieldsCons _ _ ih ihs | argsCons _ _ ih ihs => exact .cons ih ihs

theorem check_ann {Γ : TEnv} (hf : FunsOK Γ.funs) (hv : VarsOK Γ) :
    ∀ (e : Expr) (c : Nat) (T : Ty) (e' : Expr) (c' : Nat),
    check Γ c e = .ok (T, e', c') → Ann Γ e' T :=
  fun e _ _ _ _ h => elab_ann hf hv (check_elab e h)
theorem checkElems_ann {Γ : TEnv} (hf : FunsOK Γ.funs) (hv : VarsOK Γ) :
    ∀ (es : ExprList) (c : Nat) (el : Ty) (es' : ExprList) (c' : Nat),
    checkElems Γ c el es = .ok (es', c') → AnnElems Γ es' el :=
  fun es _ _ _ _ h => elab_ann hf hv (checkElems_elab es h)
theorem checkPairs_ann {Γ : TEnv} (hf : FunsOK Γ.funs) (hv : VarsOK Γ) :
    ∀ (ps : PairList) (c : Nat) (kT vT : Ty) (ps' : PairList) (c' : Nat),
    checkPairs Γ c kT vT ps = .ok (ps', c') → AnnPairs Γ ps' kT vT :=
  fun ps _ _ _ _ _ h => elab_ann hf hv (checkPairs_elab ps h)
theorem checkFields_ann {Γ : TEnv} (hf : FunsOK Γ.funs) (hv : VarsOK Γ) :
    ∀ (fs : FieldEList) (c : Nat) (tys : FieldList) (fs' : FieldEList) (c' : Nat),
    checkFields Γ c fs = .ok (tys, fs', c') → AnnFields Γ fs' tys :=
  fun fs _ _ _ _ h => elab_ann hf hv (checkFields_elab fs h)
theorem checkArgs_ann {Γ : TEnv} (hf : FunsOK Γ.funs) (hv : VarsOK Γ) :
    ∀ (es : ExprList) (c : Nat) (tys : TyList) (es' : ExprList) (c' : Nat),
    checkArgs Γ c es = .ok (tys, es', c') → AnnArgs Γ es' tys :=
  fun es _ _ _ _ h => elab_ann hf hv (checkArgs_elab es h)

end Yae.Sound
