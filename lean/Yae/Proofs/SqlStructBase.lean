/-
  C20: what `sql.Compile` (`emit`) produces, piece by piece: inversion of the `Except` binds of
  `emit`/`emitList`, the `Doc` of a run-time value, the characters of a row, the meaning
  (`operandTree`) of an application.
-/
import Yae.Spec.SqlSide
import Yae.Proofs.SqlLex
import Yae.Proofs.ExceptLemmas
namespace Yae.SqlStruct
open Yae Yae.Sql Yae.SqlDoc Yae.SqlLex

theorem emitList_cons_ok {venv outer e es ss} (h : emitList venv outer (.cons e es) = .ok ss) :
    ∃ x xs, emit venv outer e = .ok x ∧ emitList venv outer es = .ok xs ∧ ss = x :: xs := by
  rw [emitList] at h
  obtain ⟨x, hx, h⟩ := Except.bind_eq_ok.1 h
  obtain ⟨xs, hxs, h⟩ := Except.bind_eq_ok.1 h
  exact ⟨x, xs, hx, hxs, (Except.pure_eq_ok.1 h).symm⟩

theorem emitList_nil_ok {venv outer ss} (h : emitList venv outer .nil = .ok ss) : ss = [] := by
  rw [emitList] at h; exact (Except.pure_eq_ok.1 h).symm

/-- the level of the phrase `compile(e, env, outer)` produces: under NOT (10) a
NOT-expression, under AND (4) an and-expression, otherwise an or-expression -/
def lvl (outer : Nat) : Nat := if outer > 4 then 2 else if outer > 3 then 1 else 0

/-- the grammar level asked of the `Doc` written for an expression at position `m`: an argument of a connective is a
phrase of the level of its context, the first operand of a condition a predicate, another operand a primary, the
second operand of `IN` a row -/
def WFm : Pos' → Nat → Doc → Prop
  | .logic, outer, d => WF (lvl outer) d
  | .first, _, d => WF 3 d
  | .operand, _, d => WF 4 d
  | .inList, _, d => ∃ ds, d = .list ds ∧ 1 ≤ ds.length ∧ WFs ds

def charsL : DocList → List (List Char)
  | .nil => []
  | .cons d ds => dchars d :: charsL ds

def AllWFm : ArgPos → Nat → DocList → Prop
  | _, _, .nil => True
  | lm, outer, .cons d ds => WFm lm.head outer d ∧ AllWFm lm.tail outer ds

/-- the text `s` is a `Doc` the tokenizer reads back, a phrase of the level position `m` asks for, and its reading
is the tree `r` up to `flatten` -/
def DocOf (m : Pos') (outer : Nat) (s : String) (r : Option SqlTree) : Prop :=
  ∃ d w, s.toList = dchars d ∧ LexOK d ∧ WFm m outer d ∧ r = some w ∧ flatten (ptree d) = flatten w

def DocFor (venv : List (String × Val)) (m : Pos') (outer : Nat) (e : Expr) (s : String) : Prop :=
  DocOf m outer s (operandTree venv e)

def DocsFor (venv : List (String × Val)) (lm : ArgPos) (outer : Nat) (es : ExprList)
    (ss : List String) : Prop :=
  ∃ ds ws, ss.map String.toList = charsL ds ∧ LexOKs ds ∧ AllWFm lm outer ds ∧
    operandTrees venv es = some ws ∧ flattenList (pks ds) = flattenList ws

theorem isNumLex_one : IsNumLex "1".toList :=
  ⟨false, ['1'], [], by decide, by simp, by simp; decide, by simp⟩
theorem isNumLex_zero : IsNumLex "0".toList :=
  ⟨false, ['0'], [], by decide, by simp, by simp; decide, by simp⟩

def IsAtom : Doc → Prop
  | .str _ | .num _ | .col _ | .time _ => True
  | _ => False

theorem IsAtom.wf {d : Doc} (h : IsAtom d) (l : Nat) : WF l d := by
  cases d <;> simp [IsAtom] at h <;> simp [WF]

theorem IsAtom.wfm {d : Doc} (h : IsAtom d) {m : Pos'} (hm : m ≠ .inList) (outer : Nat) :
    WFm m outer d := by
  cases m with
  | logic | first | operand => exact h.wf _
  | inList => exact absurd rfl hm

theorem isFinite_expField {x : Float} (h : Num.isFinite x = true) : Num.expField x.toBits ≠ 2047 := by
  simpa [Num.isFinite] using h

theorem lit_open : "(".toList = ['('] := by decide
theorem lit_close : ")".toList = [')'] := by decide

theorem fmtVal_doc {v : Val} {s : String} (h : fmtVal v = .ok s) (hv : okVal v = true) :
    ∃ d w, s.toList = dchars d ∧ LexOK d ∧ IsAtom d ∧ litOf v = some w ∧ ptree d = w := by
  cases v with
  | bool b =>
    have e : s = (if b then trueText else falseText) := (Except.pure_eq_ok.1 h).symm
    refine ⟨.num s, .num s, rfl, ?_, trivial, by simp [litOf, e], rfl⟩
    subst e
    cases b
    · exact isNumLex_zero
    · exact isNumLex_one
  | num x =>
    have e : s = Num.renderNum x := (Except.pure_eq_ok.1 h).symm
    refine ⟨.num s, .num s, rfl, ?_, trivial, by simp [litOf, e], rfl⟩
    subst e
    exact renderNumBits_isNumLex _ (isFinite_expField hv)
  | str t =>
    have e : s = Num.quote t := (Except.pure_eq_ok.1 h).symm
    exact ⟨.str t, .str t, by rw [e]; rfl, trivial, trivial, rfl, rfl⟩
  | time t =>
    have e : s = "from_unixtime(" ++ toString t.sec ++ ")" := (Except.pure_eq_ok.1 h).symm
    refine ⟨.time (toString t.sec), .time (toString t.sec), ?_, toString_int_isNumLex _, trivial, rfl, rfl⟩
    rw [e]
    simp only [String.toList_append, cFromUnixtime_eq, dchars]
    rw [lit_close, List.append_assoc]
  | _ => cases h

theorem atom_docFor {venv m outer e s d w} (hm : m ≠ .inList) (hs : s.toList = dchars d)
    (hl : LexOK d) (ha : IsAtom d) (ht : operandTree venv e = some w) (hp : ptree d = w) :
    DocFor venv m outer e s :=
  ⟨d, w, hs, hl, ha.wfm hm outer, ht, by rw [hp]⟩

theorem items_toList : ∀ ds : DocList, [',', ' '].intercalate (charsL ds) = itemsChars ds
  | .nil => rfl
  | .cons d .nil => by simp [charsL, itemsChars]
  | .cons d (.cons d2 ds) => by
    rw [charsL, charsL, List.intercalate_cons_cons, ← charsL, items_toList (.cons d2 ds)]
    simp [itemsChars]

theorem row_toList (ds : DocList) (ss : List String) (h : ss.map String.toList = charsL ds) :
    (joinStr ss ", " "(" ")").toList = '(' :: (itemsChars ds ++ [')']) := by
  unfold joinStr
  have h3 : ", ".toList = [',', ' '] := by decide
  simp only [String.toList_append, String.toList_intercalate, h, lit_open, lit_close, h3, items_toList]
  simp

theorem charsL_length : ∀ (ds : DocList) (ss : List String), ss.map String.toList = charsL ds →
    ds.length = ss.length
  | .nil, ss, h => by cases ss <;> simp_all [charsL, DocList.length]
  | .cons d ds, ss, h => by
    cases ss with
    | nil => simp [charsL] at h
    | cons x ss =>
      simp only [charsL, List.map_cons, List.cons.injEq] at h
      simp [DocList.length, charsL_length ds ss h.2]

theorem emitList_length : ∀ {venv outer} (es : ExprList) {ss : List String},
    emitList venv outer es = .ok ss → ss.length = es.length
  | _, _, .nil, ss, h => by rw [emitList_nil_ok h]; rfl
  | _, _, .cons e es, ss, h => by
    obtain ⟨x, xs, _, hxs, rfl⟩ := emitList_cons_ok h
    simp [ExprList.length, emitList_length es hxs]

def callTree (name : String) (r : Option SqlTreeList) : Option SqlTree :=
  match name, r with
  | "AND", some xs => some (.and xs)
  | "OR", some xs => some (.or xs)
  | "NOT", some (.cons x .nil) => some (.not x)
  | "NOT", some _ => none
  | op, some xs => some (.cond (sqlOpName op) xs)
  | _, none => none

theorem operandTree_call (venv) (name : String) (p col cp args cty res idx) :
    operandTree venv (.call p col (.ident cp name) args cty res idx) =
      callTree name (operandTrees venv args) := by
  rw [operandTree.eq_def]; rfl

theorem callTree_cond {name : String} (h1 : name ≠ "AND") (h2 : name ≠ "OR") (h3 : name ≠ "NOT")
    (r : Option SqlTreeList) : callTree name r = r.map (.cond (sqlOpName name)) := by
  unfold callTree
  split <;> simp_all

theorem operandTree_call_cond (venv) (name : String) (h1 : name ≠ "AND") (h2 : name ≠ "OR")
    (h3 : name ≠ "NOT") (p col cp args cty res idx) :
    operandTree venv (.call p col (.ident cp name) args cty res idx) =
      (operandTrees venv args).map (fun xs => .cond (sqlOpName name) xs) := by
  rw [operandTree_call, callTree_cond h1 h2 h3]

theorem operandTree_call_and (venv) (p col cp args cty res idx) :
    operandTree venv (.call p col (.ident cp "AND") args cty res idx) =
      (operandTrees venv args).map .and := by
  rw [operandTree_call]
  cases operandTrees venv args <;> rfl

theorem operandTree_call_or (venv) (p col cp args cty res idx) :
    operandTree venv (.call p col (.ident cp "OR") args cty res idx) =
      (operandTrees venv args).map .or := by
  rw [operandTree_call]
  cases operandTrees venv args <;> rfl

theorem operandTree_call_not (venv) (p col cp a cty res idx) :
    operandTree venv (.call p col (.ident cp "NOT") (.cons a .nil) cty res idx) =
      (operandTree venv a).map .not := by
  rw [operandTree_call, operandTrees]
  cases operandTree venv a <;> rfl

end Yae.SqlStruct
