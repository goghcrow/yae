/-
  C04, law "numeric literal decoding": the number a numeric literal's text denotes, as
  `parser/ast.parseNum` (`Yae.Num.parseNumLitBits`) computes it.  `Float` is opaque to the kernel:
  all statements are equations on binary64 BIT PATTERNS; `parseNumLit` is the `.map Float.ofBits` lift.

  1. `parseNumLitBits_radix`: `0x…`/`0b…`/`0o…` denote `float64(v)` when `v < 2^63`, else `none`.
     FINDING: `0x8000000000000000` is a word of the hex pattern (no length bound), hence a lexeme, and
     `parseNum` fails on it (`strconv.ParseInt` range error).  `parseNumLitBits_radix_overflow` is
     the general form; `C04.numeric_lexemes_rejected` checks that one word by evaluation and does not
     use it.
  2. `parseNumLitBits_digits`: decimal digits denote `natToBits (digitsVal ds)`, or `none` when that is
     `infBits`; below `2^53` exactly that integer (`toInt64Bits_natToBits`, `parseNumLitBits_fmtNat`).  From
     `2^53` on the value is BY DEFINITION of the model `natToBits n = packRound n false 0` for
     `n ≠ 0` (nearest binary64, ties to even; `natToBits 0 = 0`); that `packRound` IS the nearest
     double is not proved here, only that overflow (`infBits`, which includes every `n ≥ 2^1024`:
     `natToBits_huge`) is answered `none`.
  3. `parseNumLitBits_float`: the float forms are `decimalToBits (mantissa digits) (exponent −
     fraction length)`; no correct-rounding theorem for `decimalToBits`/`ratToBits` is claimed.
     FINDING: the float patterns repeat their groups, so `1.2.3` and `1e2e3` are lexemes; `parseNum`
     rejects all such words (general forms: `parseNumLitBits_two_dots`, `parseNumLitBits_two_exps`;
     `C04.numeric_lexemes_rejected` checks `1.2.3` and `1e2e3` by evaluation and does not use them).
  4. Tie-in with `Yae.Spec.Regex`, for the hex, bin, oct and integer patterns only: `hex_shape`,
     `bin_shape`, `oct_shape`, `int_shape`, `hex_lexeme_value` (the integer pattern:
     `C04.int_literal`).  LEFT OUT: nothing relates the words of the two float patterns
     (`reOf .floatA`, `reOf .floatB`) to the shapes `parseNumLitBits_float` speaks about.
-/
import Yae.Proofs.ListLemmas
import Yae.Proofs.NumBits
import Yae.Proofs.LexRegexBase
namespace Yae.Num

/-- positional value of a digit string in `base` (a character that is no digit counts 0).  The
    radix forms are stated with this function, the decimal forms with the model's `digitsVal`
    (base 10, `isDigit` characters); no lemma relates the two. -/
def valueInBase (base : Nat) (ds : List Char) : Nat :=
  ds.foldl (fun acc c => acc * base + (baseDigit c).getD 0) 0

def digitsOK (base : Nat) (ds : List Char) : Prop :=
  ds ≠ [] ∧ ∀ c ∈ ds, ∃ d, baseDigit c = some d ∧ d < base

def digitsOKb (base : Nat) (ds : List Char) : Bool :=
  !ds.isEmpty && ds.all fun c => match baseDigit c with | some d => decide (d < base) | none => false

theorem digitsOK_iff (base : Nat) (ds : List Char) : digitsOK base ds ↔ digitsOKb base ds = true := by
  unfold digitsOK digitsOKb
  have h1 : ds ≠ [] ↔ (!ds.isEmpty) = true := by cases ds <;> simp
  have h2 : ∀ c, (∃ d, baseDigit c = some d ∧ d < base) ↔
      (match baseDigit c with | some d => decide (d < base) | none => false) = true := by
    intro c; cases baseDigit c <;> simp
  simp only [Bool.and_eq_true, List.all_eq_true, h1]
  exact and_congr Iff.rfl (forall_congr' fun c => imp_congr Iff.rfl (h2 c))

instance (base : Nat) (ds : List Char) : Decidable (digitsOK base ds) :=
  decidable_of_iff _ (digitsOK_iff base ds).symm

theorem parseUint_fold (base : Nat) (ds : List Char)
    (h : ∀ c ∈ ds, ∃ d, baseDigit c = some d ∧ d < base) (a : Nat) :
    ds.foldl (fun (acc : Option Nat) c =>
      match acc, baseDigit c with
      | some a, some d => if d < base then some (a * base + d) else none
      | _, _ => none) (some a)
    = some (ds.foldl (fun acc c => acc * base + (baseDigit c).getD 0) a) := by
  induction ds generalizing a with
  | nil => rfl
  | cons c ds ih =>
    obtain ⟨⟨d, hd, hlt⟩, ht⟩ := List.forall_mem_cons.1 h
    simp only [List.foldl_cons, hd, hlt, if_true, Option.getD_some]
    exact ih ht _

/-- `strconv.ParseUint` without the range check -/
theorem parseUintBase_eq {base : Nat} {ds : List Char} (h : digitsOK base ds) :
    parseUintBase base ds = some (valueInBase base ds) := by
  obtain ⟨hne, hall⟩ := h
  unfold parseUintBase valueInBase
  have : ds.isEmpty = false := by cases ds <;> simp_all
  rw [this]
  exact parseUint_fold base ds hall 0

/-- `strconv.ParseInt(ds, base, 64)`: the value if it is below `2^63`, else a range error -/
theorem parseIntBase_eq {base : Nat} {ds : List Char} (h : digitsOK base ds) :
    parseIntBase base ds
      = if valueInBase base ds < 2 ^ 63 then some (valueInBase base ds : Int) else none := by
  obtain ⟨hne, hall⟩ := h
  cases ds with
  | nil => exact absurd rfl hne
  | cons c t =>
    obtain ⟨d, hd, _⟩ := hall c (by simp)
    have hp : c ≠ '+' := by intro e; subst e; simp [baseDigit] at hd
    have hm : c ≠ '-' := by intro e; subst e; simp [baseDigit] at hd
    unfold parseIntBase
    simp [hp, hm, parseUintBase_eq ⟨hne, hall⟩]

/-- what `scanDecimal` does with the text after the mantissa (`mant` = the mantissa digits read as a number,
    `fl` = the number of fraction digits): end of text, or one exponent part -/
def expTail (mant : Nat) (fl : Int) : List Char → Option (Nat × Int)
  | [] => some (mant, -fl)
  | c :: t =>
    if c == 'e' || c == 'E' then
      let (neg, t') : Bool × List Char :=
        match t with
        | '+' :: u => (false, u)
        | '-' :: u => (true, u)
        | _ => (false, t)
      if t'.isEmpty || !t'.all isDigit then none
      else
        let ev : Int := digitsValCapped 100000 t'
        some (mant, (if neg then -ev else ev) - fl)
    else none

def stops (nodot : Bool) (r : List Char) : Prop :=
  ∀ c t, r = c :: t → isDigit c = false ∧ (nodot = true → c ≠ '.')

theorem scanDecimal_noFrac (ip r : List Char) (hip : ∀ x ∈ ip, isDigit x = true) (hne : ip ≠ [])
    (hr : stops true r) : scanDecimal (ip ++ r) = expTail (digitsVal ip) 0 r := by
  have hemp : ip.isEmpty = false := by cases ip <;> simp_all
  obtain ⟨h1, h2⟩ := span_append hip fun c t e => (hr c t e).1
  unfold scanDecimal
  simp only [h1, h2]
  cases r with
  | nil => simp [hemp, expTail]
  | cons c t =>
    split
    · rename_i e; cases e; exact absurd rfl ((hr _ _ rfl).2 rfl)
    · simp only [List.isEmpty_nil, Bool.and_true, hemp, List.append_nil]; rfl

theorem scanDecimal_frac (ip fp r : List Char) (hip : ∀ x ∈ ip, isDigit x = true)
    (hfp : ∀ x ∈ fp, isDigit x = true) (hne : ip ≠ [] ∨ fp ≠ []) (hr : stops false r) :
    scanDecimal (ip ++ '.' :: (fp ++ r)) = expTail (digitsVal (ip ++ fp)) fp.length r := by
  have hemp : (ip.isEmpty && fp.isEmpty) = false := by
    rcases hne with h | h
    · cases ip <;> simp_all
    · cases fp <;> simp_all
  obtain ⟨h1, h2⟩ := span_append (r := '.' :: (fp ++ r)) hip (by intro c t e; cases e; decide)
  obtain ⟨h3, h4⟩ := span_append hfp fun c t e => (hr c t e).1
  unfold scanDecimal
  simp only [h1, h2, h3, h4, hemp]
  cases r <;> rfl

/-- the exponent a text `[+-]? digits` denotes (digits capped at 100000, far outside the finite
    range) -/
def signedExp (sgn es : List Char) : Int :=
  if sgn = ['-'] then -(digitsValCapped 100000 es : Int) else (digitsValCapped 100000 es : Int)

theorem digit_not_sign {d : Char} (h : isDigit d = true) : d ≠ '+' ∧ d ≠ '-' := by
  constructor <;> (intro e; subst e; simp [isDigit] at h)

theorem expTail_exp (mant : Nat) (fl : Int) (e : Char) (sgn es : List Char)
    (he : e = 'e' ∨ e = 'E') (hs : sgn = [] ∨ sgn = ['+'] ∨ sgn = ['-'])
    (hes : ∀ x ∈ es, isDigit x = true) (hne : es ≠ []) :
    expTail mant fl (e :: (sgn ++ es)) = some (mant, signedExp sgn es - fl) := by
  cases es with
  | nil => exact absurd rfl hne
  | cons d u =>
    obtain ⟨hd, hu⟩ := List.forall_mem_cons.1 hes
    obtain ⟨h1, h2⟩ := digit_not_sign hd
    have hE : (e == 'e' || e == 'E') = true := by rcases he with rfl | rfl <;> rfl
    rcases hs with rfl | rfl | rfl <;>
      (simp [expTail, signedExp, hE, h1, h2, hd]; exact hu)

theorem expTail_other (mant : Nat) (fl : Int) (c : Char) (t : List Char)
    (h1 : c ≠ 'e') (h2 : c ≠ 'E') : expTail mant fl (c :: t) = none := by
  simp [expTail, h1, h2]

theorem expTail_junk (mant : Nat) (fl : Int) (e : Char) (sgn es : List Char) (c : Char)
    (rest : List Char) (hs : sgn = [] ∨ sgn = ['+'] ∨ sgn = ['-'])
    (hes : ∀ x ∈ es, isDigit x = true) (hne : es ≠ []) (hc : isDigit c = false) :
    expTail mant fl (e :: (sgn ++ (es ++ c :: rest))) = none := by
  cases es with
  | nil => exact absurd rfl hne
  | cons d u =>
    have hd : isDigit d = true := hes d (by simp)
    obtain ⟨h1, h2⟩ := digit_not_sign hd
    by_cases hE : (e == 'e' || e == 'E') = true
    · rcases hs with rfl | rfl | rfl <;> simp [expTail, h1, h2, hc]
    · simp only [Bool.not_eq_true] at hE
      simp [expTail, hE]

/-! ## `parseFloatBits` / `parseNumLitBits` on unsigned texts

`parseFloatBits` strips a sign first and `parseNumLitBits` tries the radix prefixes when it fails; on digits followed
by nothing, `.` or an exponent letter neither happens (`parseNumLitBits_decimal`). -/

def unsignedHead (cs : List Char) : Prop := ∀ c t, cs = c :: t → c ≠ '+' ∧ c ≠ '-'

theorem parseFloatBits_unsigned (cs : List Char) (h : unsignedHead cs) :
    parseFloatBits (String.ofList cs)
      = (scanDecimal cs).bind (fun p => decimalToBits p.1 p.2) := by
  unfold parseFloatBits
  rw [String.toList_ofList]
  cases cs with
  | nil => cases hs : scanDecimal [] with
    | none | some p => simp [hs]
  | cons c t =>
    obtain ⟨h1, h2⟩ := h c t rfl
    cases hs : scanDecimal (c :: t) with
    | none | some p => simp [hs, h1, h2]

def notRadixHead (cs : List Char) : Prop :=
  ∀ c t, cs = '0' :: c :: t → c ≠ 'x' ∧ c ≠ 'b' ∧ c ≠ 'o'

theorem parseNumLitBits_notRadix (cs : List Char) (h : notRadixHead cs) :
    parseNumLitBits (String.ofList cs) = parseFloatBits (String.ofList cs) := by
  unfold parseNumLitBits
  cases hp : parseFloatBits (String.ofList cs) with
  | some f => rfl
  | none =>
    simp only [String.toList_ofList]
    split
    · rename_i rest; exact absurd rfl (h _ _ rfl).1
    · rename_i rest; exact absurd rfl (h _ _ rfl).2.1
    · rename_i rest; exact absurd rfl (h _ _ rfl).2.2
    · rfl

theorem parseNumLitBits_decimal (ip r : List Char) (hip : ∀ x ∈ ip, isDigit x = true) (hne : ip ≠ [])
    (hr : r = [] ∨ ∃ c t, r = c :: t ∧ (c = '.' ∨ c = 'e' ∨ c = 'E')) :
    parseNumLitBits (String.ofList (ip ++ r))
      = (scanDecimal (ip ++ r)).bind fun p => decimalToBits p.1 p.2 := by
  cases ip with
  | nil => exact absurd rfl hne
  | cons d u =>
    have hd : isDigit d = true := hip d (by simp)
    rw [parseNumLitBits_notRadix, parseFloatBits_unsigned]
    · intro c t e; cases e; exact digit_not_sign hd
    · intro c t e
      cases u with
      | nil =>
        cases e
        obtain h | ⟨_, _, h, hc⟩ := hr <;> cases h
        rcases hc with rfl | rfl | rfl <;> decide
      | cons d' u' =>
        cases e
        have hd' : isDigit c = true := hip c (by simp)
        refine ⟨?_, ?_, ?_⟩ <;> (rintro rfl; simp [isDigit] at hd')

/-- `strconv.ParseFloat` refuses `0x…`, `0b…`, `0o…` (hexadecimal floats are not modelled; one needs a `p`
    exponent, which no lexeme has), so the value is that of the fall-back `strconv.ParseInt(…, base, 64)` -/
theorem parseFloatBits_radix (l : Char) (ds : List Char) (hl : l = 'x' ∨ l = 'b' ∨ l = 'o') :
    parseFloatBits (String.ofList ('0' :: l :: ds)) = none := by
  have h : isDigit l = false ∧ l ≠ '.' ∧ l ≠ 'e' ∧ l ≠ 'E' := by
    rcases hl with rfl | rfl | rfl <;> decide
  rw [parseFloatBits_unsigned _ (by intro c t e; cases e; decide)]
  show (scanDecimal (['0'] ++ l :: ds)).bind _ = none
  rw [scanDecimal_noFrac ['0'] (l :: ds) (by decide) (by simp)
    (by intro c t e; cases e; exact ⟨h.1, fun _ => h.2.1⟩), expTail_other _ _ _ _ h.2.2.1 h.2.2.2]
  rfl

def radixOf (letter : Char) (base : Nat) : Prop :=
  (letter = 'x' ∧ base = 16) ∨ (letter = 'b' ∧ base = 2) ∨ (letter = 'o' ∧ base = 8)

theorem parseNumLitBits_radix {letter : Char} {base : Nat} (hl : radixOf letter base)
    {ds : List Char} (h : digitsOK base ds) :
    parseNumLitBits (String.ofList ('0' :: letter :: ds))
      = if valueInBase base ds < 2 ^ 63 then some (natToBits (valueInBase base ds)) else none := by
  have hf := parseFloatBits_radix letter ds
    (by rcases hl with ⟨rfl, _⟩ | ⟨rfl, _⟩ | ⟨rfl, _⟩ <;> simp)
  unfold parseNumLitBits
  rw [hf]
  simp only [String.toList_ofList]
  rcases hl with ⟨rfl, rfl⟩ | ⟨rfl, rfl⟩ | ⟨rfl, rfl⟩ <;>
    (simp only [parseIntBase_eq h]; split <;> simp [intToBits_natCast])

theorem parseNumLitBits_radix_overflow {letter : Char} {base : Nat} (hl : radixOf letter base)
    {ds : List Char} (h : digitsOK base ds) (hv : 2 ^ 63 ≤ valueInBase base ds) :
    parseNumLitBits (String.ofList ('0' :: letter :: ds)) = none := by
  rw [parseNumLitBits_radix hl h, if_neg (by omega)]

/-! ## decimal integer literals

`strconv.ParseFloat` reads a string of digits as mantissa with exponent 0; `decimalToBits n 0` is `natToBits n`
unless that is `+Inf` (more than 310 digits are refused before any arithmetic, and such a number is `≥ 2^1024`). -/

theorem natDigits_length_le : ∀ (k n : Nat), n < 10 ^ (k + 1) → (natDigits n).length ≤ k + 1 := by
  intro k
  induction k with
  | zero => intro n h; rw [natDigits, dif_pos (by simpa using h)]; simp
  | succ k ih =>
    intro n h
    by_cases h10 : n < 10
    · rw [natDigits, dif_pos h10]; simp
    · rw [natDigits, dif_neg h10]
      have hlt : n / 10 < 10 ^ (k + 1) := by
        apply Nat.div_lt_of_lt_mul
        rw [Nat.pow_succ, Nat.mul_comm] at h
        exact h
      have := ih _ hlt
      simp only [List.length_append, List.length_singleton]
      omega

set_option exponentiation.threshold 1100 in
/-- `bitLen n ≥ 1025`, so `packRound n false 0` drops `k = bitLen n - 53 ≥ 972` bits and keeps a mantissa
    `≥ n >>> k ≥ 2^52` (rounded up or not: the last `split`); the exponent field is `k + 1074 ≥ 2046`, so the
    packed bits are `≥ 2047 · 2^52 = 0x7FF0000000000000`: the overflow branch.  The exact threshold,
    `2^1024 - 2^970`, is not needed. -/
theorem natToBits_huge (n : Nat) (h : 2 ^ 1024 ≤ n) : natToBits n = infBits := by
  have h0 : 0 < n := Nat.lt_of_lt_of_le (Nat.two_pow_pos 1024) h
  have ⟨hlo, hhi, hL1⟩ := bitLen_bounds n h0
  have hL : 1024 < bitLen n := (Nat.pow_lt_pow_iff_right (by decide)).1 (Nat.lt_of_le_of_lt h hhi)
  unfold natToBits
  have hz : (n == 0) = false := by simp; omega
  simp only [hz]; unfold packRound; simp only []
  obtain ⟨d, hd⟩ : ∃ d, bitLen n - 53 = d + 1 := ⟨bitLen n - 54, by omega⟩
  have hdrop : max ((bitLen n : Int) - 53) (-1074 - 0) = Int.ofNat (d + 1) := by
    simp only [Int.ofNat_eq_natCast]; omega
  rw [hdrop]
  simp only []
  have hm : 2 ^ 52 ≤ n >>> (d + 1) := by
    rw [Nat.shiftRight_eq_div_pow]
    have hp : 2 ^ 52 * 2 ^ (d + 1) ≤ n := by
      rw [← Nat.pow_add]
      have e : 52 + (d + 1) = bitLen n - 1 := by omega
      rw [e]; exact hlo
    exact (Nat.le_div_iff_mul_le (Nat.pow_pos (by decide))).mpr hp
  rw [if_neg (by decide), if_pos]
  split <;> (simp only [Int.ofNat_eq_natCast]; omega)

theorem natToBits_small_ne_inf (n : Nat) (h : n < 2 ^ 53) : natToBits n ≠ infBits := by
  intro e
  have h1 := toInt64Bits_natToBits n h
  rw [e] at h1
  have h2 : toInt64Bits infBits = minInt64 := by decide
  rw [h2, minInt64] at h1
  omega

set_option exponentiation.threshold 1100 in
theorem decimalToBits_exp_zero (n : Nat) :
    decimalToBits n 0 = if natToBits n = infBits then none else some (natToBits n) := by
  by_cases h0 : n = 0
  · subst h0; decide
  · unfold decimalToBits
    have hz : (n == 0) = false := by simp [h0]
    simp only [hz, Bool.false_eq_true, ↓reduceIte]
    split
    · rename_i hbig
      have h10 : 10 ^ 310 ≤ n := by
        apply Decidable.byContradiction
        intro hc
        have := natDigits_length_le 309 n (by omega)
        omega
      have h2 : (2 : Nat) ^ 1024 ≤ 10 ^ 310 := by decide
      rw [natToBits_huge n (Nat.le_trans h2 h10)]
      simp
    · split
      · omega
      · show (if (natToBits (n * 10 ^ 0) == infBits) = true then none
            else some (natToBits (n * 10 ^ 0))) = _
        rw [Nat.pow_zero, Nat.mul_one]
        by_cases hb : natToBits n = infBits <;> simp [hb]

theorem parseNumLitBits_digits (ds : List Char) (hne : ds ≠ []) (hds : ∀ c ∈ ds, isDigit c = true) :
    parseNumLitBits (String.ofList ds)
      = if natToBits (digitsVal ds) = infBits then none else some (natToBits (digitsVal ds)) := by
  have h := parseNumLitBits_decimal ds [] hds hne (.inl rfl)
  have h2 := scanDecimal_noFrac ds [] hds hne (by intro c t e; cases e)
  rw [List.append_nil] at h h2
  rw [h, h2]
  exact decimalToBits_exp_zero _

theorem parseNumLitBits_digits_small (ds : List Char) (hne : ds ≠ [])
    (hds : ∀ c ∈ ds, isDigit c = true) (hv : digitsVal ds < 2 ^ 53) :
    parseNumLitBits (String.ofList ds) = some (natToBits (digitsVal ds)) := by
  rw [parseNumLitBits_digits ds hne hds, if_neg (natToBits_small_ne_inf _ hv)]

/-- the text yae prints for an integer value below `2^53` (`renderNumBits_natToBits`) reads back as the same double -/
theorem parseNumLitBits_fmtNat (n : Nat) (h : n < 2 ^ 53) :
    parseNumLitBits (fmtNat n) = some (natToBits n) := by
  have := parseNumLitBits_digits_small (natDigits n) (natDigits_ne_nil n) (natDigits_all_digits n)
  rw [digitsVal_natDigits] at this
  exact this h

theorem stops_exp {nodot : Bool} {e : Char} (t : List Char) (he : e = 'e' ∨ e = 'E') :
    stops nodot (e :: t) := by
  intro c t' h; cases h
  rcases he with rfl | rfl <;> exact ⟨by decide, fun _ => by decide⟩

/-- One list of hypotheses serves the three equations: the first (no exponent) needs nothing about `e sgn es`,
    and a caller who wants only it passes any exponent that satisfies them (as the last `example` of the file does). -/
theorem parseNumLitBits_float (ip fp : List Char) (e : Char) (sgn es : List Char)
    (hip : ∀ x ∈ ip, isDigit x = true) (hne : ip ≠ []) (hfp : ∀ x ∈ fp, isDigit x = true)
    (he : e = 'e' ∨ e = 'E') (hs : sgn = [] ∨ sgn = ['+'] ∨ sgn = ['-'])
    (hes : ∀ x ∈ es, isDigit x = true) (hes0 : es ≠ []) :
    parseNumLitBits (String.ofList (ip ++ '.' :: fp))
        = decimalToBits (digitsVal (ip ++ fp)) (-(fp.length : Int))
    ∧ parseNumLitBits (String.ofList (ip ++ e :: (sgn ++ es)))
        = decimalToBits (digitsVal ip) (signedExp sgn es)
    ∧ parseNumLitBits (String.ofList (ip ++ '.' :: (fp ++ e :: (sgn ++ es))))
        = decimalToBits (digitsVal (ip ++ fp)) (signedExp sgn es - (fp.length : Int)) := by
  have hdot := fun t => parseNumLitBits_decimal ip ('.' :: t) hip hne (.inr ⟨_, _, rfl, .inl rfl⟩)
  have hexp := fun t => parseNumLitBits_decimal ip (e :: t) hip hne (.inr ⟨_, _, rfl, .inr he⟩)
  refine ⟨?_, ?_, ?_⟩
  · have h2 := scanDecimal_frac ip fp [] hip hfp (.inl hne) (by intro c t e; cases e)
    rw [List.append_nil] at h2
    rw [hdot, h2]; rfl
  · have h2 := scanDecimal_noFrac ip (e :: (sgn ++ es)) hip hne (stops_exp _ he)
    rw [expTail_exp _ _ e sgn es he hs hes hes0, Int.sub_zero] at h2
    rw [hexp, h2]
    rfl
  · have h2 := scanDecimal_frac ip fp (e :: (sgn ++ es)) hip hfp (.inl hne) (stops_exp _ he)
    rw [expTail_exp _ _ e sgn es he hs hes hes0] at h2
    rw [hdot, h2]; rfl

/-- FINDING, general form: a second fraction group (`1.2.3`, a word of `(?:[.][0-9]+)+`) -/
theorem parseNumLitBits_two_dots (ip fp rest : List Char) (hip : ∀ x ∈ ip, isDigit x = true)
    (hne : ip ≠ []) (hfp : ∀ x ∈ fp, isDigit x = true) :
    parseNumLitBits (String.ofList (ip ++ '.' :: (fp ++ '.' :: rest))) = none := by
  rw [parseNumLitBits_decimal ip _ hip hne (.inr ⟨_, _, rfl, .inl rfl⟩),
    scanDecimal_frac ip fp _ hip hfp (.inl hne) (by intro c t h; cases h; exact ⟨by decide, by simp⟩),
    expTail_other _ _ _ _ (by decide) (by decide)]
  rfl

/-- FINDING, general form: anything that is not a digit after the digits of an exponent, in particular a second
    exponent group (`1e2e3`, `1.5e2e3`: words of `(?:[eE][-+]?[0-9]+)+`).  `frac` is the optional fraction part. -/
theorem parseNumLitBits_two_exps (ip frac : List Char) (e : Char) (sgn es : List Char) (c : Char)
    (rest : List Char) (hip : ∀ x ∈ ip, isDigit x = true) (hne : ip ≠ [])
    (hfrac : frac = [] ∨ ∃ fp, frac = '.' :: fp ∧ ∀ x ∈ fp, isDigit x = true)
    (he : e = 'e' ∨ e = 'E') (hs : sgn = [] ∨ sgn = ['+'] ∨ sgn = ['-'])
    (hes : ∀ x ∈ es, isDigit x = true) (hes0 : es ≠ []) (hc : isDigit c = false) :
    parseNumLitBits (String.ofList (ip ++ (frac ++ e :: (sgn ++ (es ++ c :: rest))))) = none := by
  rcases hfrac with rfl | ⟨fp, rfl, hfp⟩
  · rw [List.nil_append, parseNumLitBits_decimal ip _ hip hne (.inr ⟨_, _, rfl, .inr he⟩),
      scanDecimal_noFrac ip _ hip hne (stops_exp _ he), expTail_junk _ _ e sgn es c rest hs hes hes0 hc]
    rfl
  · rw [List.cons_append, parseNumLitBits_decimal ip _ hip hne (.inr ⟨_, _, rfl, .inl rfl⟩),
      scanDecimal_frac ip fp _ hip hfp (.inl hne) (stops_exp _ he),
      expTail_junk _ _ e sgn es c rest hs hes hes0 hc]
    rfl

/-! ## the lexer's formal languages (`Yae.Spec.Regex`)

The three radix patterns and the integer pattern share the body `(?:0|first rest*)`: `litBody_all`. -/

open Re in
theorem matches_of_matchLen {r : Re} {s : List Char} (h : r.matchLen s = some s.length) :
    r.Matches s := by
  have := (matchLen_take h).2
  rwa [List.take_length] at this

/-- `x` is a digit of `base` for `strconv`; `digitsOK base ds` unfolds to `ds ≠ [] ∧ ∀ c ∈ ds, okDigit base c` -/
def okDigit (base : Nat) (x : Char) : Prop := ∃ d, baseDigit x = some d ∧ d < base

theorem okDigit_of_toNat {base : Nat} {x : Char}
    (h : (48 ≤ x.toNat ∧ x.toNat ≤ 57 ∧ x.toNat - 48 < base) ∨
      (97 ≤ x.toNat ∧ x.toNat ≤ 122 ∧ x.toNat - 87 < base) ∨
      (65 ≤ x.toNat ∧ x.toNat ≤ 90 ∧ x.toNat - 55 < base)) : okDigit base x := by
  unfold okDigit baseDigit
  simp only [char_le_toNat, Bool.and_eq_true, decide_eq_true_eq, Char.reduceToNat]
  rcases h with ⟨h1, h2, h3⟩ | ⟨h1, h2, h3⟩ | ⟨h1, h2, h3⟩
  · rw [if_pos ⟨h1, h2⟩]; exact ⟨_, rfl, h3⟩
  · rw [if_neg (by omega), if_pos ⟨h1, h2⟩]; exact ⟨_, rfl, h3⟩
  · rw [if_neg (by omega), if_neg (by omega), if_pos ⟨h1, h2⟩]; exact ⟨_, rfl, h3⟩

open Re in
theorem litBody_all (P : Char → Prop) (first : Re) (rest : List CItem) (h0 : P '0')
    (hf : ∀ u, first.Matches u → ∃ x, u = [x] ∧ P x)
    (hr : ∀ x, clsTest false rest x = true → P x) {w : List Char}
    (h : (Re.grp (.alt (.chr '0') (.cat first (.star (.cls false rest))))).Matches w) :
    w ≠ [] ∧ ∀ c ∈ w, P c := by
  rcases h.grp_inv.alt_inv with h | h
  · have := h.chr_inv; subst this
    exact ⟨by simp, by simpa using h0⟩
  · obtain ⟨u, v, rfl, hu, hv⟩ := h.cat_inv
    obtain ⟨x, rfl, hx⟩ := hf u hu
    refine ⟨by simp, List.forall_mem_cons.2 ⟨hx, ?_⟩⟩
    refine Matches.star_induction (P := fun v => ∀ c ∈ v, P c) (by simp) ?_ hv
    intro a b ha _ ih
    obtain ⟨y, rfl, hy⟩ := ha.cls_inv
    exact List.forall_mem_cons.2 ⟨hr _ hy, ih⟩

local macro "cls_toNat " h:ident : tactic =>
  `(tactic| (simp [clsTest, CItem.test, char_le_toNat] at $h:ident; omega))

open Re in
theorem hex_shape {w : List Char} (h : (reOf .hex).Matches w) :
    ∃ ds, w = '0' :: 'x' :: ds ∧ digitsOK 16 ds := by
  obtain ⟨ds, rfl, hG⟩ := h.radix_split
  refine ⟨ds, rfl, litBody_all (okDigit 16) _ _ ⟨0, by decide, by decide⟩ ?_ ?_ hG⟩
  -- the three ranges of the class one at a time: `omega` is slow on all of them at once
  · intro u hu; obtain ⟨x, rfl, hx⟩ := hu.cls_inv
    simp [clsTest, CItem.test, char_le_toNat] at hx
    exact ⟨x, rfl, okDigit_of_toNat (by rcases hx with h | h | h <;> omega)⟩
  · intro x hx
    simp [clsTest, CItem.test, char_le_toNat] at hx
    exact okDigit_of_toNat (by rcases hx with h | h | h <;> omega)

open Re in
theorem bin_shape {w : List Char} (h : (reOf .bin).Matches w) :
    ∃ ds, w = '0' :: 'b' :: ds ∧ digitsOK 2 ds := by
  obtain ⟨ds, rfl, hG⟩ := h.radix_split
  refine ⟨ds, rfl, litBody_all (okDigit 2) _ _ ⟨0, by decide, by decide⟩ ?_ ?_ hG⟩
  · intro u hu; have := hu.chr_inv; subst this; exact ⟨_, rfl, 1, by decide, by decide⟩
  · intro x hx; exact okDigit_of_toNat (by cls_toNat hx)

open Re in
theorem oct_shape {w : List Char} (h : (reOf .oct).Matches w) :
    ∃ ds, w = '0' :: 'o' :: ds ∧ digitsOK 8 ds := by
  obtain ⟨ds, rfl, hG⟩ := h.radix_split
  refine ⟨ds, rfl, litBody_all (okDigit 8) _ _ ⟨0, by decide, by decide⟩ ?_ ?_ hG⟩
  · intro u hu; obtain ⟨x, rfl, hx⟩ := hu.cls_inv
    exact ⟨x, rfl, okDigit_of_toNat (by cls_toNat hx)⟩
  · intro x hx; exact okDigit_of_toNat (by cls_toNat hx)

open Re in
theorem int_shape {w : List Char} (h : (reOf .int).Matches w) :
    w ≠ [] ∧ ∀ c ∈ w, isDigit c = true := by
  refine litBody_all (fun c => isDigit c = true) _ _ (by decide) ?_ ?_ h
  · intro u hu; obtain ⟨x, rfl, hx⟩ := hu.cls_inv
    exact ⟨x, rfl, (digit_iff_toNat x).2 (by cls_toNat hx)⟩
  · intro x hx; exact (digit_iff_toNat x).2 (by cls_toNat hx)

/-- what `parseNum` answers on every word of the hex pattern (`bin`, `oct`: the same with `bin_shape`,
    `oct_shape`) -/
theorem hex_lexeme_value {w : List Char} (h : (reOf .hex).Matches w) :
    ∃ ds, w = '0' :: 'x' :: ds ∧ parseNumLitBits (String.ofList w)
      = if valueInBase 16 ds < 2 ^ 63 then some (natToBits (valueInBase 16 ds)) else none := by
  obtain ⟨ds, rfl, hds⟩ := hex_shape h
  exact ⟨ds, rfl, parseNumLitBits_radix (.inl ⟨rfl, rfl⟩) hds⟩

/-! Instances, by kernel evaluation on bit patterns (no `Float` is evaluated): the hypotheses of the theorems
above are satisfiable. -/

theorem radix_instances :
    parseNumLitBits "0xff" = some (natToBits 255) ∧ parseNumLitBits "0b101" = some (natToBits 5)
    ∧ parseNumLitBits "0o17" = some (natToBits 15)
    ∧ parseNumLitBits "0x7fffffffffffffff" = some (natToBits (2 ^ 63 - 1)) := by decide

example : parseNumLitBits (String.ofList ('0' :: 'x' :: "8000000000000000".toList)) = none :=
  parseNumLitBits_radix_overflow (.inl ⟨rfl, rfl⟩) (by decide) (by decide)

example : parseNumLitBits "12" = some (natToBits 12) :=
  parseNumLitBits_digits_small ['1', '2'] (by simp) (by decide) (by decide)
/-- at `2^53 + 1` the model rounds (ties to even): same double as `2^53` -/
example : parseNumLitBits "9007199254740993" = some (natToBits 9007199254740992) :=
  (parseNumLitBits_digits "9007199254740993".toList (by decide) (by decide)).trans (by decide)
example : parseNumLitBits "2.50E-3" = decimalToBits 250 (-5) :=
  (parseNumLitBits_float ['2'] ['5', '0'] 'E' ['-'] ['3'] (by decide) (by decide) (by decide)
    (by decide) (by decide) (by decide) (by decide)).2.2
example : parseNumLitBits "1.5" = decimalToBits 15 (-1) ∧ parseNumLitBits "1e2" = decimalToBits 1 2 :=
  have h := parseNumLitBits_float ['1'] ['5'] 'e' [] ['2'] (by decide) (by decide) (by decide)
    (by decide) (by decide) (by decide) (by decide)
  ⟨h.1, h.2.1⟩

end Yae.Num

#print axioms Yae.Num.parseUintBase_eq
#print axioms Yae.Num.parseNumLitBits_radix
#print axioms Yae.Num.natToBits_huge
#print axioms Yae.Num.parseNumLitBits_digits
#print axioms Yae.Num.parseNumLitBits_fmtNat
#print axioms Yae.Num.parseNumLitBits_float
#print axioms Yae.Num.parseNumLitBits_two_dots
#print axioms Yae.Num.parseNumLitBits_two_exps
#print axioms Yae.Num.hex_lexeme_value
#print axioms Yae.Num.oct_shape
