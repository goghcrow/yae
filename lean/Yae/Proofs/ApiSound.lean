/- For `Yae/Props/Api.lean`: one invocation of a Callable of the history is sound.  A Callable that binds early runs
   on the table it was checked with.  A late-binding one runs on the table grown by `ex` since: it stays SOUND
   (not: keeps its result) when every monomorphic key of its tree that `ex` registers again gets a function of the
   SAME TYPE (`SameTyClash`), because `Ann Γ e T` then moves to the grown table (`ann_transfer`, `sameTy_alike`). -/
import Yae.Proofs.ApiHistory
import Yae.Proofs.EngineCheck
import Yae.Proofs.SoundnessMain
import Yae.Proofs.AnnInd
namespace Yae.Api
open Yae Yae.Facade Yae.Sound Yae.EngineHistory Yae.EngineCheck Yae.EngineEval

/-- the outputs of invoking `c` on `venv` that the theorems allow:
(b) the environment check refuses, nothing is evaluated (no event);
(c) it accepts and a well-formed value of the type inferred at compile time is returned;
(d) it accepts and the run stops with an `Allowed` failure.
(Case (a), a step that names no Callable, is in `invoke_out_ok_ty`.) -/
def InvokeOK (c : Callable) (venv : List (String × Val)) (out : Out) : Prop :=
  (∃ err, envCheck c.tenv venv = .error err ∧ out = .result (.error (.env err), [])) ∨
  (envCheck c.tenv venv = .ok () ∧
    ((∃ v evs, out = .result (.ok v, evs) ∧ Sound.HasTy v c.ty) ∨
     (∃ f evs, out = .result (.error (.fail f), evs) ∧ Sound.Allowed f)))

/-- the condition `All` puts on identifiers, when there is none -/
def PT : String → Prop := fun _ => True

def QA (fs fs' : List FunDecl) : String → Int → Prop := fun r i =>
  ∀ d, resolveStatic fs r i = some d → ∃ d', resolveStatic fs' r i = some d' ∧ d'.ty = d.ty

def Transfers (Γ Γ' : TEnv) : AnnKind → Prop
  | .expr e T => All PT (QA Γ.funs Γ'.funs) True e → Ann Γ' e T
  | .elems es el => AllL PT (QA Γ.funs Γ'.funs) True es → AnnElems Γ' es el
  | .pairs ps kT vT => AllP PT (QA Γ.funs Γ'.funs) True ps → AnnPairs Γ' ps kT vT
  | .fields fs tys => AllF PT (QA Γ.funs Γ'.funs) True fs → AnnFields Γ' fs tys
  | .args es tys => AllL PT (QA Γ.funs Γ'.funs) True es → AnnArgs Γ' es tys

section
variable {Γ Γ' : TEnv} (hv : ∀ x, Γ'.lookupVar x = Γ.lookupVar x)
include hv

theorem transfers {K : AnnKind} (h : K.Holds Γ) : Transfers Γ Γ' K := by
  induction h using AnnKind.Holds.induct with simp only [Transfers] at *
  | str | num | time | bool | listNil | mapNil | enil | pnil | fnil | anil =>
    exact fun _ => by constructor
  | listCons _ _ ih ihs => exact fun ha => .listCons (ih ha.1) (ihs ha.2)
  | mapCons _ hp _ _ ihk ihv ihps =>
    exact fun ha => .mapCons (ihk ha.1) hp (ihv ha.2.1) (ihps ha.2.2)
  | obj _ hsh ih => exact fun ha => .obj (ih ha) hsh
  | ident hl => exact fun _ => .ident (by rw [hv]; exact hl)
  | callStatic _ hne hres hty hi iha =>
    intro ha
    have hq := ha.1
    rw [if_neg (by simp [hne])] at hq
    obtain ⟨d', hd', hty'⟩ := hq _ hres
    exact .callStatic (iha ha.2) hne hd' (hty'.trans hty) hi
  | callDyn _ _ hi ihc iha =>
    intro ha
    have hq := ha.1
    rw [if_pos (by simp)] at hq
    exact .callDyn (ihc hq.2) (iha ha.2) hi
  | subList _ _ h3 ihv ihi => exact fun ha => .subList (ihv ha.1) (ihi ha.2) h3
  | subMap _ _ h3 ihv ihi => exact fun ha => .subMap (ihv ha.1) (ihi ha.2) h3
  | member _ hf ih => exact fun ha => .member (ih ha) hf
  | econs _ ht _ ih ihs => exact fun ha => .cons (ih ha.1) ht (ihs ha.2)
  | pcons _ t1 _ t2 _ ihk ihv ihps =>
    exact fun ha => .cons (ihk ha.1) t1 (ihv ha.2.1) t2 (ihps ha.2.2)
  | fcons _ _ ih ihs | acons _ _ ih ihs => exact fun ha => .cons (ih ha.1) (ihs ha.2)

theorem ann_transfer {e : Expr} {T : Ty} (h : Ann Γ e T) :
    All PT (QA Γ.funs Γ'.funs) True e → Ann Γ' e T :=
  transfers hv (K := .expr _ _) h

theorem annElems_transfer : ∀ (es : ExprList) (el : Ty), AnnElems Γ es el →
    AllL PT (QA Γ.funs Γ'.funs) True es → AnnElems Γ' es el :=
  fun _ _ h => transfers hv (K := .elems _ _) h
theorem annPairs_transfer : ∀ (ps : PairList) (kT vT : Ty), AnnPairs Γ ps kT vT →
    AllP PT (QA Γ.funs Γ'.funs) True ps → AnnPairs Γ' ps kT vT :=
  fun _ _ _ h => transfers hv (K := .pairs _ _ _) h
theorem annFields_transfer : ∀ (fs : FieldEList) (tys : FieldList), AnnFields Γ fs tys →
    AllF PT (QA Γ.funs Γ'.funs) True fs → AnnFields Γ' fs tys :=
  fun _ _ h => transfers hv (K := .fields _ _) h
theorem annArgs_transfer : ∀ (es : ExprList) (tys : TyList), AnnArgs Γ es tys →
    AllL PT (QA Γ.funs Γ'.funs) True es → AnnArgs Γ' es tys :=
  fun _ _ h => transfers hv (K := .args _ _) h
end

def SameTyClash (fs ex : List FunDecl) : Expr → Prop :=
  All PT (fun r i => i < 0 → ∀ d', lookupMono ex r = some d' →
    ∀ d, lookupMono fs r = some d → d'.ty = d.ty) True

theorem sameTy_of_noClash {fs ex : List FunDecl} {e : Expr} (h : NoMonoClash ex e) :
    SameTyClash fs ex e :=
  All.mono (fun _ _ => trivial)
    (fun r i hq hi d' hd' _ _ => by rw [hq hi] at hd'; cases hd') (fun h => h) e h

/-- a polymorphic key and a monomorphic key that `ex` leaves alone resolve to the same function, a monomorphic key
that `ex` registers resolves to the one in `ex` -/
theorem sameTy_alike {fs ex : List FunDecl} {e : Expr} (h : SameTyClash fs ex e) :
    All PT (QA fs (fs ++ ex)) True e := by
  refine All.mono (fun _ _ => trivial) (fun r i hq d hd => ?_) (fun h => h) e h
  by_cases hi : i < 0
  · cases hm : lookupMono ex r with
    | none => exact ⟨d, resolveStatic_append ex hd (fun _ => hm), rfl⟩
    | some d' =>
      refine ⟨d', resolveStatic_append_mono ex hi hm, hq hi d' hm d ?_⟩
      unfold resolveStatic at hd
      rw [if_pos hi] at hd
      exact hd
  · exact ⟨d, resolveStatic_append ex hd (fun h => absurd h hi), rfl⟩

theorem invoke_sound_ty {c : Callable} (hok : CallableOK c) {e : Engine} {ex : List FunDecl}
    (hfuns : e.funs = c.funs ++ ex) (hfe : FunsOK e.funs)
    (hlate : c.backend.late = true → SameTyClash c.funs ex c.tree)
    (venv : List (String × Val)) (ext : Externs) (hwf : ∀ p ∈ venv, Sound.WF p.2 = true) :
    InvokeOK c venv (.result (e.invoke c venv ext)) := by
  obtain ⟨hf, d, c', hchk⟩ := hok.checked
  have ht := hok.tenv
  have hA := check_ann (Γ := ⟨c.tenv, c.funs, reservedWords⟩) hf ht _ _ _ _ _ hchk
  have hT : FunsOK (e.tableFor c) ∧ Ann ⟨c.tenv, e.tableFor c, reservedWords⟩ c.tree c.ty := by
    cases hl : c.backend.late with
    | false => rw [tableFor_early hl]; exact ⟨hf, hA⟩
    | true =>
      rw [tableFor_late hl]
      exact ⟨hfe, ann_transfer (Γ := ⟨c.tenv, c.funs, reservedWords⟩)
        (Γ' := ⟨c.tenv, e.funs, reservedWords⟩) (fun _ => rfl) hA
        (by rw [hfuns]; exact sameTy_alike (hlate hl))⟩
  -- `envCheck` (C07), then progress in the environment the check accepted
  unfold InvokeOK Engine.invoke
  cases henv : envCheck c.tenv venv with
  | error err => exact .inl ⟨err, rfl, rfl⟩
  | ok u =>
    cases u
    refine .inr ⟨rfl, ?_⟩
    have hE : EnvOK ⟨c.tenv, e.tableFor c, reservedWords⟩ ⟨venv, e.tableFor c, ext⟩ :=
      envOK_of_accept rfl henv hwf ht
    rcases Sound.progress_run hT.1 hE hT.2 c.backend.dbg with
      ⟨v, evs, hr, hv⟩ | ⟨f, evs, hr, ha⟩
    · left; exact ⟨v, evs, by simp only [hr], hv⟩
    · right; exact ⟨f, evs, by simp only [hr], ha⟩

/-- **The condition on late binding.**  Whenever the history invokes a Callable compiled by `interp.Interp`
(`Backend.late`), the functions registered between the compilation and the invocation register no monomorphic key
that a call of the Callable's tree was resolved to. -/
def LateOK (e : Engine) (ops : List Op) : Prop :=
  ∀ i k venv ext c, ops[i]? = some (.invoke k venv ext) → k < i →
    (e.run ops).2[k]? = some (.compiled (.ok c)) → c.backend.late = true →
    NoMonoClash (regsBetween ops k i) c.tree

/-- `LateOK` with `SameTyClash` for `NoMonoClash` -/
def LateTyOK (e : Engine) (ops : List Op) : Prop :=
  ∀ i k venv ext c, ops[i]? = some (.invoke k venv ext) → k < i →
    (e.run ops).2[k]? = some (.compiled (.ok c)) → c.backend.late = true →
    SameTyClash c.funs (regsBetween ops k i) c.tree

theorem LateOK.lateTyOK {e : Engine} {ops : List Op} (h : LateOK e ops) : LateTyOK e ops :=
  fun i k venv ext c h1 h2 h3 h4 => sameTy_of_noClash (h i k venv ext c h1 h2 h3 h4)

/-- (a) no Callable at step `k`, or the Callable of step `k < i` and (b), (c) or (d) of `InvokeOK` -/
theorem invoke_out_ok_ty {e : Engine} (he : Sound.FunsOK e.funs) {ops : List Op} (hops : OpsOK ops)
    (hvenv : ∀ k venv ext, Op.invoke k venv ext ∈ ops → ∀ p ∈ venv, Sound.WF p.2 = true)
    (hlate : LateTyOK e ops) {i k : Nat} {venv : List (String × Val)} {ext : Externs} {out : Out}
    (hop : ops[i]? = some (.invoke k venv ext)) (hout : (e.run ops).2[i]? = some out) :
    (out = .noCallable ∧ ∀ c, k < i → (e.run ops).2[k]? ≠ some (.compiled (.ok c))) ∨
    ∃ c, k < i ∧ (e.run ops).2[k]? = some (.compiled (.ok c)) ∧
      (∃ times src, ops[k]? = some (.compile times c.tenv src)) ∧ InvokeOK c venv out := by
  rcases run_invoke hop with ⟨h, hno⟩ | ⟨c, hki, hk, h⟩
  · exact .inl ⟨Option.some.inj (hout.symm.trans h), hno⟩
  · obtain ⟨hok, hpre, hf⟩ := callable_history he hops hk
    cases Option.some.inj (hout.symm.trans h)
    exact .inr ⟨c, hki, hk, hpre, invoke_sound_ty hok (hf i hki)
      (run_fst e _ ▸ funsOK_foldl he (hops.take i))
      (fun hl => hlate i k venv ext c hop hki hk hl) venv ext
      (hvenv k venv ext (List.mem_of_getElem? hop))⟩

end Yae.Api
