/-
  The bit fields of `float64(n)` for |n| < 2^53: `int64` reads the word back, it is integer-valued, it prints as `n`.
-/
import Yae.Proofs.NumLemmas
namespace Yae.Num

theorem expField_toNat (b : UInt64) : expField b = b.toNat / 2 ^ 52 % 2048 := by
  unfold expField
  rw [UInt64.toNat_and, UInt64.toNat_shiftRight]
  have e1 : (52 : UInt64).toNat % 64 = 52 := by decide
  have e2 : (0x7FF : UInt64).toNat = 2 ^ 11 - 1 := by decide
  rw [e1, e2, Nat.and_two_pow_sub_one_eq_mod, Nat.shiftRight_eq_div_pow]

theorem fracField_toNat (b : UInt64) : fracField b = b.toNat % 2 ^ 52 := by
  unfold fracField
  rw [UInt64.toNat_and]
  have e2 : fracMask.toNat = 2 ^ 52 - 1 := by decide
  rw [e2, Nat.and_two_pow_sub_one_eq_mod]

theorem signBit_iff (b : UInt64) : signBit b = true ↔ 2 ^ 63 ≤ b.toNat := by
  have hlt := b.toNat_lt
  -- `b &&& 2^63` is bit 63 of `b`, in place
  have e : (b &&& signMask).toNat = 2 ^ 63 * (b.toNat / 2 ^ 63) := by
    rw [UInt64.toNat_and, show signMask.toNat = 2 ^ 63 by decide]
    have h1 := Nat.and_div_two_pow (a := b.toNat) (b := 2 ^ 63) (n := 63)
    have h2 := Nat.and_mod_two_pow (a := b.toNat) (b := 2 ^ 63) (n := 63)
    rw [Nat.mod_self, Nat.and_zero] at h2
    rw [Nat.div_self (by decide), show 1 = 2 ^ 1 - 1 from rfl, Nat.and_two_pow_sub_one_eq_mod] at h1
    omega
  rw [signBit, bne_iff_ne, Ne, ← UInt64.toNat_inj, e]
  have : (0 : UInt64).toNat = 0 := rfl
  omega

theorem bitLen_bounds (n : Nat) (h0 : 0 < n) : 2 ^ (bitLen n - 1) ≤ n ∧ n < 2 ^ bitLen n ∧ 1 ≤ bitLen n := by
  have hne : n ≠ 0 := by omega
  unfold bitLen
  have : (n == 0) = false := by simp [hne]
  simp only [this]
  refine ⟨?_, ?_, by simp⟩
  · simpa using Nat.log2_self_le hne
  · exact Nat.lt_log2_self

theorem bitLen_le_of_lt (n k : Nat) (h0 : 0 < n) (h : n < 2 ^ k) : bitLen n ≤ k := by
  have hne : n ≠ 0 := by omega
  unfold bitLen
  have : (n == 0) = false := by simp [hne]
  simp only [this]
  have := (Nat.log2_lt hne (k := k)).mpr h
  simp
  omega

theorem shiftNat_neg (m s : Nat) : shiftNat m (-(s : Int)) = m >>> s := by
  cases s with
  | zero => simp [shiftNat]
  | succ k =>
    have : (-((k + 1 : Nat) : Int)) = Int.negSucc k := by rw [Int.negSucc_eq]; omega
    rw [this]
    simp [shiftNat]

theorem or_signMask (B : Nat) (h : B < 2 ^ 63) :
    (UInt64.ofNat B ||| signMask) = UInt64.ofNat (2 ^ 63 + B) := by
  apply UInt64.toNat_inj.mp
  rw [UInt64.toNat_or, UInt64.toNat_ofNat', UInt64.toNat_ofNat', Nat.mod_eq_of_lt (by omega),
    Nat.mod_eq_of_lt (by omega)]
  have e2 : signMask.toNat = 2 ^ 63 := by decide
  rw [e2, Nat.or_comm]
  have := Nat.two_pow_add_eq_or_of_lt h 1
  simpa using this.symm

/-- value of `int64(f)` read off the fields of a normal double whose integer part has no more
    than 53 bits: sign · (M >> s) where the exponent field is 1075 - s -/
theorem toInt64Bits_of_fields (b : UInt64) (M s : Nat) (hs : s ≤ 52)
    (hE : expField b = 1075 - s) (hF : fracField b = M - 2 ^ 52) (hM1 : 2 ^ 52 ≤ M) (hM2 : M < 2 ^ 53) :
    toInt64Bits b = if signBit b then -((M >>> s : Nat) : Int) else ((M >>> s : Nat) : Int) := by
  have hD : decompose b = (M, -(s : Int)) := by
    unfold decompose
    simp only [hE, hF]
    have : (1075 - s == 0) = false := by simp; omega
    simp only [this]
    rw [if_neg (by decide)]
    apply Prod.ext
    · show M - 2 ^ 52 + 2 ^ 52 = M; omega
    · show ((1075 - s : Nat) : Int) - 1075 = -(s : Int); omega
  have hle : M >>> s ≤ M := by
    rw [Nat.shiftRight_eq_div_pow]; exact Nat.div_le_self _ _
  unfold toInt64Bits
  simp only [hE, hD, shiftNat_neg]
  have : (1075 - s == 2047) = false := by simp; omega
  simp only [this, minInt64]
  generalize M >>> s = v at *
  cases signBit b <;> simp <;> omega

/-- fields of `float64(n)` for 0 < n < 2^53: with `s = 53 - bitLen n` the mantissa is `M = n·2^s`; its top bit
(bit 52, the hidden bit) adds 1 to the `1074 - s` in front, so the exponent field is `1075 - s` -/
theorem natToBits_fields (n : Nat) (h0 : 0 < n) (h : n < 2 ^ 53) :
    ∃ s M, s ≤ 52 ∧ 2 ^ 52 ≤ M ∧ M < 2 ^ 53 ∧ M >>> s = n ∧ M % 2 ^ s = 0 ∧
      natToBits n = UInt64.ofNat ((1074 - s) * 2 ^ 52 + M) := by
  have hL := bitLen_le_of_lt n 53 h0 h
  have ⟨hlo, hhi, hL1⟩ := bitLen_bounds n h0
  have hmul : n * 2 ^ (53 - bitLen n) < 2 ^ 53 := by
    have hpow' : 2 ^ bitLen n * 2 ^ (53 - bitLen n) = 2 ^ 53 := by
      rw [← Nat.pow_add]; congr 1; omega
    rw [← hpow']; exact Nat.mul_lt_mul_of_pos_right hhi (Nat.pow_pos (by decide))
  refine ⟨53 - bitLen n, n * 2 ^ (53 - bitLen n), by omega, ?_, hmul, ?_, ?_, ?_⟩
  · have hpow : 2 ^ (bitLen n - 1) * 2 ^ (53 - bitLen n) = 2 ^ 52 := by
      rw [← Nat.pow_add]; congr 1; omega
    rw [← hpow]; exact Nat.mul_le_mul_right _ hlo
  · rw [Nat.shiftRight_eq_div_pow, Nat.mul_div_cancel _ (Nat.pow_pos (by decide))]
  · exact Nat.mul_mod_left _ _
  · unfold natToBits
    have : (n == 0) = false := by simp; omega
    simp only [this]
    unfold packRound
    simp only []
    by_cases h53 : bitLen n = 53
    · have hd : max ((bitLen n : Int) - 53) (-1074 - 0) = Int.ofNat 0 := by
        rw [h53]; decide
      rw [hd]
      simp only [h53]
      have hlt : ¬ ((0 + Int.ofNat 0 + 1074) * 2 ^ 52 + (n : Int) ≥ 9218868437227405312) := by
        simp only [Int.ofNat_eq_natCast]; omega
      rw [if_neg (by decide), if_neg hlt]
      congr 1
      simp only [Int.ofNat_eq_natCast]; omega
    · obtain ⟨k, hk⟩ : ∃ k, 53 - bitLen n = k + 1 := ⟨52 - bitLen n, by omega⟩
      have hd : max ((bitLen n : Int) - 53) (-1074 - 0) = Int.negSucc k := by
        omega
      rw [hd]
      simp only [hk]
      rw [hk] at hmul
      rw [Nat.shiftLeft_eq]
      generalize 2 ^ (k + 1) = P at *
      have hk52 : k + 1 ≤ 52 := by omega
      have hlt : ¬ ((0 + Int.negSucc k + 1074) * 2 ^ 52 + ((n * P : Nat) : Int) ≥ 9218868437227405312) := by
        rw [Int.negSucc_eq]; omega
      rw [if_neg (by decide), if_neg hlt]
      apply congrArg UInt64.ofNat
      rw [Int.negSucc_eq]; omega

theorem lowBits_zero (s M c : Nat) (hs : s ≤ 52) (hM : M % 2 ^ s = 0) :
    (2 ^ 63 * c + ((1074 - s) * 2 ^ 52 + M)) % 2 ^ s = 0 := by
  apply Nat.mod_eq_zero_of_dvd
  have d1 : 2 ^ s ∣ 2 ^ 52 := Nat.pow_dvd_pow 2 hs
  have d2 : 2 ^ s ∣ 2 ^ 63 := Nat.pow_dvd_pow 2 (by omega)
  exact Nat.dvd_add (Nat.dvd_trans d2 (Nat.dvd_mul_right _ _))
    (Nat.dvd_add (Nat.dvd_trans d1 (Nat.dvd_mul_left _ _)) (Nat.dvd_of_mod_eq_zero hM))

theorem intToBits_fields (n : Int) (h0 : n ≠ 0) (h : n.natAbs < 2 ^ 53) :
    ∃ s M, s ≤ 52 ∧ 2 ^ 52 ≤ M ∧ M < 2 ^ 53 ∧ M >>> s = n.natAbs ∧
      signBit (intToBits n) = decide (n < 0) ∧ expField (intToBits n) = 1075 - s ∧
      fracField (intToBits n) = M - 2 ^ 52 ∧ (intToBits n).toNat % 2 ^ s = 0 := by
  obtain ⟨s, M, hs, hM1, hM2, hsh, hlow, hb⟩ := natToBits_fields n.natAbs (by omega) h
  have hB : (1074 - s) * 2 ^ 52 + M < 2 ^ 63 := by omega
  -- the word is `2^63 * c + …`, `c` the sign
  obtain ⟨c, hc, hc1, hw⟩ : ∃ c, (c = 1 ↔ n < 0) ∧ c ≤ 1 ∧
      intToBits n = UInt64.ofNat (2 ^ 63 * c + ((1074 - s) * 2 ^ 52 + M)) := by
    unfold intToBits
    by_cases hn : n < 0
    · exact ⟨1, by simp [hn], Nat.le_refl _, by rw [if_pos hn, hb, or_signMask _ hB]⟩
    · exact ⟨0, by simp [hn], Nat.zero_le _, by rw [if_neg hn, hb, Nat.mul_zero, Nat.zero_add]⟩
  have ht : (intToBits n).toNat = 2 ^ 63 * c + ((1074 - s) * 2 ^ 52 + M) := by
    rw [hw, UInt64.toNat_ofNat', Nat.mod_eq_of_lt (by omega)]
  refine ⟨s, M, hs, hM1, hM2, hsh, ?_, ?_, ?_, ?_⟩
  · rw [Bool.eq_iff_iff, signBit_iff, ht, decide_eq_true_iff]; omega
  · rw [expField_toNat, ht]; omega
  · rw [fracField_toNat, ht]; omega
  · rw [ht]; exact lowBits_zero s M c hs hlow

/-- `int64(float64(n)) == n` for |n| < 2^53 -/
theorem toInt64Bits_intToBits (n : Int) (h : n.natAbs < 2 ^ 53) : toInt64Bits (intToBits n) = n := by
  by_cases h0 : n = 0
  · subst h0; decide
  obtain ⟨s, M, hs, hM1, hM2, hsh, hsg, hE, hF, _⟩ := intToBits_fields n h0 h
  rw [toInt64Bits_of_fields _ M s hs hE hF hM1 hM2, hsh, hsg]
  by_cases hn : n < 0 <;> simp [hn] <;> omega

theorem intToBits_natCast (n : Nat) : intToBits (n : Int) = natToBits n := by
  unfold intToBits
  rw [if_neg (by omega), Int.natAbs_natCast]

theorem fracMask_shift (s : Nat) (hs : s ≤ 52) :
    (fracMask >>> UInt64.ofNat (52 - s)).toNat = 2 ^ s - 1 := by
  have : ∀ s : Fin 53, (fracMask >>> UInt64.ofNat (52 - s.val)).toNat = 2 ^ s.val - 1 := by decide
  exact this ⟨s, by omega⟩

theorem and_not_lowMask (b m : UInt64) (s : Nat) (hm : m.toNat = 2 ^ s - 1) (hb : b.toNat % 2 ^ s = 0) :
    b &&& ~~~m = b := by
  apply UInt64.toNat_inj.mp
  rw [UInt64.toNat_and, UInt64.toNat_not]
  apply Nat.eq_of_testBit_eq
  intro i
  rw [Nat.testBit_and]
  cases hbi : b.toNat.testBit i with
  | false => simp
  | true =>
    have hi64 : i < 64 :=
      (Nat.pow_lt_pow_iff_right (by decide)).1 (Nat.lt_of_le_of_lt (Nat.ge_two_pow_of_testBit hbi) b.toNat_lt)
    have his : ¬ i < s := by
      intro hlt
      have := Nat.testBit_mod_two_pow b.toNat s i
      rw [hb] at this
      simp [hlt, hbi] at this
    have hmlt : m.toNat < 2 ^ 64 := m.toNat_lt
    have e : UInt64.size - 1 - m.toNat = 2 ^ 64 - (m.toNat + 1) := by
      simp [UInt64.size]
    rw [e, Nat.testBit_two_pow_sub_succ hmlt, hm, Nat.testBit_two_pow_sub_one]
    simp [hi64, his]

theorem magMask_toNat (b : UInt64) : (b &&& magMask).toNat = b.toNat % 2 ^ 63 := by
  rw [UInt64.toNat_and]
  have e2 : magMask.toNat = 2 ^ 63 - 1 := by decide
  rw [e2, Nat.and_two_pow_sub_one_eq_mod]

/-- a double whose exponent field is at most 1075 (|x| < 2^53) is inside the int64 range -/
theorem inInt64RangeBits_of_expField (b : UInt64) (hE : expField b ≤ 1075) :
    inInt64RangeBits b = true := by
  unfold inInt64RangeBits
  rw [expField_toNat] at hE
  have e : twoPow63Bits.toNat = 1086 * 2 ^ 52 := by decide
  have hlt := b.toNat_lt
  simp only [magMask_toNat, e]
  cases signBit b <;> simp <;> omega

theorem isIntegralBits_of_fields (b : UInt64) (s : Nat) (hs : s ≤ 52)
    (hE : expField b = 1075 - s) (hlow : b.toNat % 2 ^ s = 0) : isIntegralBits b = true := by
  unfold isIntegralBits bitsIsNaN truncBits
  have h1 : (1075 - s == 2047) = false := by simp; omega
  have h2 : ¬ (1075 - s < 1023) := by omega
  simp only [hE, h1, h2, if_false]
  by_cases h3 : 1075 - s ≥ 1075
  · simp [h3]
  · simp only [h3, if_false]
    have e : 1075 - s - 1023 = 52 - s := by omega
    rw [e, and_not_lowMask b _ s (fracMask_shift s hs) hlow]
    simp

/-- `float64(n)` is integer-valued (`NumVal.IsInt`) for |n| < 2^53 -/
theorem isIntBits_intToBits (n : Int) (h : n.natAbs < 2 ^ 53) : isIntBits (intToBits n) = true := by
  by_cases h0 : n = 0
  · subst h0; decide
  obtain ⟨s, _, hs, _, _, _, _, hE, _, hlow⟩ := intToBits_fields n h0 h
  unfold isIntBits
  rw [isIntegralBits_of_fields _ s hs hE hlow, inInt64RangeBits_of_expField _ (by omega)]
  rfl

/-- yae prints the double nearest to an integer |n| < 2^53 as that integer's decimal text -/
theorem renderNumBits_intToBits (n : Int) (h : n.natAbs < 2 ^ 53) :
    renderNumBits (intToBits n) = fmtInt n := by
  unfold renderNumBits
  rw [isIntBits_intToBits n h, toInt64Bits_intToBits n h]
  simp

/-- the `Nat` instances of `toInt64Bits_intToBits` and `renderNumBits_intToBits` (`intToBits_natCast`) -/
theorem toInt64Bits_natToBits (n : Nat) (h : n < 2 ^ 53) : toInt64Bits (natToBits n) = n := by
  rw [← intToBits_natCast]; exact toInt64Bits_intToBits n (by simpa using h)

theorem renderNumBits_natToBits (n : Nat) (h : n < 2 ^ 53) : renderNumBits (natToBits n) = fmtNat n := by
  rw [← intToBits_natCast]; exact renderNumBits_intToBits n (by simpa using h)

/-- distinct integers of absolute value below 2^53 have distinct renderings (as map keys they do not collide) -/
theorem renderNumBits_intToBits_injective (a b : Int) (ha : a.natAbs < 2 ^ 53) (hb : b.natAbs < 2 ^ 53)
    (h : renderNumBits (intToBits a) = renderNumBits (intToBits b)) : a = b := by
  rw [renderNumBits_intToBits a ha, renderNumBits_intToBits b hb] at h
  exact fmtInt_injective h

theorem isIntBits_integral (b : UInt64) (h : isIntBits b = true) : isIntegralBits b = true := by
  unfold isIntBits at h
  simp at h
  exact h.1

theorem isIntBits_not_nan (b : UInt64) (h : isIntBits b = true) : bitsIsNaN b = false := by
  have := isIntBits_integral b h
  unfold isIntegralBits at this
  simp at this
  exact this.1

/-- `isIntBits` includes the int64 range check: where it holds, the rendering without that check
gives the same text -/
theorem renderNumPinnedBits_eq (b : UInt64) (h : isIntBits b = true) :
    renderNumPinnedBits b = renderNumBits b := by
  unfold renderNumPinnedBits renderNumBits
  rw [h, isIntBits_integral b h]

end Yae.Num

#print axioms Yae.Num.toInt64Bits_intToBits
#print axioms Yae.Num.renderNumBits_intToBits_injective
