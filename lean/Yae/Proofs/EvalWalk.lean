/-
  The one induction over `eval` (fuel, and the lists of operands inside) for the facts that compare two runs of one
  tree — in two environments, in debug mode and in plain mode, or a run with itself — through a relation `L`
  between their logs and an invariant `good` of values.

  `Rel L good x y`: from logs related by `L` the computations `x` and `y` return the same result, a `good` one when
  it is a value, and leave logs related by `L`.  `Walk.eval`: the two runs of a tree are so related under the
  conditions that are the fields of `Walk`.
-/
import Yae.Proofs.EvalMLemmas
import Yae.Proofs.ValInv
namespace Yae.EngineEval
open Yae

mutual
/-- in the positions `eval` visits, every identifier satisfies `P`, every statically dispatched
call `Q resolved index`, and `D` holds if there is a dynamically dispatched call.  (The callee of
a statically dispatched call is an identifier that is never evaluated.) -/
def All (P : String → Prop) (Q : String → Int → Prop) (D : Prop) : Expr → Prop
  | .list _ es _ => AllL P Q D es
  | .map _ ps _ => AllP P Q D ps
  | .obj _ fs _ => AllF P Q D fs
  | .ident _ x => P x
  | .call _ _ callee args _ resolved index =>
    (if resolved == "" then D ∧ All P Q D callee else Q resolved index) ∧ AllL P Q D args
  | .subscript _ _ var idx _ => All P Q D var ∧ All P Q D idx
  | .member _ _ obj _ _ _ _ => All P Q D obj
  | _ => True
def AllL (P : String → Prop) (Q : String → Int → Prop) (D : Prop) : ExprList → Prop
  | .nil => True
  | .cons e es => All P Q D e ∧ AllL P Q D es
def AllP (P : String → Prop) (Q : String → Int → Prop) (D : Prop) : PairList → Prop
  | .nil => True
  | .cons k v ps => All P Q D k ∧ All P Q D v ∧ AllP P Q D ps
def AllF (P : String → Prop) (Q : String → Int → Prop) (D : Prop) : FieldEList → Prop
  | .nil => True
  | .cons _ e fs => All P Q D e ∧ AllF P Q D fs
end

theorem AllL.get {P : String → Prop} {Q : String → Int → Prop} {D : Prop} :
    ∀ (es : ExprList) (i : Nat) (a : Expr), AllL P Q D es → es.get? i = some a → All P Q D a
  | .cons e es, 0, a, h, hg => by cases hg; exact h.1
  | .cons e es, i+1, a, h, hg => AllL.get es i a h.2 hg

mutual
theorem All.top : ∀ e : Expr, All (fun _ => True) (fun _ _ => True) True e
  | .str .. | .num .. | .time .. | .bool .. | .ident .. => trivial
  | .unary .. | .binary .. | .ternary .. | .group .. => trivial
  | .list _ es _ => AllL.top es
  | .map _ ps _ => AllP.top ps
  | .obj _ fs _ => AllF.top fs
  | .call _ _ callee args _ resolved _ => by
    refine ⟨?_, AllL.top args⟩
    split
    · exact ⟨trivial, All.top callee⟩
    · trivial
  | .subscript _ _ var idx _ => ⟨All.top var, All.top idx⟩
  | .member _ _ obj _ _ _ _ => All.top obj
termination_by structural e => e
theorem AllL.top : ∀ es : ExprList, AllL (fun _ => True) (fun _ _ => True) True es
  | .nil => trivial
  | .cons e es => ⟨All.top e, AllL.top es⟩
termination_by structural es => es
theorem AllP.top : ∀ ps : PairList, AllP (fun _ => True) (fun _ _ => True) True ps
  | .nil => trivial
  | .cons k v ps => ⟨All.top k, All.top v, AllP.top ps⟩
termination_by structural ps => ps
theorem AllF.top : ∀ fs : FieldEList, AllF (fun _ => True) (fun _ _ => True) True fs
  | .nil => trivial
  | .cons _ e fs => ⟨All.top e, AllF.top fs⟩
termination_by structural fs => fs
end

section mono
-- `hP hQ hD` are `include`d in all four mutual theorems; only `All.mono₂` names them, the other
-- three pass them on through the recursive calls, which the linter reports as unused
set_option linter.unusedSectionVars false
variable {P P' P'' : String → Prop} {Q Q' Q'' : String → Int → Prop} {D D' D'' : Prop}
  (hP : ∀ x, P x → P' x → P'' x) (hQ : ∀ r i, Q r i → Q' r i → Q'' r i) (hD : D → D' → D'')
include hP hQ hD

mutual
theorem All.mono₂ : ∀ e : Expr, All P Q D e → All P' Q' D' e → All P'' Q'' D'' e
  | .str .., _, _ | .num .., _, _ | .time .., _, _ | .bool .., _, _ => trivial
  | .unary .., _, _ | .binary .., _, _ | .ternary .., _, _ | .group .., _, _ => trivial
  | .list _ es _, h, h' => AllL.mono₂ es h h'
  | .map _ ps _, h, h' => AllP.mono₂ ps h h'
  | .obj _ fs _, h, h' => AllF.mono₂ fs h h'
  | .ident _ x, h, h' => hP x h h'
  | .call _ _ callee args _ resolved index, h, h' => by
    refine ⟨?_, AllL.mono₂ args h.2 h'.2⟩
    have h1 := h.1
    have h1' := h'.1
    split
    · next hr =>
      rw [if_pos hr] at h1 h1'
      exact ⟨hD h1.1 h1'.1, All.mono₂ callee h1.2 h1'.2⟩
    · next hr => rw [if_neg hr] at h1 h1'; exact hQ _ _ h1 h1'
  | .subscript _ _ var idx _, h, h' => ⟨All.mono₂ var h.1 h'.1, All.mono₂ idx h.2 h'.2⟩
  | .member _ _ obj _ _ _ _, h, h' => All.mono₂ obj h h'
termination_by structural e => e
theorem AllL.mono₂ : ∀ es : ExprList, AllL P Q D es → AllL P' Q' D' es → AllL P'' Q'' D'' es
  | .nil, _, _ => trivial
  | .cons e es, h, h' => ⟨All.mono₂ e h.1 h'.1, AllL.mono₂ es h.2 h'.2⟩
termination_by structural es => es
theorem AllP.mono₂ : ∀ ps : PairList, AllP P Q D ps → AllP P' Q' D' ps → AllP P'' Q'' D'' ps
  | .nil, _, _ => trivial
  | .cons k v ps, h, h' =>
    ⟨All.mono₂ k h.1 h'.1, All.mono₂ v h.2.1 h'.2.1, AllP.mono₂ ps h.2.2 h'.2.2⟩
termination_by structural ps => ps
theorem AllF.mono₂ : ∀ fs : FieldEList, AllF P Q D fs → AllF P' Q' D' fs → AllF P'' Q'' D'' fs
  | .nil, _, _ => trivial
  | .cons _ e fs, h, h' => ⟨All.mono₂ e h.1 h'.1, AllF.mono₂ fs h.2 h'.2⟩
termination_by structural fs => fs
end
end mono

theorem All.mono {P P' : String → Prop} {Q Q' : String → Int → Prop} {D D' : Prop}
    (hP : ∀ x, P x → P' x) (hQ : ∀ r i, Q r i → Q' r i) (hD : D → D') (e : Expr)
    (h : All P Q D e) : All P' Q' D' e :=
  All.mono₂ (fun x h _ => hP x h) (fun r i h _ => hQ r i h) (fun h _ => hD h) e h h

/-- does the function referred to write to standard output?  (The host functions of the model —
`HostBeh` — return an argument or a constant, fail, or force thunks: none prints.) -/
def refPrints : FunRef → Bool
  | .builtin idx =>
    match builtins[idx]? with
    | some b => decide (b.id = .PRINT_ANY)
    | none => false
  | .host _ _ => false

end Yae.EngineEval

namespace Yae
open EvalM EngineEval

def Rel (L : List Event → List Event → Prop) {α : Type} (good : α → Prop) (x y : EvalM α) : Prop :=
  ∀ l₁ l₂, L l₁ l₂ → (x l₁).1 = (y l₂).1 ∧ L (x l₁).2 (y l₂).2 ∧ ∀ a, (x l₁).1 = .ok a → good a

section
variable {L : List Event → List Event → Prop} {α β : Type} {good : α → Prop}

theorem Rel.pure {a : α} (h : good a) : Rel L good (pure a) (pure a) :=
  fun _ _ hl => ⟨rfl, hl, fun _ hb => by cases hb; exact h⟩

theorem Rel.fail (f : Fail) : Rel L good (fail f) (fail f) :=
  fun _ _ hl => ⟨rfl, hl, fun _ hb => by cases hb⟩

theorem Rel.lift {x : Except Fail α} (h : ∀ a, x = .ok a → good a) : Rel L good (lift x) (lift x) :=
  fun _ _ hl => ⟨rfl, hl, h⟩

theorem Rel.emitAll {es : List Event} (h : ∀ l₁ l₂, L l₁ l₂ → L (es.reverse ++ l₁) (es.reverse ++ l₂)) :
    Rel L (fun _ => True) (emitAll es) (emitAll es) :=
  fun _ _ hl => ⟨rfl, h _ _ hl, fun _ _ => trivial⟩

theorem Rel.bind {g : β → Prop} {x y : EvalM α} {f f' : α → EvalM β} (hx : Rel L good x y)
    (hf : ∀ a, good a → Rel L g (f a) (f' a)) : Rel L g (x >>= f) (y >>= f') := by
  intro l₁ l₂ hl
  rw [EvalM.bind_apply, EvalM.bind_apply]
  obtain ⟨h1, h2, h3⟩ := hx l₁ l₂ hl
  rcases hxl : x l₁ with ⟨r, l⟩
  rcases hyl : y l₂ with ⟨r', l'⟩
  rw [hxl, hyl] at h1 h2
  rw [hxl] at h3
  cases h1
  cases r with
  | error e => exact ⟨rfl, h2, fun _ hb => by cases hb⟩
  | ok a => exact hf a (h3 a rfl) l l' h2

end

def PrintOK (L : List Event → List Event → Prop) : Prop :=
  ∀ t l₁ l₂, L l₁ l₂ → L (.print t :: l₁) (.print t :: l₂)

structure Walk (L : List Event → List Event → Prop) (good : Val → Prop) (dbg₁ dbg₂ : Bool)
    (ρ₁ ρ₂ : REnv) (P : String → Prop) (Q : String → Int → Prop) (D : Prop) : Prop where
  val : ValInv good
  /-- the strict built-ins read the externs -/
  ext : ρ₁.ext = ρ₂.ext
  call : ∀ n a l₁ l₂, L l₁ l₂ → L (.call n a :: l₁) (.call n a :: l₂)
  dbg : ∀ v c l₁ l₂, L l₁ l₂ →
    L (if dbg₁ then .dbg v c :: l₁ else l₁) (if dbg₂ then .dbg v c :: l₂ else l₂)
  var : ∀ x, P x → ρ₁.lookupVar x = ρ₂.lookupVar x ∧ ∀ v, ρ₂.lookupVar x = some v → good v
  fn : ∀ r i, Q r i → resolveStatic ρ₁.funs r i = resolveStatic ρ₂.funs r i ∧
    ∀ d, resolveStatic ρ₂.funs r i = some d → PrintOK L ∨ refPrints d.ref = false
  /-- the callee of a dynamically dispatched call is a good value by induction -/
  dyn : D → ∀ ty ref isLazy, good (.fn ty ref isLazy) → PrintOK L ∨ refPrints ref = false

section
variable {L : List Event → List Event → Prop} {good : Val → Prop} {dbg₁ dbg₂ : Bool}
  {ρ₁ ρ₂ : REnv} {P : String → Prop} {Q : String → Int → Prop} {D : Prop}
variable {f : Nat}
  (ih : ∀ e, All P Q D e → Rel L good (eval f dbg₁ ρ₁ e) (eval f dbg₂ ρ₂ e))
include ih

theorem Rel.evalList : ∀ es, AllL P Q D es →
    Rel L (fun vs => ∀ v ∈ vs.toList, good v) (evalList f dbg₁ ρ₁ es) (evalList f dbg₂ ρ₂ es)
  | .nil, _ => by rw [Yae.evalList, Yae.evalList]; exact Rel.pure fun _ h => nomatch h
  | .cons e es, h => by
    rw [Yae.evalList, Yae.evalList]
    exact Rel.bind (ih e h.1) fun v hv => Rel.bind (Rel.evalList es h.2) fun vs hvs =>
      Rel.pure (List.forall_mem_cons.2 ⟨hv, hvs⟩)

theorem Rel.evalFields : ∀ fs, AllF P Q D fs →
    Rel L (fun vs => ∀ v ∈ vs.toList, good v) (evalFields f dbg₁ ρ₁ fs) (evalFields f dbg₂ ρ₂ fs)
  | .nil, _ => by rw [Yae.evalFields, Yae.evalFields]; exact Rel.pure fun _ h => nomatch h
  | .cons n e fs, h => by
    rw [Yae.evalFields, Yae.evalFields]
    exact Rel.bind (ih e h.1) fun v hv => Rel.bind (Rel.evalFields fs h.2) fun vs hvs =>
      Rel.pure (List.forall_mem_cons.2 ⟨hv, hvs⟩)

theorem Rel.evalPairs : ∀ ps acc, AllP P Q D ps → (∀ x ∈ acc.toList, good x.2.2) →
    Rel L (fun es => ∀ x ∈ es.toList, good x.2.2)
      (evalPairs f dbg₁ ρ₁ ps acc) (evalPairs f dbg₂ ρ₂ ps acc)
  | .nil, acc, _, hacc => by rw [Yae.evalPairs, Yae.evalPairs]; exact Rel.pure hacc
  | .cons k v ps, acc, h, hacc => by
    rw [Yae.evalPairs, Yae.evalPairs]
    refine Rel.bind (ih k h.1) fun kv _ => ?_
    cases kv.key? with
    | none => exact Rel.fail _
    | some tk =>
      exact Rel.bind (ih v h.2.1) fun vv hvv => Rel.evalPairs ps _ h.2.2 fun x hx =>
        (EntryList.mem_insert hx).elim (hacc x) fun hv => hv ▸ hvv

theorem Rel.forceSeq (args : ExprList) (ha : AllL P Q D args) :
    ∀ order (last : Option Val), (∀ v, last = some v → good v) →
      Rel L good (forceSeq f dbg₁ ρ₁ args order last) (forceSeq f dbg₂ ρ₂ args order last)
  | [], some v, hl => by rw [Yae.forceSeq, Yae.forceSeq]; exact Rel.pure (hl v rfl)
  | [], none, _ => by rw [Yae.forceSeq, Yae.forceSeq]; exact Rel.fail _
  | i :: rest, last, _ => by
    rw [Yae.forceSeq, Yae.forceSeq]
    cases hg : args.get? i with
    | none => exact Rel.fail _
    | some a =>
      exact Rel.bind (ih a (AllL.get args i a ha hg)) fun v hv =>
        Rel.forceSeq args ha rest _ fun w hw => by cases hw; exact hv

end

section
variable {L : List Event → List Event → Prop} {good : Val → Prop} {dbg₁ dbg₂ : Bool}
  {ρ₁ ρ₂ : REnv} {P : String → Prop} {Q : String → Int → Prop} {D : Prop}
  (W : Walk L good dbg₁ dbg₂ ρ₁ ρ₂ P Q D)
include W

theorem Walk.recDbg {v : Val} (hv : good v) (col : Int) :
    Rel L good (recDbg dbg₁ v col) (recDbg dbg₂ v col) := by
  intro l₁ l₂ hl
  rw [recDbg_apply, recDbg_apply]
  exact ⟨rfl, W.dbg _ _ _ _ hl, fun a ha => by cases ha; exact hv⟩

theorem Walk.emitCall (name : String) (args : List String) :
    Rel L (fun _ => True) (emit (.call name args)) (emit (.call name args)) :=
  fun _ _ hl => ⟨rfl, W.call _ _ _ _ hl, fun _ _ => trivial⟩

theorem Walk.hostStrict (name : String) (beh : HostBeh) {args : List Val}
    (ha : ∀ a ∈ args, good a) : Rel L good (hostStrict name beh args) (hostStrict name beh args) := by
  unfold Yae.hostStrict
  refine Rel.bind (W.emitCall _ _) fun _ _ => ?_
  cases beh with
  | retArg i =>
    dsimp only
    cases hg : args[i]? with
    | none => exact Rel.fail _
    | some v => exact Rel.pure (ha v (List.mem_of_getElem? hg))
  | constNum => exact Rel.pure (W.val.num _)
  | constStr => exact Rel.pure (W.val.str _)
  | constBool => exact Rel.pure (W.val.bool _)
  | fail | force => exact Rel.fail _

variable {f : Nat}
  (ih : ∀ e, All P Q D e → Rel L good (eval f dbg₁ ρ₁ e) (eval f dbg₂ ρ₂ e))
include ih

theorem Walk.callFun (ref : FunRef) (hr : PrintOK L ∨ refPrints ref = false) (isLazy : Bool)
    (args : ExprList) (ha : AllL P Q D args) :
    Rel L good (callFun f dbg₁ ρ₁ ref isLazy args) (callFun f dbg₂ ρ₂ ref isLazy args) := by
  cases ref with
  | builtin idx =>
    rw [Yae.callFun, Yae.callFun]
    cases hb : builtins[idx]? with
    | none => exact Rel.fail _
    | some d =>
      dsimp only
      cases isLazy with
      | true =>
        simp only [if_true]
        -- the four cases of the `match d.id, args` in `callFun`, in its order: `if`, `&&`, `||`,
        -- anything else; inside the first three, the operand just evaluated is `.bool true`,
        -- `.bool false` or not a boolean
        split
        · refine Rel.bind (ih _ ha.1) fun cv _ => ?_
          split
          · exact ih _ ha.2.1
          · exact ih _ ha.2.2.1
          · exact Rel.fail _
        · refine Rel.bind (ih _ ha.1) fun xv _ => ?_
          split
          · refine Rel.bind (ih _ ha.2.1) fun yv _ => ?_
            split
            · exact Rel.pure (W.val.bool _)
            · exact Rel.fail _
          · exact Rel.pure (W.val.bool _)
          · exact Rel.fail _
        · refine Rel.bind (ih _ ha.1) fun xv _ => ?_
          split
          · exact Rel.pure (W.val.bool _)
          · refine Rel.bind (ih _ ha.2.1) fun yv _ => ?_
            split
            · exact Rel.pure (W.val.bool _)
            · exact Rel.fail _
          · exact Rel.fail _
        · exact Rel.fail _
      | false =>
        simp only [Bool.false_eq_true, if_false]
        rw [W.ext]
        refine Rel.bind (Rel.evalList ih args ha) fun vs hvs => ?_
        refine Rel.bind (good := fun r => good r.1 ∧
            (r.2 = [] ∨ d.id = .PRINT_ANY ∧ r.2 = [.print r.1.render]))
          (Rel.lift fun r hr' => ?_) fun r hr' => ?_
        · exact ⟨(applyBuiltin_cases W.val hr').1 hvs, (applyBuiltin_cases W.val hr').2⟩
        · refine Rel.bind (Rel.emitAll fun l₁ l₂ hl => ?_) fun _ _ => Rel.pure hr'.1
          rcases hr'.2 with he | ⟨hid, he⟩
          · rw [he]; exact hl
          · rw [he]
            refine hr.elim (fun hp => hp _ _ _ hl) fun hn => ?_
            simp [refPrints, hb, hid] at hn
  | host name beh =>
    cases isLazy with
    | true =>
      cases beh
      case force order =>
        rw [Yae.callFun, Yae.callFun]
        simp only [if_true]
        exact Rel.bind (W.emitCall _ _) fun _ _ => Rel.forceSeq ih args ha _ none fun _ h => nomatch h
      all_goals
        unfold Yae.callFun
        exact Rel.fail _
    | false =>
      unfold Yae.callFun
      simp only [Bool.false_eq_true, if_false]
      exact Rel.bind (Rel.evalList ih args ha) fun vs hvs => W.hostStrict _ _ hvs

theorem Walk.succ : ∀ e, All P Q D e → Rel L good (eval (f+1) dbg₁ ρ₁ e) (eval (f+1) dbg₂ ρ₂ e) := by
  intro e h
  cases e with
  | str p v => simp only [eval]; exact Rel.pure (W.val.str _)
  | num p v => simp only [eval]; exact Rel.pure (W.val.num _)
  | time p v => simp only [eval]; exact Rel.pure (W.val.time _)
  | bool p v => simp only [eval]; exact Rel.pure (W.val.bool _)
  | list p es ty =>
    cases es with
    | nil => simp only [eval]; exact Rel.pure ((W.val.list _ _).2 fun _ h => nomatch h)
    | cons a as =>
      cases ty <;> simp only [eval] <;>
        refine Rel.bind (Rel.evalList ih _ h) fun vs hvs => ?_
      · exact Rel.fail _
      · exact Rel.pure ((W.val.list _ _).2 hvs)
  | map p ps ty =>
    cases ps with
    | nil => simp only [eval]; exact Rel.pure ((W.val.map _ _).2 fun _ h => nomatch h)
    | cons k v ps =>
      cases ty with
      | none => simp only [eval]; exact Rel.fail _
      | some t =>
        simp only [eval]
        exact Rel.bind (Rel.evalPairs ih _ _ h fun _ h => nomatch h) fun es hes =>
          Rel.pure ((W.val.map _ _).2 hes)
  | obj p fs ty =>
    cases fs with
    | nil => simp only [eval]; exact Rel.pure ((W.val.obj _ _).2 fun _ h => nomatch h)
    | cons n a fs =>
      cases ty <;> simp only [eval] <;>
        refine Rel.bind (Rel.evalFields ih _ h) fun vs hvs => ?_
      · exact Rel.fail _
      · exact Rel.pure ((W.val.obj _ _).2 hvs)
  | ident p name =>
    obtain ⟨he, hg⟩ := W.var _ h
    simp only [eval, he]
    cases hl : ρ₂.lookupVar name with
    | none => exact Rel.fail _
    | some v => exact W.recDbg (hg v hl) _
  | call p col callee args cty resolved index =>
    obtain ⟨h1, h2⟩ := h
    simp only [eval]
    refine Rel.bind ?_ fun v hv => W.recDbg hv col
    split
    · next hr =>
      rw [if_pos hr] at h1
      refine Rel.bind (ih callee h1.2) fun fv hfv => ?_
      split
      · exact W.callFun ih _ (W.dyn h1.1 _ _ _ hfv) _ _ h2
      · exact Rel.fail _
    · next hr =>
      rw [if_neg hr] at h1
      obtain ⟨he, hok⟩ := W.fn _ _ h1
      rw [he]
      cases hrs : resolveStatic ρ₂.funs resolved index with
      | none => exact Rel.fail _
      | some d => exact W.callFun ih _ (hok d hrs) _ _ h2
  | subscript p col var idx vty =>
    simp only [eval]
    refine Rel.bind (ih var h.1) fun x hx => Rel.bind ?_ fun v hv => W.recDbg hv col
    split
    · refine Rel.bind (ih idx h.2) fun i _ => ?_
      split
      · split
        · exact Rel.fail _
        · split
          · next hg => exact Rel.pure ((W.val.list _ _).1 hx _ (ValList.mem_of_get? hg))
          · exact Rel.fail _
      · exact Rel.fail _
    · refine Rel.bind (ih idx h.2) fun k _ => ?_
      split
      · split
        · next hg => exact Rel.pure (W.val.find hx hg)
        · exact Rel.fail _
      · exact Rel.fail _
    · exact Rel.fail _
  | member p col obj field fp oty index =>
    simp only [eval]
    refine Rel.bind (ih obj h) fun o ho => Rel.bind ?_ fun v hv => W.recDbg hv col
    split
    · split
      · next hg => exact Rel.pure ((W.val.obj _ _).1 ho _ (mem_of_objGet? hg))
      · exact Rel.fail _
    · exact Rel.fail _
  | unary | binary | ternary | group => simp only [eval]; exact Rel.fail _

omit ih in
theorem Walk.eval : ∀ f e, All P Q D e → Rel L good (eval f dbg₁ ρ₁ e) (eval f dbg₂ ρ₂ e)
  | 0 => fun e _ => by rw [eval_zero, eval_zero]; exact Rel.fail _
  | f+1 => W.succ (Walk.eval f)

end

end Yae
