/-
  Invocations, `EngineVm` against `Engine`.

  * `invoke_eq`: ONE invocation.  A Callable the engine returned (`Yae.Api.CallableOK`), carrying the code
    `vm.Compile` gives for its tree (not refused), invoked on well-formed values without lazy function values:
    `EngineVm.invoke` (the machine) returns what `Engine.invoke` (the reference evaluator) returns — result and
    events.  This is `VmChk.checked_runVm_eq` (`Yae.C03.runVm_correct_checked`), its hypotheses discharged as in
    `Yae.Api.invoke_sound_ty`.
  * `invoke_cases`: an `invoke k` at step `i` of a history.  After the first `i` calls the engines are the same and
    the outputs `Sim`; so (A) neither side holds a Callable at `k`, both answer `noCallable`; (B) both hold the
    Callable, both answer with the SAME result; or (C) the VM compiler refused at `k`: `EngineVm` answers
    `noCallable`, `Engine` answers with a result.
-/
import Yae.Proofs.EngineVmRun
import Yae.Proofs.ApiSound
import Yae.Proofs.VmCheckedMain
namespace Yae.EngVm
open Yae Yae.EngineHistory Yae.Api

theorem invoke_other (ev : EngineVm) {c : Callable} (hb : c.backend ≠ .vm)
    (venv : List (String × Val)) (ext : Externs) :
    ev.invoke (.ofCallable c) venv ext = ev.eng.invoke c venv ext := by
  unfold EngineVm.invoke
  show (match c.backend with
    | .vm => _
    | _ => ev.eng.invoke c venv ext) = _
  cases h : c.backend with
  | vm => exact absurd h hb
  | closure => rfl
  | closureDebug => rfl
  | interp => rfl

theorem invoke_eq {c : Callable} (hok : CallableOK c) (hnr : ∀ err, ¬ Refuses c err)
    (ev : EngineVm) (venv : List (String × Val)) (ext : Externs)
    (hwf : ∀ p ∈ venv, Sound.WF p.2 = true) (hnl : ∀ p ∈ venv, VmChk.noLazy p.2 = true) :
    ev.invoke (.ofCallable c) venv ext = ev.eng.invoke c venv ext := by
  by_cases hb : c.backend = .vm
  · obtain ⟨hf, d, c', hchk⟩ := hok.checked
    have htab : ev.eng.tableFor c = c.funs := tableFor_early (by rw [hb]; rfl)
    unfold EngineVm.invoke Engine.invoke
    simp only [CallableVm.ofCallable, hb, vmCodeOf, Backend.dbg]
    cases henv : envCheck c.tenv venv with
    | error err => rfl
    | ok u =>
      cases u
      simp only
      cases hcomp : Vm.compile c.funs c.tree with
      | error err => exact absurd ⟨hb, hcomp⟩ (hnr err)
      | ok cp =>
        obtain ⟨code, pool⟩ := cp
        simp only
        have hE : Sound.EnvOK ⟨c.tenv, c.funs, reservedWords⟩ ⟨venv, ev.eng.tableFor c, ext⟩ :=
          EngineCheck.envOK_of_accept htab henv hwf hok.tenv
        have hN : VmChk.NoLazyEnv ⟨venv, ev.eng.tableFor c, ext⟩ := VmChk.noLazyEnv_iff.2 hnl
        rw [VmChk.checked_runVm_eq hf hE (VmChk.noLazy_dynStrict hN c.tree) hchk hcomp]
        rfl
  · exact invoke_other ev hb venv ext

/-- (A), (B), (C) of the header; (C) also says which compilation of the history was refused -/
theorem invoke_cases (ev : EngineVm) (e : Engine) (heq : ev.eng = e) (he : Sound.FunsOK e.funs)
    {ops : List Op} (hops : OpsOK ops)
    (hvenv : ∀ k venv ext, Op.invoke k venv ext ∈ ops → ∀ p ∈ venv, Sound.WF p.2 = true)
    (hnl : ∀ k venv ext, Op.invoke k venv ext ∈ ops → ∀ p ∈ venv, VmChk.noLazy p.2 = true)
    {i k : Nat} {venv : List (String × Val)} {ext : Externs}
    (hop : ops[i]? = some (.invoke k venv ext)) :
    -- (A)
    ((ev.run ops).2[i]? = some .noCallable ∧
      (e.run ops).2[i]? = some .noCallable ∧
      (∀ cv, k < i → (ev.run ops).2[k]? ≠ some (.compiled (.ok cv))) ∧
      (∀ c, k < i → (e.run ops).2[k]? ≠ some (.compiled (.ok c)))) ∨
    -- (B)
    (∃ c r, k < i ∧ (e.run ops).2[k]? = some (.compiled (.ok c)) ∧
      (ev.run ops).2[k]? = some (.compiled (.ok (.ofCallable c))) ∧
      (ev.run ops).2[i]? = some (.result r) ∧
      (e.run ops).2[i]? = some (.result r)) ∨
    -- (C)
    (∃ c err r, k < i ∧ (e.run ops).2[k]? = some (.compiled (.ok c)) ∧
      (ev.run ops).2[k]? = some (.compiled (.error (.vm err))) ∧
      Refuses c err ∧
      (∃ times src, ops[k]? = some (.compile times c.tenv src)) ∧
      (ev.run ops).2[i]? = some .noCallable ∧
      (e.run ops).2[i]? = some (.result r)) := by
  subst heq
  rw [run_out hop, EngineHistory.run_out hop]
  obtain ⟨heng, hsim⟩ := run_sim ev (ops.take i)
  have hmem := List.mem_of_getElem? hop
  simp only [EngineVm.step, Engine.step]
  rcases hsim.callable k with ⟨h1, h2⟩ | ⟨c, hc, hv⟩
  · rw [h1, h2]
    refine .inl ⟨rfl, rfl, fun cv hki hk => ?_, fun c hki hk => ?_⟩
    · rw [run_prefix_some.2 ⟨hki, hk⟩] at h2
      cases h2
    · rw [EngineHistory.run_prefix_some.2 ⟨hki, hk⟩] at h1
      cases h1
  · obtain ⟨hki, hck⟩ := EngineHistory.run_prefix_some.1 hc
    obtain ⟨hok, ⟨times, src, hpre⟩, _⟩ := callable_history he hops hck
    rw [hc]
    rcases hv with ⟨hv, hnr⟩ | ⟨err, hv, href⟩
    · rw [hv]
      have hr := invoke_eq hok hnr (ev.run (ops.take i)).1 venv ext (hvenv k venv ext hmem)
        (hnl k venv ext hmem)
      rw [heng] at hr
      exact .inr (.inl ⟨c, (ev.eng.run (ops.take i)).1.invoke c venv ext, hki, hck,
        (run_prefix_some.1 hv).2, by rw [← hr]; rfl, rfl⟩)
    · rw [hv]
      exact .inr (.inr ⟨c, err, _, hki, hck, (run_prefix_some.1 hv).2, href, ⟨times, src, hpre⟩,
        rfl, rfl⟩)

end Yae.EngVm
