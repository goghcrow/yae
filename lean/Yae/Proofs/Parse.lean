/-
  The bodies of `pExpr` and `pInfix` are cut into their `nud` and `led` halves (`nudRes`, `ledRes`:
  verbatim copies of the sub-terms of the model); each of the seven mutually recursive functions
  gets its unfolding equation at fuel `f + 1`, `parseWith` its own (`parseWith_ok_iff`).
-/
import Yae.Model.Parser
namespace Yae

/-- the sub-term `left` of `pExpr`; `t` the token just eaten, `i` the cursor after it -/
def nudRes (env : PEnv) (f : Nat) (t : Token) (i : Nat) (bp : BP) (nud : Nud) : PRes Expr :=
match nud with
| .ident => .ok (.ident t.pos t.lexeme, i)
| .true_ => .ok (.bool t.pos true, i)
| .false_ => .ok (.bool t.pos false, i)
| .num =>
  match Num.parseNumLit t.lexeme with
  | some v => .ok (.num t.pos v, i)
  | none => .error .syntax
| .str =>
  match Num.unquote t.lexeme with
  | some v => .ok (.str t.pos v, i)
  | none => .error .syntax
| .time =>
  match env.timeLit t with
  | .ok e => .ok (e, i)
  | .error e => .error e
| .group =>
  match pExpr env f 0 i with
  | .error e => .error e
  | .ok (e, i) =>
    match env.mustEat ")" i with
    | .error e => .error e
    | .ok (rp, i) =>
      match Pos.range t.pos rp.pos with
      | .error e => .error e
      | .ok rg => .ok (.group rg e, i)
| .unaryPrefix =>
  match pExpr env f bp i with
  | .error e => .error e
  | .ok (e, i) =>
    match Pos.range t.pos e.pos with
    | .error e => .error e
    | .ok rg => .ok (.unary rg t.lexeme t.pos e true, i)
| .listMap =>
  if (env.peek i).kind == ":" then
    -- `[:]`
    match env.mustEat "]" (env.adv i) with
    | .error e => .error e
    | .ok (rb, i) =>
      match Pos.range t.pos rb.pos with
      | .error e => .error e
      | .ok rg => .ok (.map rg .nil none, i)
  else
    -- `any("list or map", parseListOrMap(t))`: one pass, a `:` after the first element decides
    -- for a map (`tryParse` turns every failure into the syntax error)
    if (env.peek i).kind == "]" then
      match env.mustEat "]" i with
      | .error e => .error e
      | .ok (rb, i) =>
        match Pos.range t.pos rb.pos with
        | .error e => .error e
        | .ok rg => .ok (.list rg .nil none, i)
    else
      match pExpr env f 0 i with
      | .error e => .error e
      | .ok (fst, i) =>
        if (env.peek i).kind == ":" then
          match pExpr env f 0 (env.adv i) with
          | .error e => .error e
          | .ok (v, i) =>
            let rest : PRes (List (Expr × Expr)) :=
              if (env.peek i).kind == "," then pMap env f [(fst, v)] (env.adv i)
              else .ok ([(fst, v)], i)
            match rest with
            | .error e => .error e
            | .ok (ps, i) =>
              match env.mustEat "]" i with
              | .error e => .error e
              | .ok (rb, i) =>
                match Pos.range t.pos rb.pos with
                | .error e => .error e
                | .ok rg => .ok (.map rg (PairList.ofList ps.reverse) none, i)
        else
          let rest : PRes (List Expr) :=
            if (env.peek i).kind == "," then pList env f [fst] (env.adv i)
            else .ok ([fst], i)
          match rest with
          | .error e => .error e
          | .ok (els, i) =>
            match env.mustEat "]" i with
            | .error e => .error e
            | .ok (rb, i) =>
              match Pos.range t.pos rb.pos with
              | .error e => .error e
              | .ok rg => .ok (.list rg (ExprList.ofList els.reverse) none, i)
| .obj =>
  match pObj env f [] i with
  | .error e => .error e
  | .ok (fs, i) =>
    match env.mustEat "}" i with
    | .error e => .error e
    | .ok (rb, i) =>
      match Pos.range t.pos rb.pos with
      | .error e => .error e
      | .ok rg => .ok (.obj rg (FieldEList.ofList fs.reverse) none, i)

/-- the sub-term `res` of `pInfix`; `t` the operator token just eaten, `i` the cursor after it -/
def ledRes (env : PEnv) (f : Nat) (left : Expr) (t : Token) (i : Nat) (bp : BP) (led : Led) :
    PRes Expr :=
match led with
| .binaryL =>
  match pExpr env f bp i with
  | .error e => .error e
  | .ok (rhs, i) =>
    match Pos.range left.pos rhs.pos with
    | .error e => .error e
    | .ok rg => .ok (.binary rg t.lexeme t.pos fixInfixL left rhs, i)
| .binaryR =>
  match pExpr env f (bpPred bp) i with
  | .error e => .error e
  | .ok (rhs, i) =>
    match Pos.range left.pos rhs.pos with
    | .error e => .error e
    | .ok rg => .ok (.binary rg t.lexeme t.pos fixInfixR left rhs, i)
| .binaryN =>
  match pExpr env f bp i with
  | .error e => .error e
  | .ok (rhs, i) =>
    match Pos.range left.pos rhs.pos with
    | .error e => .error e
    | .ok rg => .ok (.binary rg t.lexeme t.pos fixInfixN left rhs, i)
| .unaryPostfix =>
  match Pos.range left.pos t.pos with
  | .error e => .error e
  | .ok rg => .ok (.unary rg t.lexeme t.pos left false, i)
| .question =>
  match pExpr env f 0 i with
  | .error e => .error e
  | .ok (m, i) =>
    match env.mustEat ":" i with
    | .error e => .error e
    | .ok (_, i) =>
      match pExpr env f (bpPred bp) i with
      | .error e => .error e
      | .ok (r, i) =>
        match Pos.range left.pos r.pos with
        | .error e => .error e
        | .ok rg => .ok (.ternary rg t.lexeme t.pos left m r, i)
| .call => pCall env f left t i
| .dot =>
  -- the field name is whatever token comes next (EOF included: not advanced)
  let name := env.peek i
  let i := env.adv i
  match Pos.range left.pos name.pos with
  | .error e => .error e
  | .ok rg =>
    let mem := Expr.member rg t.pos.col left name.lexeme name.pos none (-1)
    let lp := env.peek i
    if lp.kind == "(" then pCall env f mem lp (env.adv i)
    else .ok (mem, i)
| .subscript =>
  match pExpr env f 0 i with
  | .error e => .error e
  | .ok (ix, i) =>
    match env.mustEat "]" i with
    | .error e => .error e
    | .ok (rb, i) =>
      match Pos.range left.pos rb.pos with
      | .error e => .error e
      | .ok rg => .ok (.subscript rg t.pos.col left ix none, i)

theorem pExpr_succ (env : PEnv) (f : Nat) (rbp : BP) (i : Nat) :
    pExpr env (f + 1) rbp i =
      match tableLookup (env.peek i).kind env.g.prefixs with
      | none => .error .syntax
      | some (bp, nud) =>
        match nudRes env f (env.peek i) (env.adv i) bp nud with
        | .error e => .error e
        | .ok (left, j) => pInfix env f left rbp j := by rw [pExpr]; rfl

theorem pInfix_succ (env : PEnv) (f : Nat) (left : Expr) (rbp : BP) (i : Nat) :
    pInfix env (f + 1) left rbp i =
      if env.g.infixLbp (env.peek i).kind > rbp then
        match tableLookup (env.peek i).kind env.g.infixs with
        | none => .error .syntax
        | some (bp, led) =>
          match ledRes env f left (env.peek i) (env.adv i) bp led with
          | .error e => .error e
          | .ok (e, j) =>
            match infixNCheck e with
            | .error e => .error e
            | .ok e => pInfix env f e rbp j
      else
        match infixNCheck left with
        | .error e => .error e
        | .ok e => .ok (e, i) := rfl

theorem pCall_succ (env : PEnv) (f : Nat) (callee : Expr) (t : Token) (i : Nat) :
    pCall env (f + 1) callee t i =
      match (if (env.peek i).kind == ")" then .ok ([], i) else pArgs env f [] i : PRes (List Expr)) with
      | .error e => .error e
      | .ok (as, i) =>
        match env.mustEat ")" i with
        | .error e => .error e
        | .ok (rp, i) =>
          match Pos.range callee.pos rp.pos with
          | .error e => .error e
          | .ok rg => .ok (.call rg t.pos.col callee (ExprList.ofList as.reverse) none "" (-1), i) := rfl

theorem pArgs_succ (env : PEnv) (f : Nat) (acc : List Expr) (i : Nat) :
    pArgs env (f + 1) acc i =
      match pExpr env f 0 i with
      | .error e => .error e
      | .ok (a, i) =>
        if (env.peek i).kind == "," then pArgs env f (a :: acc) (env.adv i)
        else .ok (a :: acc, i) := rfl

theorem pList_succ (env : PEnv) (f : Nat) (acc : List Expr) (i : Nat) :
    pList env (f + 1) acc i =
      if (env.peek i).kind == "]" then .ok (acc, i)
      else
        match pExpr env f 0 i with
        | .error e => .error e
        | .ok (el, i) =>
          if (env.peek i).kind == "," then pList env f (el :: acc) (env.adv i)
          else .ok (el :: acc, i) := rfl

theorem pMap_succ (env : PEnv) (f : Nat) (acc : List (Expr × Expr)) (i : Nat) :
    pMap env (f + 1) acc i =
      if (env.peek i).kind == "]" then .ok (acc, i)
      else
        match pExpr env f 0 i with
        | .error e => .error e
        | .ok (k, i) =>
          match env.mustEat ":" i with
          | .error e => .error e
          | .ok (_, i) =>
            match pExpr env f 0 i with
            | .error e => .error e
            | .ok (v, i) =>
              if (env.peek i).kind == "," then pMap env f ((k, v) :: acc) (env.adv i)
              else .ok ((k, v) :: acc, i) := rfl

theorem pObj_succ (env : PEnv) (f : Nat) (acc : List (String × Expr)) (i : Nat) :
    pObj env (f + 1) acc i =
      if (env.peek i).kind == "}" then .ok (acc, i)
      else
        match env.mustEat "<sym>" i with
        | .error e => .error e
        | .ok (n, i) =>
          match env.mustEat ":" i with
          | .error e => .error e
          | .ok (_, i) =>
            match pExpr env f 0 i with
            | .error e => .error e
            | .ok (v, i) =>
              if (env.peek i).kind == "," then pObj env f ((n.lexeme, v) :: acc) (env.adv i)
              else .ok ((n.lexeme, v) :: acc, i) := rfl

/-- the environment `parseWith` runs in -/
def mkEnv (ops : List Operator) (times : List (String × Int)) (toks : List Token) : PEnv :=
  { g := newGrammar ops, toks := toks.toArray, times := times }

theorem mkEnv_size (ops : List Operator) (times : List (String × Int)) (toks : List Token) :
    (mkEnv ops times toks).toks.size = toks.length := by simp [mkEnv]

theorem mkEnv_peek {ops : List Operator} {times : List (String × Int)} {toks : List Token} {a : Nat}
    (ha : a < toks.length) : (mkEnv ops times toks).peek a = toks[a] := by
  unfold PEnv.peek mkEnv; simp [ha]

theorem parseWith_ok_iff {fuel : Nat} {ops : List Operator} {times : List (String × Int)}
    {toks : List Token} {t : Expr} :
    parseWith fuel ops times toks = .ok t ↔
      ∃ j, pExpr (mkEnv ops times toks) fuel 0 0 = .ok (t, j) ∧
        ((mkEnv ops times toks).peek j).kind = tkEOF := by
  unfold parseWith mkEnv
  simp only [PEnv.mustEat]
  constructor
  · intro h
    split at h
    · cases h
    · rename_i e j h1
      split at h
      · cases h
      · rename_i x h2
        cases h
        refine ⟨j, h1, ?_⟩
        split at h2
        · exact beq_iff_eq.mp ‹_›
        · cases h2
  · rintro ⟨j, h1, h2⟩
    simp only [h1, h2, beq_self_eq_true, if_true]

def PEnv.NoEOF (env : PEnv) : Prop :=
  tableLookup tkEOF env.g.prefixs = none ∧ tableLookup tkEOF env.g.infixs = none

theorem PEnv.peek_ge (env : PEnv) {i : Nat} (h : env.toks.size ≤ i) : (env.peek i).kind = tkEOF := by
  unfold PEnv.peek
  rw [dif_neg (by omega)]; rfl

theorem PEnv.peek_lt_of_kind (env : PEnv) {i : Nat} {k : String} (hk : k ≠ tkEOF)
    (h : (env.peek i).kind = k) : i < env.toks.size :=
  Nat.lt_of_not_le fun hi => hk (h ▸ env.peek_ge hi)

theorem PEnv.adv_lt (env : PEnv) {i : Nat} (h : i < env.toks.size) : env.adv i = i + 1 := by
  simp [PEnv.adv, h]

theorem PEnv.adv_ge (env : PEnv) {i : Nat} (h : env.toks.size ≤ i) : env.adv i = i := by
  unfold PEnv.adv; split <;> omega

theorem PEnv.adv_bounds (env : PEnv) (i : Nat) :
    i ≤ env.adv i ∧ env.adv i ≤ i + 1 ∧ (i ≤ env.toks.size → env.adv i ≤ env.toks.size) := by
  unfold PEnv.adv; split <;> omega

/-! The kinds the parser tests for are not the end-of-file kind: the side condition `hk` of `kind_beq` and
`mustEat_ok_eq`, under which a successful test means that the token exists. -/

theorem Punct.rparen : ")" ≠ tkEOF := by decide
theorem Punct.rbrack : "]" ≠ tkEOF := by decide
theorem Punct.rbrace : "}" ≠ tkEOF := by decide
theorem Punct.lparen : "(" ≠ tkEOF := by decide
theorem Punct.colon : ":" ≠ tkEOF := by decide
theorem Punct.comma : "," ≠ tkEOF := by decide
theorem Punct.sym : "<sym>" ≠ tkEOF := by decide

/-! `kind_beq`, `mustEat_ok_eq`, `mustEat_error_eq`, `range_error_eq` are equalities of propositions because they are
rewrite rules: `simp only [...] at *` in `ParseFuel` turns every outcome of a token test or check in the context into
what it entails. -/

theorem PEnv.kind_beq {env : PEnv} {k : String} (hk : k ≠ tkEOF) (i : Nat) :
    (((env.peek i).kind == k) = true) =
      ((i < env.toks.size ∧ (env.peek i).kind = k) ∧ env.adv i = i + 1) := by
  refine propext ⟨fun h => ?_, fun h => by simpa using h.1.2⟩
  have hk' : (env.peek i).kind = k := by simpa using h
  have := env.peek_lt_of_kind hk hk'
  exact ⟨⟨this, hk'⟩, env.adv_lt this⟩

theorem PEnv.mustEat_ok_eq {env : PEnv} {k : String} (hk : k ≠ tkEOF) (i : Nat) (t : Token)
    (j : Nat) : (env.mustEat k i = .ok (t, j)) =
      ((i < env.toks.size ∧ (env.peek i).kind = k) ∧ t = env.peek i ∧ j = i + 1) := by
  unfold PEnv.mustEat
  by_cases h : (env.peek i).kind = k
  · have hi := env.peek_lt_of_kind hk h
    simp only [h, beq_self_eq_true, if_true, Except.ok.injEq, Prod.mk.injEq, env.adv_lt hi, hi,
      true_and, and_self, eq_comm]
  · have : ((env.peek i).kind == k) = false := by simpa using h
    simp only [this, Bool.false_eq_true, if_false, reduceCtorEq, h, false_and, and_false]

theorem PEnv.mustEat_error_eq {env : PEnv} (k : String) (i : Nat) (e : ParseErr) :
    (env.mustEat k i = .error e) = (e = .syntax ∧ (env.peek i).kind ≠ k) := by
  unfold PEnv.mustEat
  by_cases h : (env.peek i).kind = k
  · simp only [h, beq_self_eq_true, if_true, reduceCtorEq, ne_eq, not_true_eq_false, and_false]
  · have : ((env.peek i).kind == k) = false := by simpa using h
    simp only [this, Bool.false_eq_true, if_false, Except.error.injEq, ne_eq, h, not_false_eq_true,
      and_true, eq_comm]

theorem range_error_eq (a b : Pos) (e : ParseErr) :
    (Pos.range a b = .error e) = (e = .syntax ∧ b.idx < a.idx) := by
  unfold Pos.range
  split <;> simp [eq_comm] <;> omega

theorem infixNCheck_err {x : Expr} {e : ParseErr} (h : infixNCheck x = .error e) : e = .syntax := by
  unfold infixNCheck at h
  split at h
  · split at h
    · simp only at h
      generalize (_ || _) = b at h
      cases b
      · simp at h
      · simp at h; exact h.symm
    · cases h
  · cases h

theorem infixNCheck_ok {e e' : Expr} (h : infixNCheck e = .ok e') : e' = e := by
  unfold infixNCheck at h
  split at h
  · split at h
    · simp only at h
      generalize (_ || _) = b at h
      cases b
      · simp at h; exact h.symm
      · simp at h
    · cases h; rfl
  · cases h; rfl

theorem timeLit_ok {env : PEnv} {t : Token} {e : Expr} (h : env.timeLit t = .ok e) :
    ∃ v, e = .time t.pos v := by
  unfold PEnv.timeLit at h
  simp only at h
  split at h
  · cases h
  · split at h
    · cases h
    · split at h
      · cases h; exact ⟨_, rfl⟩
      · cases h

theorem range_ok {a b rg : Pos} (h : Pos.range a b = .ok rg) :
    a.idx ≤ b.idx ∧ rg = { a with idxEnd := b.idxEnd } := by
  unfold Pos.range at h
  split at h
  · cases h; exact ⟨by assumption, rfl⟩
  · cases h

mutual
def Expr.All (P : Expr → Prop) : Expr → Prop
  | .list p es ty => P (.list p es ty) ∧ allList P es
  | .map p ps ty => P (.map p ps ty) ∧ allPairs P ps
  | .obj p fs ty => P (.obj p fs ty) ∧ allFields P fs
  | .call p col c as a b d => P (.call p col c as a b d) ∧ c.All P ∧ allList P as
  | .subscript p col v i t => P (.subscript p col v i t) ∧ v.All P ∧ i.All P
  | .member p col o f fp t i => P (.member p col o f fp t i) ∧ o.All P
  | .unary p n np e pre => P (.unary p n np e pre) ∧ e.All P
  | .binary p n np fx l r => P (.binary p n np fx l r) ∧ l.All P ∧ r.All P
  | .ternary p n np l m r => P (.ternary p n np l m r) ∧ l.All P ∧ m.All P ∧ r.All P
  | .group p e => P (.group p e) ∧ e.All P
  | .str p v => P (.str p v)
  | .num p v => P (.num p v)
  | .time p v => P (.time p v)
  | .bool p v => P (.bool p v)
  | .ident p v => P (.ident p v)
def allList (P : Expr → Prop) : ExprList → Prop
  | .nil => True
  | .cons e es => e.All P ∧ allList P es
def allPairs (P : Expr → Prop) : PairList → Prop
  | .nil => True
  | .cons k v ps => k.All P ∧ v.All P ∧ allPairs P ps
def allFields (P : Expr → Prop) : FieldEList → Prop
  | .nil => True
  | .cons _ e fs => e.All P ∧ allFields P fs
end

theorem Expr.All.here {P : Expr → Prop} {e : Expr} (h : e.All P) : P e := by
  cases e <;> simp only [Expr.All] at h <;> first | exact h | exact h.1

theorem Expr.All.imp {P Q : Expr → Prop} (h : ∀ e, P e → Q e) : ∀ {t : Expr}, t.All P → t.All Q := by
  intro t
  induction t using Expr.rec (motive_2 := fun es => allList P es → allList Q es)
    (motive_3 := fun ps => allPairs P ps → allPairs Q ps)
    (motive_4 := fun fs => allFields P fs → allFields Q fs) with
  | _ => simp only [Expr.All, allList, allPairs, allFields] at *; first | done | grind

theorem allList_ofList {P : Expr → Prop} (l : List Expr) :
    allList P (ExprList.ofList l) ↔ ∀ e ∈ l, e.All P := by
  induction l with
  | nil => simp [ExprList.ofList, allList]
  | cons a l ih => simp [ExprList.ofList, allList, ih]

theorem allPairs_ofList {P : Expr → Prop} (l : List (Expr × Expr)) :
    allPairs P (PairList.ofList l) ↔ ∀ kv ∈ l, kv.1.All P ∧ kv.2.All P := by
  induction l with
  | nil => simp [PairList.ofList, allPairs]
  | cons a l ih => obtain ⟨k, v⟩ := a; simp [PairList.ofList, allPairs, ih, and_assoc]

theorem allFields_ofList {P : Expr → Prop} (l : List (String × Expr)) :
    allFields P (FieldEList.ofList l) ↔ ∀ nv ∈ l, nv.2.All P := by
  induction l with
  | nil => simp [FieldEList.ofList, allFields]
  | cons a l ih => obtain ⟨k, v⟩ := a; simp [FieldEList.ofList, allFields, ih]

/-- `P` holds of every node as the parser builds it (`Pos.range` succeeded with the given end
points; for a binary node, `infixNCheck` passed). -/
structure NodeOK (P : Expr → Prop) : Prop where
  ident : ∀ p n, P (.ident p n)
  bool : ∀ p b, P (.bool p b)
  num : ∀ p v, P (.num p v)
  str : ∀ p v, P (.str p v)
  time : ∀ p v, P (.time p v)
  group : ∀ {a b rg : Pos} (e : Expr), Pos.range a b = .ok rg → P (.group rg e)
  list : ∀ {a b rg : Pos} (es : ExprList), Pos.range a b = .ok rg → P (.list rg es none)
  map : ∀ {a b rg : Pos} (ps : PairList), Pos.range a b = .ok rg → P (.map rg ps none)
  obj : ∀ {a b rg : Pos} (fs : FieldEList), Pos.range a b = .ok rg → P (.obj rg fs none)
  unaryPre : ∀ {np rg : Pos} (n : String) (e : Expr), Pos.range np e.pos = .ok rg →
    P (.unary rg n np e true)
  unaryPost : ∀ {np rg : Pos} (n : String) (e : Expr), Pos.range e.pos np = .ok rg →
    P (.unary rg n np e false)
  binary : ∀ {rg : Pos} (n : String) (np : Pos) (fx : Nat) (l r : Expr),
    Pos.range l.pos r.pos = .ok rg →
    infixNCheck (.binary rg n np fx l r) = .ok (.binary rg n np fx l r) →
    P (.binary rg n np fx l r)
  ternary : ∀ {rg : Pos} (n : String) (np : Pos) (l m r : Expr),
    Pos.range l.pos r.pos = .ok rg → P (.ternary rg n np l m r)
  call : ∀ {b rg : Pos} (col : Int) (c : Expr) (as : ExprList), Pos.range c.pos b = .ok rg →
    P (.call rg col c as none "" (-1))
  member : ∀ {rg : Pos} (col : Int) (o : Expr) (f : String) (fp : Pos),
    Pos.range o.pos fp = .ok rg → P (.member rg col o f fp none (-1))
  subscript : ∀ {b rg : Pos} (col : Int) (v i : Expr), Pos.range v.pos b = .ok rg →
    P (.subscript rg col v i none)

end Yae
