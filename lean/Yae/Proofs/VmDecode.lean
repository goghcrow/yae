/-
  Reading the encoding back: the opcode byte determines the opcode; a decoded instruction lies inside the
  buffer and ends later.
-/
import Yae.Model.Vm
namespace Yae.VmVerify
open Yae Yae.Vm

theorem ofCode_code (o : Op) : Op.ofCode (UInt8.ofNat o.code).toNat = some o := by
  cases o <;> decide

theorem getElem?_some_lt {c : Code} {i : Nat} {a : UInt8} (h : c[i]? = some a) : i < c.size :=
  (Array.getElem?_eq_some_iff.mp h).1

theorem u16At_some {c : Code} {i n : Nat} (h : u16At c i = some n) : i + 1 < c.size ∧ n < 65536 := by
  simp only [u16At, Option.bind_eq_bind, Option.bind_eq_some_iff, Option.pure_def, Option.some.injEq] at h
  obtain ⟨hi, _, lo, h2, rfl⟩ := h
  have := getElem?_some_lt h2
  have := hi.toNat_lt
  have := lo.toNat_lt
  omega

theorem decodeAt_inv {c : Code} {pc : Nat} {ins : Instr} {next : Nat}
    (h : decodeAt c pc = some (ins, next)) :
    match ins with
    | .simple _ => next = pc + 1
    | .const _ i => u16At c (pc+1) = some i ∧ next = pc + 3
    | .newColl _ i n => u16At c (pc+1) = some i ∧ u16At c (pc+3) = some n ∧ next = pc + 5
    | .jump _ t => u16At c (pc+1) = some t ∧ next = pc + 3
    | .call _ i a => u16At c (pc+1) = some i ∧ (∃ b : UInt8, c[pc+3]? = some b ∧ a = b.toNat) ∧
        next = pc + 4
    | .dyn a => (∃ b : UInt8, c[pc+1]? = some b ∧ a = b.toNat) ∧ next = pc + 2 := by
  unfold decodeAt at h
  simp only [Option.bind_eq_bind, Option.bind_eq_some_iff] at h
  obtain ⟨b, hb, op, hop, h⟩ := h
  split at h
  all_goals
    simp only [Option.bind_eq_some_iff, Option.pure_def, Option.some.injEq, Prod.mk.injEq] at h
  -- `h_1` … `h_12`: the alternatives of the `match op` in `decodeAt`, in its order; one case per opcode with
  -- operands, alike within an instruction format; `h_12` is the catch-all for the opcodes without operands
  case h_1 | h_2 | h_3 | h_4 => obtain ⟨i, hi, rfl, rfl⟩ := h; exact ⟨hi, rfl⟩
  case h_5 | h_6 => obtain ⟨i, hi, n, hn, rfl, rfl⟩ := h; exact ⟨hi, hn, rfl⟩
  case h_7 | h_8 => obtain ⟨t, ht, rfl, rfl⟩ := h; exact ⟨ht, rfl⟩
  case h_9 | h_10 => obtain ⟨i, hi, a, ha, rfl, rfl⟩ := h; exact ⟨hi, ⟨a, ha, rfl⟩, rfl⟩
  case h_11 => obtain ⟨a, ha, rfl, rfl⟩ := h; exact ⟨⟨a, ha, rfl⟩, rfl⟩
  case h_12 => obtain ⟨rfl, rfl⟩ := h; rfl

theorem decodeAt_next {c : Code} {pc : Nat} {ins : Instr} {next : Nat}
    (h : decodeAt c pc = some (ins, next)) : pc < next ∧ next ≤ c.size := by
  have hi := decodeAt_inv h
  unfold decodeAt at h
  obtain ⟨b, hb, -⟩ := Option.bind_eq_some_iff.mp h
  have hpc := getElem?_some_lt hb
  cases ins
  case simple => have := hi; omega
  case const | jump => have := u16At_some hi.1; have := hi.2; omega
  case newColl => have := u16At_some hi.2.1; have := hi.2.2; omega
  case call => obtain ⟨_, ⟨b, hb, _⟩, _⟩ := hi; have := getElem?_some_lt hb; omega
  case dyn => obtain ⟨⟨b, hb, _⟩, _⟩ := hi; have := getElem?_some_lt hb; omega

end Yae.VmVerify
