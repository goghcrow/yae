/-
  C20, the structural theorem.  `emit` (the closure `sql.Compile` builds) produces, for every
  expression satisfying the side condition, a text that is a well-formed `Doc` whose reading is the
  meaning of the expression up to `flatten` (`emit_doc`); composing with the reader's round trip over `Doc`
  (`readSql_doc`: the tokenizer half is `SqlLex`, the parser half `SqlParse`), and with what the type
  checker guarantees about call nodes (`SqlStructCheck`), gives `readSql (toSql c …) ≈ treeOf c`:
  `Yae.SqlStruct.structure_main`.
-/
import Yae.Proofs.SqlStructCall
import Yae.Proofs.SqlParse
import Yae.Proofs.TypingCheck
namespace Yae.SqlStruct
open Yae Yae.Sql Yae.SqlDoc Yae.SqlLex

theorem allWFm_WFs : ∀ {outer : Nat} (ds : DocList), AllWFm (.each .logic) outer ds → WFs ds
  | _, .nil, _ => by simp [WFs]
  | outer, .cons d ds, h => by
    simp only [AllWFm, ArgPos.head, ArgPos.tail] at h
    simp only [WFs]
    exact ⟨WF_mono (l := lvl outer) (Nat.zero_le _) h.1, allWFm_WFs ds h.2⟩

theorem okE_call {venv m p col c args cty res idx}
    (h : okE venv m (.call p col c args cty res idx) = true) : ∃ cp fname, c = .ident cp fname := by
  cases c with
  | ident cp fname => exact ⟨cp, fname, rfl⟩
  | _ => cases h

theorem okE_member {venv m p col o f fp oty idx}
    (h : okE venv m (.member p col o f fp oty idx) = true) : ∃ ip id, o = .ident ip id := by
  cases o with
  | ident ip id => exact ⟨ip, id, rfl⟩
  | _ => cases h

/-- an expression written as its run-time value `v` -/
theorem val_docFor {venv m outer e v s} (hm : m ≠ .inList) (hv : okVal v = true) (h : fmtVal v = .ok s)
    (ht : operandTree venv e = litOf v) : DocFor venv m outer e s := by
  obtain ⟨d, w, hs, hl, ha, hw, hp⟩ := fmtVal_doc h hv
  exact atom_docFor hm hs hl ha (ht.trans hw) hp

mutual
theorem emit_doc (venv : List (String × Val)) : ∀ (e : Expr) (m : Pos') (outer : Nat) (s : String),
    nameOK e = true → okE venv m e = true → emit venv outer e = .ok s → DocFor venv m outer e s
  | .str p v, m, outer, s, _, hok, h => val_docFor (v := .str v) (bne_iff_ne.1 hok) rfl h rfl
  | .num p v, m, outer, s, _, hok, h => by
    simp only [okE, Bool.and_eq_true, bne_iff_ne, ne_eq] at hok
    exact val_docFor (v := .num v) hok.1 hok.2 h rfl
  | .time p v, m, outer, s, _, hok, h =>
    val_docFor (v := .time (TimeV.unix v)) (bne_iff_ne.1 hok) rfl h rfl
  | .bool p v, m, outer, s, _, hok, h => val_docFor (v := .bool v) (bne_iff_ne.1 hok) rfl h rfl
  | .ident p name, m, outer, s, _, hok, h => by
    simp only [okE, Bool.and_eq_true, bne_iff_ne, ne_eq] at hok
    rw [emit] at h
    unfold okName at hok
    cases hf : venv.find? (fun q => q.1 == name) with
    | some q =>
      obtain ⟨n, v⟩ := q
      simp only [hf] at h hok
      exact val_docFor hok.1 hok.2 h (by simp [operandTree, hf])
    | none =>
      simp only [hf] at h hok
      have e : s = "`" ++ name ++ "`" := (Except.pure_eq_ok.1 h).symm
      have hb : "`".toList = ['`'] := by decide
      exact atom_docFor (d := .col name) (w := .col name) hok.1
        (by simp [e, String.toList_append, hb, dchars]) (by simpa [LexOK] using hok.2) trivial
        (by simp [operandTree, hf]) rfl
  | .member p col o field fp oty idx, m, outer, s, _, hok, h => by
    obtain ⟨ip, id, rfl⟩ := okE_member hok
    simp only [okE, Bool.and_eq_true, bne_iff_ne, ne_eq] at hok
    rw [emit] at h
    unfold okMember at hok
    cases hf : venv.find? (fun q => q.1 == id) with
    | none => simp [hf] at h
    | some q =>
      obtain ⟨n, v⟩ := q
      cases v with
      | obj ty vs =>
        simp only [hf] at h hok
        cases hg : objGet? ty vs field with
        | none => simp [hg] at h
        | some v =>
          simp only [hg] at h hok
          exact val_docFor hok.1 hok.2 h (by simp [operandTree, hf, hg])
      | _ => simp [hf] at h
  | .list p es ty, m, outer, s, hn, hok, h => by
    simp only [okE, Bool.and_eq_true] at hok
    simp only [nameOK] at hn
    rw [emit] at h
    obtain ⟨xs, hxs, h⟩ := Except.bind_eq_ok.1 h
    have e : s = joinStr xs ", " "(" ")" := (Except.pure_eq_ok.1 h).symm
    obtain ⟨ds, ws, hc, hl, hw, ht, hfl⟩ := emitList_docs venv es (.each .logic) outer xs hn hok.2 hxs
    have hlen : if m = .inList then 1 ≤ ds.length else 2 ≤ ds.length := by
      rw [charsL_length ds xs hc, emitList_length es hxs]
      have := hok.1
      by_cases hm : m = .inList <;> simpa [hm] using this
    refine ⟨.list ds, .list ws, ?_, ⟨?_, hl⟩, ?_, ?_, ?_⟩
    · rw [e, row_toList ds xs hc]; simp [dchars]
    · rintro rfl
      split at hlen <;> simp [DocList.length] at hlen
    · have hwfs := allWFm_WFs ds hw
      cases m <;> simp only [reduceCtorEq, if_true, if_false] at hlen
      · exact ⟨hlen, hwfs⟩
      · exact ⟨hlen, hwfs⟩
      · exact ⟨hlen, hwfs⟩
      · exact ⟨ds, rfl, hlen, hwfs⟩
    · simp [operandTree, ht]
    · simp only [ptree, pk, wrap, flatten, hfl]
  | .call p col c args cty res idx, m, outer, s, hn, hok, h => by
    obtain ⟨cp, fname, rfl⟩ := okE_call hok
    simp only [okE, Bool.and_eq_true, Bool.or_eq_true, beq_iff_eq, Bool.not_eq_true',
      List.contains_eq_mem, decide_eq_false_iff_not] at hok
    obtain ⟨hm, hok⟩ := hok
    simp only [nameOK, Bool.and_eq_true] at hn
    rw [emit] at h
    cases hres : resolveStatic sqlFuns res idx with
    | none => simp [hres] at h
    | some d =>
      simp only [hres] at h
      simp only [hres, Bool.and_eq_true, decide_eq_true_eq] at hn
      obtain ⟨⟨hfm, hnames⟩, hnargs⟩ := hn
      simp only [hfm] at h
      obtain ⟨xs, hxs, h⟩ := Except.bind_eq_ok.1 h
      obtain ⟨s0, hs0, h⟩ := Except.bind_eq_ok.1 h
      have e := Except.pure_eq_ok.1 h
      have hargs := emitList_docs venv args (argPos fname) _ xs hnargs hok hxs
      rw [← e]
      exact call_doc (by simpa using hnames) hm hargs hs0
  | .map .., _, _, _, _, hok, _ | .obj .., _, _, _, _, hok, _ | .subscript .., _, _, _, _, hok, _
  | .unary .., _, _, _, _, hok, _ | .binary .., _, _, _, _, hok, _ | .ternary .., _, _, _, _, hok, _
  | .group .., _, _, _, _, hok, _ => by
    cases hok
theorem emitList_docs (venv : List (String × Val)) : ∀ (es : ExprList) (lm : ArgPos) (outer : Nat)
    (ss : List String), nameOKList es = true → okList venv lm es = true →
    emitList venv outer es = .ok ss → DocsFor venv lm outer es ss
  | .nil, lm, outer, ss, _, _, h => by
    rw [emitList_nil_ok h]
    exact ⟨.nil, .nil, by simp [charsL], by simp [LexOKs], by simp [AllWFm], by simp [operandTrees],
      by simp [pks, flattenList]⟩
  | .cons e es, lm, outer, ss, hn, hok, h => by
    simp only [nameOKList, Bool.and_eq_true] at hn
    simp only [okList, Bool.and_eq_true] at hok
    obtain ⟨x, xs, hx, hxs, rfl⟩ := emitList_cons_ok h
    obtain ⟨d, w, hs, hl, hw, ht, hf⟩ := emit_doc venv e lm.head outer x hn.1 hok.1 hx
    obtain ⟨ds, ws, hcs, hls, hws, hts, hfs⟩ := emitList_docs venv es lm.tail outer xs hn.2 hok.2 hxs
    refine ⟨.cons d ds, .cons w ws, by simp [charsL, hs, hcs], ⟨hl, hls⟩, ⟨hw, hws⟩, ?_, ?_⟩
    · simp [operandTrees, ht, hts]
    · simp only [pks, flattenList]; rw [← ptree, hf, hfs]
end

mutual
theorem operandTree_erase (venv) : ∀ e : Expr, operandTree venv (erase e) = operandTree venv e
  | .str .. | .num .. | .time .. | .bool .. | .ident .. => rfl
  | .list p es ty => by simp only [erase, operandTree, operandTrees_erase venv es]
  | .member p col o f fp oty idx => by
    cases o with
    | ident ip id => simp only [erase, operandTree]
    | _ => rfl
  | .call p col c args cty res idx => by
    cases c with
    | ident cp n => simp only [erase, operandTree_call, operandTrees_erase venv args]
    | _ => rfl
  | .map .. | .obj .. | .subscript .. | .unary .. | .binary .. | .ternary .. | .group .. => rfl
theorem operandTrees_erase (venv) : ∀ es : ExprList,
    operandTrees venv (eraseList es) = operandTrees venv es
  | .nil => by simp [eraseList]
  | .cons e es => by
    simp [eraseList, operandTrees, operandTree_erase venv e, operandTrees_erase venv es]
end

theorem eraseList_length : ∀ es : ExprList, (eraseList es).length = es.length
  | .nil => rfl
  | .cons _ es => by simp [eraseList, ExprList.length, eraseList_length es]

mutual
theorem okE_erase (venv) : ∀ (e : Expr) (m : Pos'), okE venv m (erase e) = okE venv m e
  | .str .., _ | .num .., _ | .time .., _ | .bool .., _ | .ident .., _ => rfl
  | .list p es ty, m => by simp [erase, okE, okList_erase venv es, eraseList_length]
  | .member p col o f fp oty idx, m => by
    cases o with
    | ident ip id => simp only [erase, okE]
    | _ => rfl
  | .call p col c args cty res idx, m => by
    cases c with
    | ident cp n => simp only [erase, okE, okList_erase venv args]
    | _ => rfl
  | .map .., _ | .obj .., _ | .subscript .., _ | .unary .., _ | .binary .., _ | .ternary .., _
  | .group .., _ => rfl
theorem okList_erase (venv) : ∀ (es : ExprList) (lm : ArgPos),
    okList venv lm (eraseList es) = okList venv lm es
  | .nil, _ => by simp [eraseList]
  | .cons e es, lm => by
    simp [eraseList, okList, okE_erase venv e, okList_erase venv es]
end

mutual
/-- the meaning of a criteria tree is the meaning of its expression form (when no `Cond` is named
like a connective) -/
theorem treeOf_expr (venv) : ∀ c : Criteria, condOpsOK c = true →
    treeOf venv c = operandTree venv c.expr
  | .cond field op operands, h => by
    simp only [condOpsOK, logicNames, Bool.not_eq_true', List.contains_eq_mem, List.mem_cons,
      List.not_mem_nil, or_false, decide_eq_false_iff_not, not_or] at h
    simp only [Criteria.expr, mkCall]
    rw [operandTree_call_cond venv op h.1 h.2.1 h.2.2, treeOf, operandTrees]
    cases operandTree venv (.ident Pos.unknown field) <;> cases operandTrees venv operands <;> rfl
  | .group .and cs, h => by
    simp only [condOpsOK] at h
    simp only [Criteria.expr, mkCall, LogicalOper.name]
    rw [operandTree_call_and, treeOf, treesOf_exprs venv cs h]
  | .group .or cs, h => by
    simp only [condOpsOK] at h
    simp only [Criteria.expr, mkCall, LogicalOper.name]
    rw [operandTree_call_or, treeOf, treesOf_exprs venv cs h]
  | .group .not cs, h => by
    simp only [condOpsOK] at h
    simp only [Criteria.expr, mkCall, LogicalOper.name]
    rw [operandTree_call, treeOf, treesOf_exprs venv cs h]
    cases h2 : operandTrees venv (exprs cs) with
    | none => rfl
    | some xs =>
      match xs with
      | .nil | .cons _ .nil | .cons _ (.cons _ _) => rfl
theorem treesOf_exprs (venv) : ∀ cs : CriteriaList, condOpsOKList cs = true →
    treesOf venv cs = operandTrees venv (exprs cs)
  | .nil, _ => by simp [treesOf, exprs, operandTrees]
  | .cons c cs, h => by
    simp only [condOpsOKList, Bool.and_eq_true] at h
    simp only [treesOf, exprs, operandTrees, treeOf_expr venv c h.1, treesOf_exprs venv cs h.2]
end

theorem readSql_doc {d : Doc} {s : String} (hs : s.toList = dchars d) (hl : LexOK d) (hw : WF 0 d) :
    readSql s = some (ptree d) := by
  unfold readSql
  rw [tokens_doc d hl s hs]
  show (match parseOr (parseFuel (dtoks d)) (dtoks d) with
    | some (t, []) => some t
    | _ => none) = _
  rw [SqlParse.parse_doc d hw]

/-- **C20, structure.**  Whenever a text is produced and the side condition holds, the reference
reader — standard SQL precedence — reads the text as the meaning of the criteria, up to the
associativity of AND and of OR. -/
theorem structure_main (c : Criteria) (tenv : List (String × Ty)) (venv : List (String × Val))
    (text : String) (h : toSql c tenv venv = .ok text) (hside : sideOK venv c = true) :
    ∃ t w, readSql text = some t ∧ treeOf venv c = some w ∧ flatten t = flatten w := by
  simp only [sideOK, Bool.and_eq_true] at hside
  unfold toSql at h
  obtain ⟨e, he, h⟩ := Except.bind_eq_ok.1 h
  unfold checked at he
  split at he
  · next T e' c' hchk =>
    cases Except.pure_eq_ok.1 he
    have hn := check_nameOK tenv _ _ _ _ _ hchk
    have her := check_erase _ _ _ _ _ _ hchk
    have hokE : okE venv .logic e = true := by
      rw [← okE_erase, her, okE_erase]; exact hside.2
    have hemit : emit venv 0 e = .ok text := by
      split at h
      · cases h
      · obtain ⟨_, _, h⟩ := Except.bind_eq_ok.1 h
        exact h
    obtain ⟨d, w, hs, hl, hw, ht, hf⟩ := emit_doc venv e .logic 0 text hn hokE hemit
    refine ⟨ptree d, w, readSql_doc hs hl hw, ?_, hf⟩
    rw [treeOf_expr venv c hside.1, ← operandTree_erase, ← her, operandTree_erase]; exact ht
  · cases he

theorem c20Check_true (c : Criteria) (tenv : List (String × Ty)) (venv : List (String × Val))
    (text : String) (h : toSql c tenv venv = .ok text) (hside : sideOK venv c = true) :
    c20Check c tenv venv = some true := by
  obtain ⟨t, w, h1, h2, h3⟩ := structure_main c tenv venv text h hside
  unfold c20Check
  simp only [h, h1, h2, h3]
  exact congrArg some (beq_self _)

end Yae.SqlStruct

#print axioms Yae.SqlStruct.readSql_doc
#print axioms Yae.SqlStruct.structure_main
#print axioms Yae.SqlStruct.c20Check_true
