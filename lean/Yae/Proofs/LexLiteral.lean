/-
  The literal rules of the lexicon and the regular-expression semantics, at the level of `firstMatch` / `lex` (for
  C09, last clause).  The lexicon is `earlyRules ops` followed by the ten literal rules `litPats`, in the order of
  `newLexicon`.  Token ⇒ language (`firstMatch_literal_inv`): a token of a literal kind is the leftmost-first match
  of the first literal pattern that has any prefix of the remaining input in its language.  Language ⇒ token
  (`firstMatch_literal`): a word of a literal pattern, followed by something that cannot continue it, is what
  `firstMatch` returns, provided no early rule and no earlier literal pattern matches.  The rest of the file
  discharges the two hypotheses: the earlier patterns fail, except in front of a word of the second float pattern
  that has a fraction (`hB`; `Pat.earlier_none`), so `firstMatch_lit` keeps `hB` and the early-rule hypothesis; for every kind but symbols the early rules fail unless a user's operator matches
  (`firstMatch_early_none`, `firstMatch_lit_ops`).
-/
import Yae.Proofs.LexRules
import Yae.Proofs.LexRegex
namespace Yae
open Re

theorem firstMatch_of_split {pre post : List Rule} {r : Rule} {s : List Char} {n : Nat}
    (hr : r.m.run s = some n) (hpre : ∀ r' ∈ pre, r'.m.run s = none) :
    firstMatch (pre ++ r :: post) s = some (r.kind, n) := by
  simp [firstMatch_append, firstMatch_eq_none.2 hpre, firstMatch, hr]

theorem constRules_kind : ∀ r ∈ constRules,
    r.kind ∈ [":", ",", "(", ")", "[", "]", "{", "}", ".", "?", "true", "false"] := by decide

theorem not_prefix_of_head {x c : Char} (l t : List Char) (h : c ≠ x) :
    (x :: l).isPrefixOf (c :: t) = false := by
  simp [List.isPrefixOf, Ne.symm h]

/-- A digit or a quote character starts none of the twelve constant kinds, so only the user's operators can match
in front of a literal that is not a symbol. -/
theorem firstMatch_early_none {ops : List Operator} {c : Char} (t : List Char)
    (hc : isDigit c = true ∨ c = '"' ∨ c = '`' ∨ c = '\'')
    (hops : ∀ o ∈ ops, o.kind.toList.isPrefixOf (c :: t) = false) :
    firstMatch (earlyRules ops) (c :: t) = none := by
  have key : ∀ x : Char, (isDigit x = false ∧ x ≠ '"' ∧ x ≠ '`' ∧ x ≠ '\'') → c ≠ x := by
    rintro x ⟨h1, h2, h3, h4⟩ rfl
    rcases hc with h | h | h | h
    · rw [h1] at h; cases h
    · exact h2 h
    · exact h3 h
    · exact h4 h
  refine firstMatch_eq_none.2 fun r hr => ?_
  rcases mem_earlyRules hr with hr | ⟨o, ho, rfl⟩
  · refine Matcher.run_none_of_not_prefix (constRules_spec r hr).1 ?_
    have hk := constRules_kind r hr
    simp only [List.mem_cons, List.not_mem_nil, or_false] at hk
    rcases hk with h | h | h | h | h | h | h | h | h | h | h | h <;> rw [h] <;>
      exact not_prefix_of_head _ t (key _ (by decide))
  · exact Matcher.run_none_of_not_prefix (operRule_text _) (by rw [operRule_kind]; exact hops o ho)

/-- Contains the first character of every word of the pattern.  For `bin` / `hex` / `oct` larger than needed (any
digit, where only `0` starts a word): all that is used is that it excludes what starts the other kinds. -/
def Pat.first : Pat → Char → Bool
  | .str, c => c == '"'
  | .raw, c => c == '`'
  | .time, c => c == '\''
  | .sym, c => isIdentStart c
  | _, c => isDigit c

theorem reIntPart_none {c : Char} (t : List Char) (h : isDigit c = false) :
    reIntPart (c :: t) = none := by
  have h0 : c ≠ '0' := by rintro rfl; revert h; decide
  have h19 : ¬ ('1' ≤ c ∧ c ≤ '9') := by
    rintro ⟨h1, h9⟩
    have : isDigit c = true := by
      simp only [isDigit, Bool.and_eq_true, decide_eq_true_eq]
      exact ⟨Char.le_trans (by decide) h1, h9⟩
    rw [h] at this; cases this
  simp only [reIntPart, beq_iff_eq, h0, if_false, Bool.and_eq_true, decide_eq_true_eq, h19]

theorem reRadix_none {c : Char} (t : List Char) (h : c ≠ '0') (letter : Char)
    (first rest : Char → Bool) : reRadix letter first rest (c :: t) = none := by
  match t with
  | [] => rfl
  | [_] => rfl
  | _ :: _ :: _ => simp [reRadix, h]

theorem Pat.run_none_of_first {p : Pat} {c : Char} (t : List Char) (h : p.first c = false) :
    p.run (c :: t) = none := by
  have hd0 : isDigit c = false → c ≠ '0' := by rintro h rfl; revert h; decide
  cases p with
  | floatA => simp [Pat.run, reFloatA, reIntPart_none t h]
  | floatB => simp [Pat.run, reFloatB, reIntPart_none t h]
  | bin | hex | oct => exact reRadix_none t (hd0 h) _ _ _
  | int => simp [Pat.run, reInt, reIntPart_none t h]
  | str => simp only [Pat.first] at h; simp [Pat.run, reStr, h]
  | raw => simp only [Pat.first] at h; simp [Pat.run, reRaw, h]
  | time => simp only [Pat.first] at h; simp [Pat.run, reTime, h]
  | sym => simp only [Pat.first] at h; simp [Pat.run, reSym, h]

theorem regex_run_none_of_first {p : Pat} {c : Char} (t : List Char) (h : p.first c = false) :
    (Matcher.regex p).run (c :: t) = none := by
  rw [regex_run_eq, Pat.run_none_of_first t h]

/-- Through the recogniser: `p.run d` succeeds, and fails unless `d` starts in `p.first`. -/
theorem Pat.first_of_matches {p : Pat} {d : List Char} (h : (reOf p).Matches d) :
    ∃ c t, d = c :: t ∧ p.first c = true := by
  have hrun : p.run (d ++ []) = some d.length := Pat.run_append p h (LitEnd.nil p)
  rw [List.append_nil] at hrun
  cases d with
  | nil => exact absurd (Pat.run_pos hrun) (by simp)
  | cons c t =>
    refine ⟨c, t, rfl, ?_⟩
    cases hf : p.first c
    · rw [Pat.run_none_of_first t hf] at hrun; cases hrun
    · rfl

theorem firstMatch_literal_inv {ops : List Operator} {s : List Char} {k : String} {n : Nat}
    (h : firstMatch (newLexicon ops) s = some (k, n))
    (hk : k ∈ ["<num>", "<str>", "<time>", "<sym>"]) (hops : ∀ o ∈ ops, o.kind ≠ k) :
    ∃ before after p, litPats = before ++ (k, p) :: after ∧ (reOf p).matchLen s = some n ∧
      ∀ kq ∈ before, ∀ u v, s = u ++ v → ¬ (reOf kq.2).Matches u := by
  rw [newLexicon_split, firstMatch_append] at h
  cases he : firstMatch (earlyRules ops) s with
  | some kn =>
    exfalso
    rw [he] at h
    simp only [Option.or, Option.some.injEq] at h
    subst h
    obtain ⟨r, hr, rfl, _⟩ := firstMatch_mem he
    rcases mem_earlyRules hr with hc | ⟨o, ho, rfl⟩
    · exact (by decide : ∀ r ∈ constRules, r.kind ∉ literalKinds) r hc hk
    · exact hops o ho (operRule_kind _).symm
  | none =>
    rw [he, Option.none_or] at h
    obtain ⟨before, ⟨k', p⟩, after, hl, rfl, hp, hb⟩ := firstMatch_map_inv h
    exact ⟨before, after, p, hl, (regex_run_matchLen p s).symm.trans hp, fun kq hkq => regex_run_none.1 (hb kq hkq)⟩

theorem firstMatch_literal {ops : List Operator} {k : String} {p : Pat}
    {before after : List (String × Pat)} (hsplit : litPats = before ++ (k, p) :: after)
    {d post : List Char} (hd : (reOf p).Matches d) (hpost : LitEnd p post)
    (hearly : firstMatch (earlyRules ops) (d ++ post) = none)
    (hbefore : ∀ kq ∈ before, kq.2.run (d ++ post) = none) :
    firstMatch (newLexicon ops) (d ++ post) = some (k, d.length) := by
  rw [newLexicon_split, firstMatch_append, hearly, Option.none_or, hsplit, List.map_append]
  exact firstMatch_of_split (r := litRule (k, p)) ((regex_run_eq p _).trans (Pat.run_append p hd hpost))
    (List.forall_mem_map.2 fun kq hkq => (regex_run_eq kq.2 _).trans (hbefore kq hkq))

def Pat.kind : Pat → String
  | .str | .raw => "<str>"
  | .time => "<time>"
  | .sym => "<sym>"
  | _ => "<num>"

/-- The literal patterns tried before `p` (the constructors of `Pat` are in the order of `litPats`). -/
def Pat.before (p : Pat) : List Pat := (litPats.take p.ctorIdx).map (·.2)

theorem litPats_at (p : Pat) :
    litPats = litPats.take p.ctorIdx ++ (p.kind, p) :: litPats.drop (p.ctorIdx + 1) := by
  cases p <;> rfl

theorem lex_first_token {ops : List Operator} {c : Char} {r post : List Char} {k : String}
    (hc : isSpace c = false)
    (hfm : firstMatch (newLexicon ops) (c :: r ++ post) = some (k, (c :: r).length))
    {ts : List Token} (h : lex ops (c :: r ++ post) = .ok ts) :
    ∃ t ts', ts = t :: ts' ∧ t.kind = k ∧ t.lexeme.toList = c :: r ∧
      t.pos = ⟨0, (c :: r).length, 0, 0⟩ := by
  have hl := lex_lexed h
  generalize hs : c :: r ++ post = s at hl
  cases hl with
  | done hws =>
    have := hws c (by rw [← hs]; simp)
    rw [hc] at this; cases this
  | @tok _ ws t ts' rest n' hws hne hhead hfm' htake hpos hrest =>
    cases ws with
    | cons w ws' =>
      simp only [List.cons_append, List.cons.injEq] at hs
      have := hws w (by simp)
      rw [← hs.1, hc] at this; cases this
    | nil =>
      simp only [List.nil_append] at hs
      rw [hs, hfm'] at hfm
      simp only [Option.some.injEq, Prod.mk.injEq] at hfm
      have hlex : t.lexeme.toList = c :: r := by
        rw [htake, ← hs, hfm.2, List.take_left]
      refine ⟨t, ts', rfl, hfm.1, hlex, ?_⟩
      rw [hpos, hlex]
      simpa [Pos.moves, colOf] using tokPos_zero [] (c :: r)

/-! Literals that start with a digit or a quote character (every kind but symbols): such a first character is not
white space, so `lex_first_token` applies, and starts none of the twelve constant kinds (`firstMatch_early_none`). -/

theorem Pat.first_cases {p : Pat} {c : Char} (hp : p ≠ .sym) (hc : p.first c = true) :
    isDigit c = true ∨ c = '"' ∨ c = '`' ∨ c = '\'' := by
  cases p <;> simp_all [Pat.first]

theorem isSpace_digit_quote {c : Char} (hc : isDigit c = true ∨ c = '"' ∨ c = '`' ∨ c = '\'') :
    isSpace c = false := by
  rcases hc with h | rfl | rfl | rfl
  · have := (digit_iff_toNat c).1 h
    unfold isSpace Gen.spaceRanges
    simp only [inRanges]
    rw [if_neg (by omega : ¬ c.toNat < 9), if_neg (by omega : ¬ c.toNat ≤ 13),
      if_neg (by omega : ¬ c.toNat < 32), if_neg (by omega : ¬ c.toNat ≤ 32),
      if_pos (by omega : c.toNat < 133)]
  · decide
  · decide
  · decide

/-- The first character of the input that is not a digit: what tells the numeric patterns apart. -/
def sepOf (s : List Char) : Option Char := (s.dropWhile isDigit).head?

theorem sepOf_digits {ds : List Char} (h : ds.all isDigit = true) (r : List Char) :
    sepOf (ds ++ r) = sepOf r := by
  induction ds with
  | nil => rfl
  | cons c t ih =>
    simp only [List.all_cons, Bool.and_eq_true] at h
    simp only [sepOf, List.cons_append, List.dropWhile_cons, h.1, if_true]
    exact ih h.2

theorem sepOf_cons {c : Char} (h : isDigit c = false) (t : List Char) : sepOf (c :: t) = some c := by
  simp [sepOf, h]

def Pat.seps : Pat → List Char
  | .floatA => ['.']
  | .floatB => ['.', 'e', 'E']
  | .bin => ['b']
  | .hex => ['x']
  | .oct => ['o']
  | _ => []

theorem sepOf_word {p : Pat} (hp : p.seps ≠ []) {d : List Char} (hd : (reOf p).Matches d) (v : List Char) :
    ∃ c ∈ p.seps, sepOf (d ++ v) = some c ∧ (p = .floatB → c = '.' → '.' ∈ d) := by
  have radix : ∀ {l : Char} {G : Re}, isDigit l = false →
      (Re.cat (.chr '0') (.cat (.chr l) G)).Matches d → sepOf (d ++ v) = some l := by
    intro l G hl h
    obtain ⟨t, rfl, _⟩ := h.radix_split
    exact (sepOf_digits (ds := ['0']) rfl _).trans (sepOf_cons hl _)
  cases p with
  | floatA =>
    obtain ⟨i, r, rfl, hi, hr⟩ := hd.cat_inv
    obtain ⟨F, E, rfl, hF, -⟩ := hr.cat_inv
    obtain ⟨c, t, rfl, hc⟩ := (scans_frac.plus starts_frac @digit_not_dot).head
      starts_frac.iter1 hF
    obtain rfl := beq_iff_eq.mp hc
    exact ⟨'.', by simp [Pat.seps], by rw [List.append_assoc, sepOf_digits (intPart_digits hi)]; rfl, nofun⟩
  | floatB =>
    obtain ⟨i, r, rfl, hi, hr⟩ := hd.cat_inv
    obtain ⟨Fo, Es, rfl, hFo, hEs⟩ := hr.cat_inv
    rw [List.append_assoc, sepOf_digits (intPart_digits hi)]
    rcases hFo.opt_inv with rfl | hF
    · obtain ⟨e, t, rfl, he⟩ := scans_exps.head starts_exp.iter1 hEs
      have he : e = 'e' ∨ e = 'E' := by simpa using he
      rcases he with rfl | rfl
      · exact ⟨'e', by simp [Pat.seps], rfl, fun _ h => nomatch h⟩
      · exact ⟨'E', by simp [Pat.seps], rfl, fun _ h => nomatch h⟩
    · obtain ⟨c, t, rfl, hc⟩ := scans_frac.head starts_frac hF
      obtain rfl := beq_iff_eq.mp hc
      exact ⟨'.', by simp [Pat.seps], rfl, fun _ _ => by simp⟩
  | bin => exact ⟨'b', by simp [Pat.seps], radix (by decide) hd, nofun⟩
  | hex => exact ⟨'x', by simp [Pat.seps], radix (by decide) hd, nofun⟩
  | oct => exact ⟨'o', by simp [Pat.seps], radix (by decide) hd, nofun⟩
  | _ => exact absurd rfl hp

theorem Re.NumEnd.no_sep {post : List Char} (h : NumEnd post) :
    ∀ c ∈ ['.', 'e', 'E', 'b', 'x', 'o'], sepOf post ≠ some c := by
  intro c hc e
  cases post with
  | nil => cases e
  | cons x t =>
    obtain ⟨h1, h2⟩ := h x t rfl
    have hx : isDigit x = false := by
      cases hd : isDigit x
      · rfl
      · simp [isIdentCont, hd] at h1
    rw [sepOf_cons hx] at e
    cases e
    simp only [List.mem_cons, List.not_mem_nil, or_false] at hc
    rcases hc with rfl | rfl | rfl | rfl | rfl | rfl
    · exact h2 rfl
    all_goals exact absurd h1 (by decide)

/-- Two numeric patterns match at the same place only when they share a separator: the two float patterns, at a
word with a fraction. -/
theorem num_earlier_none {p : Pat} (hp : p ∈ [Pat.floatA, .floatB, .bin, .hex, .oct, .int])
    {d : List Char} (hd : (reOf p).Matches d) {post : List Char} (hpost : NumEnd post)
    (hB : p = .floatB → '.' ∉ d) : ∀ q ∈ p.before, q.run (d ++ post) = none := by
  have table : ∀ p ∈ [Pat.floatA, .floatB, .bin, .hex, .oct, .int], (p = .int ∨ p.seps ≠ []) ∧
      ∀ q ∈ p.before, q.seps ≠ [] ∧ ∀ c ∈ q.seps, c ∈ ['.', 'e', 'E', 'b', 'x', 'o'] ∧
        (c ∈ p.seps → p = .floatB ∧ c = '.') := by decide
  intro q hq
  cases hr : q.run (d ++ post) with
  | none => rfl
  | some n =>
    exfalso
    obtain ⟨hps, hqs⟩ := table p hp
    rw [Pat.run_eq_matchLen] at hr
    obtain ⟨c, hc, hw, -⟩ := sepOf_word (hqs q hq).1 (matchLen_take hr).2 ((d ++ post).drop n)
    rw [List.take_append_drop] at hw
    obtain ⟨hc6, hcp⟩ := (hqs q hq).2 c hc
    rcases hps with rfl | hps
    · rw [sepOf_digits (intPart_digits hd)] at hw
      exact hpost.no_sep c hc6 hw
    · obtain ⟨c', hc', hw', hdot⟩ := sepOf_word hps hd post
      obtain rfl : c' = c := Option.some.inj (hw'.symm.trans hw)
      obtain ⟨rfl, rfl⟩ := hcp hc'
      exact hB rfl (hdot rfl rfl)

/-! Symbols: an identifier start is the first character of no other literal pattern. -/

theorem inRanges_lt {n lo hi : Nat} (rest : List (Nat × Nat)) (h : n < lo) :
    inRanges n ((lo, hi) :: rest) = false := by
  simp [inRanges, h]

theorem isLetter_digit {c : Char} (h : isDigit c = true) : isLetter c = false := by
  have := (digit_iff_toNat c).1 h
  unfold isLetter Gen.letterRanges
  exact inRanges_lt _ (by omega)

theorem isIdentStart_digit {c : Char} (h : isDigit c = true) : isIdentStart c = false := by
  have hn := (digit_iff_toNat c).1 h
  have h1 : isAsciiAlpha c = false := by
    cases ha : isAsciiAlpha c
    · rfl
    · simp only [isAsciiAlpha, Bool.or_eq_true, Bool.and_eq_true, decide_eq_true_eq] at ha
      rcases ha with ⟨h1, _⟩ | ⟨h1, _⟩ <;>
        (have h1' := (char_le_toNat _ _).1 h1
         simp at h1'; omega)
  have h2 : c ≠ '_' := by rintro rfl; revert h; decide
  simp [isIdentStart, h1, isLetter_digit h, h2]

theorem sym_earlier_none {c : Char} (hc : isIdentStart c = true) (t : List Char) :
    ∀ q ∈ Pat.before .sym, q.run (c :: t) = none := by
  have hnd : isDigit c = false := by
    cases h : isDigit c
    · rfl
    · rw [isIdentStart_digit h] at hc; cases hc
  have hq : c ≠ '"' ∧ c ≠ '`' ∧ c ≠ '\'' := by
    refine ⟨?_, ?_, ?_⟩ <;> (rintro rfl; revert hc; decide)
  intro q hq'
  change q ∈ [Pat.floatA, .floatB, .bin, .hex, .oct, .int, .str, .raw, .time] at hq'
  simp only [List.mem_cons, List.not_mem_nil, or_false] at hq'
  rcases hq' with rfl | rfl | rfl | rfl | rfl | rfl | rfl | rfl | rfl <;>
    exact Pat.run_none_of_first _ (by simp [Pat.first, hnd, hq.1, hq.2.1, hq.2.2])

/-- No pattern tried before `p` matches where a word of `p` stands, except a word of the second float pattern that has a
fraction: a pattern of another kind starts with another character, two numeric patterns differ in the separator. -/
theorem Pat.earlier_none (p : Pat) {d post : List Char} (hd : (reOf p).Matches d) (hpost : LitEnd p post)
    (hB : p = .floatB → '.' ∉ d) : ∀ q ∈ p.before, q.run (d ++ post) = none := by
  obtain ⟨c, t, rfl, hc⟩ := Pat.first_of_matches hd
  cases p with
  | str | raw | time =>
    obtain rfl : c = _ := by simpa [Pat.first] using hc
    exact fun q hq => Pat.run_none_of_first _ (by revert q; decide)
  | sym => exact sym_earlier_none hc _
  | _ => exact num_earlier_none (by decide) hd hpost hB

/-- A word of pattern `p` followed by something that cannot continue it is what the lexicon matches, as one token of
`p`'s kind, when no early rule matches there. -/
theorem firstMatch_lit {ops : List Operator} (p : Pat) {d post : List Char}
    (hd : (reOf p).Matches d) (hpost : LitEnd p post) (hB : p = .floatB → '.' ∉ d)
    (hearly : firstMatch (earlyRules ops) (d ++ post) = none) :
    firstMatch (newLexicon ops) (d ++ post) = some (p.kind, d.length) :=
  firstMatch_literal (litPats_at p) hd hpost hearly fun kq hkq =>
    p.earlier_none hd hpost hB kq.2 (List.mem_map_of_mem hkq)

/-- `firstMatch_lit` for every kind but symbols: the early-rule hypothesis comes down to "no user operator is a prefix
of the input" -/
theorem firstMatch_lit_ops {ops : List Operator} {p : Pat} (hp : p ≠ .sym) {d post : List Char}
    (hd : (reOf p).Matches d) (hpost : LitEnd p post) (hB : p = .floatB → '.' ∉ d)
    (hops : ∀ o ∈ ops, o.kind.toList.isPrefixOf (d ++ post) = false) :
    firstMatch (newLexicon ops) (d ++ post) = some (p.kind, d.length) := by
  refine firstMatch_lit p hd hpost hB ?_
  obtain ⟨c, t, rfl, hc⟩ := Pat.first_of_matches hd
  exact firstMatch_early_none (t ++ post) (Pat.first_cases hp hc) hops

/-- if the lexicon matches the whole word `d` first, `lex` returns it as the first token, at position 0 -/
theorem lex_first_lit {ops : List Operator} {p : Pat} (hp : p ≠ .sym) {d post : List Char}
    (hd : (reOf p).Matches d) {k : String}
    (hfm : firstMatch (newLexicon ops) (d ++ post) = some (k, d.length))
    {ts : List Token} (h : lex ops (d ++ post) = .ok ts) :
    ∃ t ts', ts = t :: ts' ∧ t.kind = k ∧ t.lexeme.toList = d ∧ t.pos = ⟨0, d.length, 0, 0⟩ := by
  obtain ⟨c, r, rfl, hc⟩ := Pat.first_of_matches hd
  exact lex_first_token (isSpace_digit_quote (Pat.first_cases hp hc)) hfm h

end Yae
