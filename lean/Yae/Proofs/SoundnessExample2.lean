/-
  More non-vacuity witnesses (the first two trees built by hand, since kernel evaluation of `check`
  stops at the well-founded `applySubst` as soon as `inferFun` is involved):
  * `get(["x"], 7, "d")`: a polymorphic built-in, statically dispatched;
  * `id(h.f(1))`: a polymorphic host function applied to the result of a dynamically dispatched
    call of a function VALUE stored in an object of the environment;
  * `[{a: 1, b: "x"}, {b: "y", a: 2}][1].a`: object literals with different field orders in one list.
-/
import Yae.Proofs.SoundnessExample
import Yae.Proofs.TySubst
namespace Yae.Sound.Example
open Yae

def getProg' : Expr :=
  .call p0 0 (.ident p0 "get")
    (.cons (.list p0 (.cons (.str p0 "x") .nil) (some (.list .str)))
      (.cons (.num p0 7) (.cons (.str p0 "d") .nil)))
    (some (.fn "get" (.cons (.list .str) (.cons .num (.cons .str .nil))) .str)) "∀.λ get 3" 0

/-- 15 is the position of `get` on lists (`GET_LIST_NUM_ANY`) in the table `builtins` (`getResolved` checks it) -/
def getDecl : FunDecl :=
  ⟨.fn "get" (.cons (.list (.var "a")) (.cons .num (.cons (.var "a") .nil))) (.var "a"),
    .builtin 15, false⟩

theorem getResolved : resolveStatic Γ.funs "∀.λ get 3" 0 = some getDecl := by rfl

theorem ground_single {n : String} {t : Ty} (hs : slotFree t = true) (hw : t.wf = true) :
    Subst.Ground [(n, t)] := by
  intro n' k h
  simp only [Subst.get?] at h
  split at h
  · cases h; exact ⟨hs, hw⟩
  · cases h

theorem getAnn : Ann Γ getProg' .str := by
  refine .callStatic (As := .cons (.list .str) (.cons .num (.cons .str .nil)))
    (.cons (.listCons .str .nil) (.cons .num (.cons .str .nil))) (by decide) getResolved rfl ?_
  exact ⟨[("a", .str)], ground_single rfl rfl, StructEqList.refl _, rfl, rfl, rfl⟩

theorem getArgs : evalList 2 false ρ
    (.cons (.list p0 (.cons (.str p0 "x") .nil) (some (.list .str)))
      (.cons (.num p0 7) (.cons (.str p0 "d") .nil))) [] =
    (.ok (.cons (.list (.list .str) (.cons (.str "x") .nil))
      (.cons (.num 7) (.cons (.str "d") .nil))), []) := by
  simp only [evalList, eval]
  rfl

/-- `boom` (a host function that fails) and `last` (a lazy one) are called by no program of this file: they are
two more shapes of host function that `funsOK2` puts through `declOK` -/
def funs2 : List FunDecl := funs ++ [
  ⟨.fn "id" (.cons (.var "a") .nil) (.var "a"), .host "id" (.retArg 0), false⟩,
  ⟨.fn "boom" .nil .num, .host "boom" .fail, false⟩,
  ⟨.fn "last" (.cons .str (.cons .num .nil)) .num, .host "last" (.force [0, 1]), true⟩]

def fTy : Ty := .fn "f" (.cons .num .nil) .num
def fVal : Val := .fn fTy (.host "f" (.constNum 7)) false
def hTy : Ty := .obj (.cons "f" fTy .nil)
def hVal : Val := .obj hTy (.cons fVal .nil)
def Γ2 : TEnv := ⟨[("h", hTy)], funs2, reservedWords⟩
def ρ2 : REnv := ⟨[("h", hVal)], funs2, {}⟩

/-- `h.f`: an expression (not an identifier) of function type -/
def calleeE : Expr := .member p0 0 (.ident p0 "h") "f" p0 (some hTy) 0

/-- `id(h.f(1))` -/
def idProg' : Expr :=
  .call p0 0 (.ident p0 "id")
    (.cons (.call p0 0 calleeE (.cons (.num p0 1) .nil) (some fTy) "" (-1)) .nil)
    (some (.fn "id" (.cons .num .nil) .num)) "∀.λ id 1" 0

def idDecl : FunDecl :=
  ⟨.fn "id" (.cons (.var "a") .nil) (.var "a"), .host "id" (.retArg 0), false⟩

theorem idResolved : resolveStatic Γ2.funs "∀.λ id 1" 0 = some idDecl := by rfl

theorem idAnn : Ann Γ2 idProg' .num := by
  have hcallee : Ann Γ2 calleeE fTy :=
    .member (fs := .cons "f" fTy .nil) (.ident rfl) rfl
  have hdyn : Ann Γ2 (.call p0 0 calleeE (.cons (.num p0 1) .nil) (some fTy) "" (-1)) .num :=
    .callDyn (As := .cons .num .nil) hcallee (.cons .num .nil)
      ⟨[], Subst.ground_nil, StructEqList.refl _, rfl, rfl, rfl⟩
  exact .callStatic (As := .cons .num .nil) (.cons hdyn .nil) (by decide) idResolved rfl
    ⟨[("a", .num)], ground_single rfl rfl, StructEqList.refl _, rfl, rfl, rfl⟩

theorem funsOK2 : FunsOK Γ2.funs := by
  intro d hd
  rcases List.mem_append.1 hd with h | h
  · exact funsOK d h
  · simp only [List.mem_cons, List.not_mem_nil, or_false] at h
    rcases h with rfl | rfl | rfl <;> decide

theorem envOK2 : EnvOK Γ2 ρ2 := envOK_single (by decide) (by decide) (by decide)

theorem EvalM.pure_bind' {α β : Type} (a : α) (f : α → EvalM β) :
    (pure a >>= f) = f a := Yae.EvalM.pure_bind a f

theorem idEval : (eval 5 false ρ2 idProg' []).1 = .ok (.num 7) := by
  have hf : ρ2.lookupVar "h" = some hVal := rfl
  have hr : resolveStatic ρ2.funs "∀.λ id 1" 0 = some idDecl := idResolved
  simp only [idProg', calleeE, eval, evalList, hr, idDecl, callFun, hf, hVal, hTy, fVal, fTy,
    hostStrict, recDbg, objGet?, FieldList.indexOf?, ValList.get?, EvalM.pure_bind',
    Bool.false_eq_true, if_false, beq_self_eq_true, if_true, Option.bind, ValList.toList]
  rfl

/-- the binary64 `1.0` given by its bit pattern, so that the kernel can convert it to an index -/
def one : Float := Float.ofBits 0x3FF0000000000000

def objAB (x : Float) (s : String) (ty : Option Ty) : Expr :=
  .obj p0 (.cons "a" (.num p0 x) (.cons "b" (.str p0 s) .nil)) ty
def objBA (x : Float) (s : String) (ty : Option Ty) : Expr :=
  .obj p0 (.cons "b" (.str p0 s) (.cons "a" (.num p0 x) .nil)) ty

/-- `[{a: 1, b: "x"}, {b: "y", a: 2}][1].a` -/
def mixed : Expr :=
  .member p0 0 (.subscript p0 0
    (.list p0 (.cons (objAB 1 "x" none) (.cons (objBA 2 "y" none) .nil)) none)
    (.num p0 one) none) "a" p0 none 0

def mixed' : Expr :=
  .member p0 0 (.subscript p0 0
    (.list p0 (.cons (objAB 1 "x" (some objT)) (.cons (objBA 2 "y" (some objT')) .nil))
      (some (.list objT)))
    (.num p0 one) (some (.list objT))) "a" p0 (some objT) 0

theorem mixedChecked : check Γ 0 mixed = .ok (.num, mixed', 0) := by rfl

theorem mixedEval : (eval 5 false ρ mixed' []).1 = .ok (.num 2) := by
  have h1 : Num.toInt one = 1 := by decide
  simp only [mixed', objAB, objBA, eval, evalList, evalFields, recDbg, EvalM.pure_bind', h1,
    Bool.false_eq_true, if_false, objT, objT']
  rfl

end Yae.Sound.Example
