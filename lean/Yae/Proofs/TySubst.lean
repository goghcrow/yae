/-
  Substitutions whose range is variable free and well formed (`Subst.Ground`; `Subst.GroundOn P` asks it of the
  names satisfying `P` only), ordered by `Subst.le`.  Under such a substitution `applySubst` computes `substG`
  and needs one unit of fuel: a binding is looked up once, and its value holds nothing to replace
  (`applySubst_post`).  Along `Subst.le` a variable-free instance stays what it is (`Sound.substG_monoS`) and the
  smaller substitution is absorbed by the larger (`substG_substG`).
-/
import Yae.Proofs.TyEq
import Yae.Proofs.ExceptLemmas
namespace Yae

@[simp] theorem UM.ok_bind {α β : Type} (x : α) (f : α → UM β) :
    ((Except.ok x : UM α) >>= f) = f x := rfl

theorem Subst.get?_set_self : ∀ (m : Subst) (n : String) (t : Ty), (m.set n t).get? n = some t
  | [], n, t => by simp [Subst.set, Subst.get?]
  | (k, v) :: rest, n, t => by
    simp only [Subst.set]
    split
    · next h => simp [Subst.get?, h]
    · next h => simp [Subst.get?, h, Subst.get?_set_self rest n t]

theorem Subst.get?_set_ne : ∀ (m : Subst) (n n' : String) (t : Ty), n ≠ n' →
    (m.set n t).get? n' = m.get? n'
  | [], n, n', t, h => by simp [Subst.set, Subst.get?, h]
  | (k, v) :: rest, n, n', t, h => by
    simp only [Subst.set]
    split
    · next hk => subst hk; simp [Subst.get?, h]
    · next hk =>
      simp only [Subst.get?]
      split
      · rfl
      · exact Subst.get?_set_ne rest n n' t h

def Subst.le (m m' : Subst) : Prop :=
  ∀ n k, m.get? n = some k → ∃ k', m'.get? n = some k' ∧ StructEq k k'

theorem Subst.le_refl (m : Subst) : m.le m := fun _ k h => ⟨k, h, StructEq.refl k⟩

theorem Subst.le_trans {a b c : Subst} (h1 : a.le b) (h2 : b.le c) : a.le c := by
  intro n k hk
  obtain ⟨k', hk', e1⟩ := h1 n k hk
  obtain ⟨k'', hk'', e2⟩ := h2 n k' hk'
  exact ⟨k'', hk'', StructEq.trans _ _ _ e1 e2⟩

theorem Subst.ground_nil : Subst.Ground [] := by
  intro n k h; simp [Subst.get?] at h

/-- `inferFun` matches under a substitution that still holds the bindings of its own fresh names, never
looked at since a signature's variables satisfy `okVarName`. -/
def Subst.GroundOn (P : String → Bool) (m : Subst) : Prop :=
  ∀ n k, P n = true → m.get? n = some k → slotFree k = true ∧ k.wf = true

theorem Subst.Ground.on {m : Subst} (h : m.Ground) (P : String → Bool) : m.GroundOn P :=
  fun n k _ hk => h n k hk

theorem Subst.GroundOn.ground {m : Subst} (h : m.GroundOn fun _ => true) : m.Ground :=
  fun n k hk => h n k rfl hk

theorem Subst.GroundOn.set {P : String → Bool} {m : Subst} {n : String} {t : Ty}
    (hm : m.GroundOn P) (h1 : slotFree t = true) (h2 : t.wf = true) : (m.set n t).GroundOn P := by
  intro n' k hP hk
  by_cases hn : n = n'
  · subst hn; rw [Subst.get?_set_self] at hk; cases hk; exact ⟨h1, h2⟩
  · rw [Subst.get?_set_ne _ _ _ _ hn] at hk; exact hm n' k hP hk

theorem Subst.ground_set {m : Subst} {n : String} {t : Ty} (hm : m.Ground)
    (h1 : slotFree t = true) (h2 : t.wf = true) : (m.set n t).Ground :=
  ((hm.on _).set h1 h2).ground

theorem Subst.le_set {m : Subst} {n : String} {t : Ty}
    (h : ∀ k, m.get? n = some k → StructEq k t) : m.le (m.set n t) := by
  intro n' k hk
  by_cases hn : n = n'
  · subst hn; exact ⟨t, Subst.get?_set_self _ _ _, h k hk⟩
  · exact ⟨k, by rw [Subst.get?_set_ne _ _ _ _ hn]; exact hk, StructEq.refl k⟩

theorem length_substGFields (m : Subst) : ∀ fs, (substGFields m fs).length = fs.length
  | .nil => rfl
  | .cons _ _ fs => by simp [substGFields, FieldList.length, length_substGFields m fs]

theorem length_substGList (m : Subst) : ∀ ts, (substGList m ts).length = ts.length
  | .nil => rfl
  | .cons _ ts => by simp [substGList, TyList.length, length_substGList m ts]

theorem find?_substGFields (m : Subst) : ∀ (fs : FieldList) (n : String),
    (substGFields m fs).find? n = (fs.find? n).map (substG m)
  | .nil, n => rfl
  | .cons k t fs, n => by
    simp only [substGFields, FieldList.find?]
    split
    · rfl
    · exact find?_substGFields m fs n

theorem find?_substGFields_some {m : Subst} {fs : FieldList} {n : String} {t' : Ty}
    (h : (substGFields m fs).find? n = some t') : ∃ t, fs.find? n = some t ∧ t' = substG m t := by
  rw [find?_substGFields, Option.map_eq_some_iff] at h
  exact h.imp fun _ ht => ⟨ht.1, ht.2.symm⟩

mutual
theorem slotFree_freeFrom (s : String) : ∀ t, slotFree t = true → freeFrom s t = true
  | .var _, h => by simp [slotFree] at h
  | .top, _ | .bot, _ | .num, _ | .str, _ | .bool, _ | .time, _ => by simp [freeFrom]
  | .tuple ts, h => by
    simp only [slotFree] at h; simp only [freeFrom, slotFreeList_freeFrom s ts h]
  | .list a, h | .maybe a, h => by
    simp only [slotFree] at h; simp only [freeFrom, slotFree_freeFrom s a h]
  | .map k v, h => by
    simp only [slotFree, Bool.and_eq_true] at h
    simp [freeFrom, slotFree_freeFrom s k h.1, slotFree_freeFrom s v h.2]
  | .obj fs, h => by
    simp only [slotFree] at h; simp only [freeFrom, slotFreeFields_freeFrom s fs h]
  | .fn _ ps r, h => by
    simp only [slotFree, Bool.and_eq_true] at h
    simp [freeFrom, slotFreeList_freeFrom s ps h.1, slotFree_freeFrom s r h.2]
theorem slotFreeList_freeFrom (s : String) : ∀ ts, slotFreeList ts = true →
    freeFromList s ts = true
  | .nil, _ => by simp [freeFromList]
  | .cons t ts, h => by
    simp only [slotFreeList, Bool.and_eq_true] at h
    simp [freeFromList, slotFree_freeFrom s t h.1, slotFreeList_freeFrom s ts h.2]
theorem slotFreeFields_freeFrom (s : String) : ∀ fs, slotFreeFields fs = true →
    freeFromFields s fs = true
  | .nil, _ => by simp [freeFromFields]
  | .cons _ t fs, h => by
    simp only [slotFreeFields, Bool.and_eq_true] at h
    simp [freeFromFields, slotFree_freeFrom s t h.1, slotFreeFields_freeFrom s fs h.2]
end

/-- Every variable of `t` has `Q`: the form in which the lemmas on `substG`, `applySubst` and `unify` ask something
of the names in a type (`okVars t = true` iff `t.VarsIn (okVarName · = true)`: `Sound.okVars_varsIn`, `okVars_of_varsIn` in
SoundnessInfer; `slotFree t` gives it for every `Q`: `slotFree_varsIn`). -/
def Ty.VarsIn (Q : String → Prop) (t : Ty) : Prop := ∀ n, freeFrom n t = false → Q n
def TyList.VarsIn (Q : String → Prop) (ts : TyList) : Prop := ∀ n, freeFromList n ts = false → Q n
def FieldList.VarsIn (Q : String → Prop) (fs : FieldList) : Prop :=
  ∀ n, freeFromFields n fs = false → Q n

section
variable {Q : String → Prop}

theorem Ty.VarsIn.var {n : String} (h : (Ty.var n).VarsIn Q) : Q n := h n (by simp [freeFrom])

theorem Ty.VarsIn.map {k v : Ty} (h : (Ty.map k v).VarsIn Q) : k.VarsIn Q ∧ v.VarsIn Q := by
  simp only [Ty.VarsIn, freeFrom, Bool.and_eq_false_iff] at h
  exact ⟨fun n hn => h n (.inl hn), fun n hn => h n (.inr hn)⟩

theorem Ty.VarsIn.fn {f : String} {ps : TyList} {r : Ty} (h : (Ty.fn f ps r).VarsIn Q) :
    ps.VarsIn Q ∧ r.VarsIn Q := by
  simp only [Ty.VarsIn, freeFrom, Bool.and_eq_false_iff] at h
  exact ⟨fun n hn => h n (.inl hn), fun n hn => h n (.inr hn)⟩

theorem TyList.VarsIn.cons {t : Ty} {ts : TyList} (h : (TyList.cons t ts).VarsIn Q) :
    t.VarsIn Q ∧ ts.VarsIn Q := by
  simp only [TyList.VarsIn, freeFromList, Bool.and_eq_false_iff] at h
  exact ⟨fun n hn => h n (.inl hn), fun n hn => h n (.inr hn)⟩

theorem FieldList.VarsIn.cons {x : String} {t : Ty} {fs : FieldList}
    (h : (FieldList.cons x t fs).VarsIn Q) : t.VarsIn Q ∧ fs.VarsIn Q := by
  simp only [FieldList.VarsIn, freeFromFields, Bool.and_eq_false_iff] at h
  exact ⟨fun n hn => h n (.inl hn), fun n hn => h n (.inr hn)⟩

theorem slotFree_varsIn {t : Ty} (h : slotFree t = true) : t.VarsIn Q := fun n hn => by
  rw [slotFree_freeFrom n t h] at hn; cases hn

theorem slotFreeList_varsIn {ts : TyList} (h : slotFreeList ts = true) : ts.VarsIn Q :=
  fun n hn => by rw [slotFreeList_freeFrom n ts h] at hn; cases hn

theorem slotFreeFields_varsIn {fs : FieldList} (h : slotFreeFields fs = true) : fs.VarsIn Q :=
  fun n hn => by rw [slotFreeFields_freeFrom n fs h] at hn; cases hn

end

mutual
theorem substG_unbound (m : Subst) : ∀ t, t.VarsIn (m.get? · = none) → substG m t = t
  | .var n, h => by simp only [substG, h.var]
  | .top, _ | .bot, _ | .num, _ | .str, _ | .bool, _ | .time, _ => rfl
  | .tuple ts, h => congrArg Ty.tuple (substGList_unbound m ts h)
  | .list a, h => congrArg Ty.list (substG_unbound m a h)
  | .maybe a, h => congrArg Ty.maybe (substG_unbound m a h)
  | .map k v, h => by
    simp only [substG, substG_unbound m k h.map.1, substG_unbound m v h.map.2]
  | .obj fs, h => congrArg Ty.obj (substGFields_unbound m fs h)
  | .fn _ ps r, h => by
    simp only [substG, substGList_unbound m ps h.fn.1, substG_unbound m r h.fn.2]
theorem substGList_unbound (m : Subst) : ∀ ts, ts.VarsIn (m.get? · = none) → substGList m ts = ts
  | .nil, _ => rfl
  | .cons t ts, h => by
    simp only [substGList, substG_unbound m t h.cons.1, substGList_unbound m ts h.cons.2]
theorem substGFields_unbound (m : Subst) : ∀ fs, fs.VarsIn (m.get? · = none) →
    substGFields m fs = fs
  | .nil, _ => rfl
  | .cons _ t fs, h => by
    simp only [substGFields, substG_unbound m t h.cons.1, substGFields_unbound m fs h.cons.2]
end

theorem substG_ground (m : Subst) : ∀ t, slotFree t = true → substG m t = t :=
  fun t h => substG_unbound m t (slotFree_varsIn h)
theorem substGList_ground (m : Subst) : ∀ ts, slotFreeList ts = true → substGList m ts = ts :=
  fun ts h => substGList_unbound m ts (slotFreeList_varsIn h)
theorem substGFields_ground (m : Subst) : ∀ fs, slotFreeFields fs = true → substGFields m fs = fs :=
  fun fs h => substGFields_unbound m fs (slotFreeFields_varsIn h)

/-- What a run in `UM` may do: return a value with `Q`, fail (a mismatch, the `types.Map` assertion), or, only
under `z`, run out of fuel. -/
abbrev UM.Post {α : Type} (z : Prop) (r : UM α) (Q : α → Prop) : Prop := Except.Post UErr.fuel z r Q

theorem UM.Post.mkMap {z : Prop} (k v : Ty) :
    UM.Post z (mkMap k v) fun t => k.keyable = true ∧ t = .map k v := by
  unfold Yae.mkMap
  split
  · next h => exact ⟨h, rfl⟩
  · exact .throw nofun

theorem mkMap_eq_ok {k v t : Ty} : mkMap k v = .ok t ↔ k.keyable = true ∧ t = .map k v :=
  ⟨(UM.Post.mkMap k v (z := False)).of_ok, fun h => by rw [h.2, mkMap, if_pos h.1]; rfl⟩

theorem mkMap_ne_fuel {k v : Ty} : mkMap k v ≠ .error .fuel :=
  (UM.Post.mkMap k v (z := False)).ne_fuel id

mutual
/-- The `types.Map` assertions pass because `t` is well formed; no binding is chased, so no fuel is used. -/
theorem applySubst_unbound (f : Nat) (m : Subst) : ∀ t, t.VarsIn (m.get? · = none) → t.wf = true →
    applySubst f m t = .ok t
  | .var n, h, _ => by
    rw [applySubst.eq_1]; simp only [h.var]; rfl
  | .top, _, _ | .bot, _, _ | .num, _, _ | .str, _, _ | .bool, _, _ | .time, _, _ => by
    simp [applySubst]
  | .tuple ts, h, hw => by
    simp only [Ty.wf] at hw
    simp only [applySubst, applySubstList_unbound f m ts h hw, Except.ok_bind]; rfl
  | .list a, h, hw | .maybe a, h, hw => by
    simp only [Ty.wf] at hw
    simp only [applySubst, applySubst_unbound f m a h hw, Except.ok_bind]; rfl
  | .map k v, h, hw => by
    simp only [Ty.wf, Bool.and_eq_true] at hw
    simp only [applySubst, applySubst_unbound f m k h.map.1 hw.1.2,
      applySubst_unbound f m v h.map.2 hw.2, Except.ok_bind, mkMap, hw.1.1, if_true]; rfl
  | .obj fs, h, hw => by
    simp only [Ty.wf] at hw
    simp only [applySubst, applySubstFields_unbound f m fs h hw, Except.ok_bind]; rfl
  | .fn _ ps r, h, hw => by
    simp only [Ty.wf, Bool.and_eq_true] at hw
    simp only [applySubst, applySubstList_unbound f m ps h.fn.1 hw.1,
      applySubst_unbound f m r h.fn.2 hw.2, Except.ok_bind]; rfl
theorem applySubstList_unbound (f : Nat) (m : Subst) : ∀ ts, ts.VarsIn (m.get? · = none) →
    wfList ts = true → applySubstList f m ts = .ok ts
  | .nil, _, _ => by simp [applySubstList]
  | .cons t ts, h, hw => by
    simp only [wfList, Bool.and_eq_true] at hw
    simp only [applySubstList, applySubst_unbound f m t h.cons.1 hw.1,
      applySubstList_unbound f m ts h.cons.2 hw.2, Except.ok_bind]; rfl
theorem applySubstFields_unbound (f : Nat) (m : Subst) : ∀ fs, fs.VarsIn (m.get? · = none) →
    wfFields fs = true → applySubstFields f m fs = .ok fs
  | .nil, _, _ => by simp [applySubstFields]
  | .cons x t fs, h, hw => by
    simp only [wfFields, Bool.and_eq_true] at hw
    simp only [applySubstFields, applySubst_unbound f m t h.cons.1 hw.1.2,
      applySubstFields_unbound f m fs h.cons.2 hw.2, Except.ok_bind]; rfl
end

theorem applySubst_ground_ok (f : Nat) (m : Subst) : ∀ t, slotFree t = true → t.wf = true →
    applySubst f m t = .ok t :=
  fun t hs => applySubst_unbound f m t (slotFree_varsIn hs)
theorem applySubstList_ground_ok (f : Nat) (m : Subst) : ∀ ts, slotFreeList ts = true →
    wfList ts = true → applySubstList f m ts = .ok ts :=
  fun ts hs => applySubstList_unbound f m ts (slotFreeList_varsIn hs)
theorem applySubstFields_ground_ok (f : Nat) (m : Subst) : ∀ fs, slotFreeFields fs = true →
    wfFields fs = true → applySubstFields f m fs = .ok fs :=
  fun fs hs => applySubstFields_unbound f m fs (slotFreeFields_varsIn hs)

/-- What `applySubst_post` asks of `m` at a name `n` (one occurring in the type at hand); `z` is what is known when
there is no fuel to look it up. -/
abbrev Subst.GroundAt (z : Prop) (f : Nat) (m : Subst) (n : String) : Prop :=
  ∀ r, m.get? n = some r → (slotFree r = true ∧ r.wf = true) ∧ (f = 0 → z)

theorem Subst.GroundOn.at {P : String → Bool} {m : Subst} (hm : m.GroundOn P) {V : String → Prop}
    (hp : ∀ n, V n → P n = true) (f : Nat) : ∀ n, V n → m.GroundAt (f = 0) f n :=
  fun n hn r hr => ⟨hm n r (hp n hn) hr, id⟩

mutual
/-- The result is well formed if `t` is (a rebuilt map key is keyable because `types.Map` let it pass).  Fuel runs out
only with `f = 0` and a bound variable in `t`: that is `z`, `False` for a `t` without bound variables. -/
theorem applySubst_post {z : Prop} (f : Nat) (m : Subst) : ∀ t,
    t.VarsIn (m.GroundAt z f) → UM.Post z (applySubst f m t) fun t' => t' = substG m t ∧ (t.wf = true → t'.wf = true)
  | .var n, h => by
    rw [applySubst.eq_1]
    simp only [substG]
    split
    · next hn => simp only [hn]; exact .pure ⟨rfl, id⟩
    · next r hn =>
      simp only [hn]
      obtain ⟨hr, hz⟩ := h.var r hn
      split
      · exact nomatch hr.1
      · cases f with
        | zero => exact fun _ => hz rfl
        | succ f =>
          show UM.Post z (applySubst f m r) _
          rw [applySubst_ground_ok f m r hr.1 hr.2]; exact ⟨rfl, fun _ => hr.2⟩
  | .top, _ | .bot, _ | .num, _ | .str, _ | .bool, _ | .time, _ => by
    simp only [applySubst]; exact .pure ⟨rfl, id⟩
  | .tuple ts, h => by
    simp only [applySubst]
    exact (applySubstList_post f m ts h).bind id fun _ h => .pure ⟨congrArg _ h.1, h.2⟩
  | .list a, h | .maybe a, h => by
    simp only [applySubst]
    exact (applySubst_post f m a h).bind id fun _ h => .pure ⟨congrArg _ h.1, h.2⟩
  | .map k v, h => by
    simp only [applySubst]
    refine (applySubst_post f m k h.map.1).bind id fun k' hk => ?_
    refine (applySubst_post f m v h.map.2).bind id fun v' hv => ?_
    refine (UM.Post.mkMap k' v').mono id fun t ht => ?_
    rw [ht.2, hk.1, hv.1]
    refine ⟨rfl, fun hw => ?_⟩
    simp only [Ty.wf, Bool.and_eq_true] at hw ⊢
    exact ⟨⟨hk.1 ▸ ht.1, hk.1 ▸ hk.2 hw.1.2⟩, hv.1 ▸ hv.2 hw.2⟩
  | .obj fs, h => by
    simp only [applySubst]
    exact (applySubstFields_post f m fs h).bind id fun _ h => .pure ⟨congrArg _ h.1, h.2⟩
  | .fn _ ps r, h => by
    simp only [applySubst]
    refine (applySubstList_post f m ps h.fn.1).bind id fun ps' hps => ?_
    refine (applySubst_post f m r h.fn.2).bind id fun r' hr => ?_
    refine .pure ⟨by rw [hps.1, hr.1]; rfl, fun hw => ?_⟩
    simp only [Ty.wf, Bool.and_eq_true] at hw ⊢
    exact ⟨hps.2 hw.1, hr.2 hw.2⟩
theorem applySubstList_post {z : Prop} (f : Nat) (m : Subst) : ∀ ts,
    ts.VarsIn (m.GroundAt z f) → UM.Post z (applySubstList f m ts) fun ts' =>
      ts' = substGList m ts ∧ (wfList ts = true → wfList ts' = true)
  | .nil, _ => by simp only [applySubstList]; exact .pure ⟨rfl, id⟩
  | .cons t ts, h => by
    simp only [applySubstList]
    refine (applySubst_post f m t h.cons.1).bind id fun t' ht => ?_
    refine (applySubstList_post f m ts h.cons.2).bind id fun ts' hts => ?_
    refine .pure ⟨by rw [ht.1, hts.1]; rfl, fun hw => ?_⟩
    simp only [wfList, Bool.and_eq_true] at hw ⊢
    exact ⟨ht.2 hw.1, hts.2 hw.2⟩
theorem applySubstFields_post {z : Prop} (f : Nat) (m : Subst) : ∀ fs,
    fs.VarsIn (m.GroundAt z f) → UM.Post z (applySubstFields f m fs) fun fs' =>
      fs' = substGFields m fs ∧ (wfFields fs = true → wfFields fs' = true)
  | .nil, _ => by simp only [applySubstFields]; exact .pure ⟨rfl, id⟩
  | .cons n t fs, h => by
    simp only [applySubstFields]
    refine (applySubst_post f m t h.cons.1).bind id fun t' ht => ?_
    refine (applySubstFields_post f m fs h.cons.2).bind id fun fs' hfs => ?_
    refine .pure ⟨by rw [ht.1, hfs.1]; rfl, fun hw => ?_⟩
    simp only [wfFields, Bool.and_eq_true] at hw ⊢
    refine ⟨⟨?_, ht.2 hw.1.2⟩, hfs.2 hw.2⟩
    rw [hfs.1, find?_substGFields, Option.isNone_map]
    exact hw.1.1
end

theorem applySubst_ground (f : Nat) (m : Subst) : ∀ t t', slotFree t = true →
    applySubst f m t = .ok t' → t' = t :=
  fun t _ hs h => ((applySubst_post (z := False) f m t (slotFree_varsIn hs)).of_ok h).1.trans
    (substG_ground m t hs)
theorem applySubstList_ground (f : Nat) (m : Subst) : ∀ ts ts', slotFreeList ts = true →
    applySubstList f m ts = .ok ts' → ts' = ts :=
  fun ts _ hs h => ((applySubstList_post (z := False) f m ts (slotFreeList_varsIn hs)).of_ok h).1.trans
    (substGList_ground m ts hs)
theorem applySubstFields_ground (f : Nat) (m : Subst) : ∀ fs fs', slotFreeFields fs = true →
    applySubstFields f m fs = .ok fs' → fs' = fs :=
  fun fs _ hs h => ((applySubstFields_post (z := False) f m fs (slotFreeFields_varsIn hs)).of_ok h).1.trans
    (substGFields_ground m fs hs)

theorem applySubst_ground_ne_fuel (f : Nat) (m : Subst) : ∀ t, slotFree t = true →
    applySubst f m t ≠ .error .fuel :=
  fun t hs => (applySubst_post (z := False) f m t (slotFree_varsIn hs)).ne_fuel id
theorem applySubstList_ground_ne_fuel (f : Nat) (m : Subst) : ∀ ts, slotFreeList ts = true →
    applySubstList f m ts ≠ .error .fuel :=
  fun ts hs => (applySubstList_post (z := False) f m ts (slotFreeList_varsIn hs)).ne_fuel id
theorem applySubstFields_ground_ne_fuel (f : Nat) (m : Subst) : ∀ fs,
    slotFreeFields fs = true → applySubstFields f m fs ≠ .error .fuel :=
  fun fs hs => (applySubstFields_post (z := False) f m fs (slotFreeFields_varsIn hs)).ne_fuel id

theorem applySubst_eq_substG (m : Subst) (hm : m.Ground) : ∀ (f : Nat) t t',
    applySubst f m t = .ok t' → t' = substG m t :=
  fun f t _ h => ((applySubst_post f m t ((hm.on _).at (fun _ _ => rfl) f)).of_ok h).1
theorem applySubstList_eq_substG (m : Subst) (hm : m.Ground) : ∀ (f : Nat) ts ts',
    applySubstList f m ts = .ok ts' → ts' = substGList m ts :=
  fun f ts _ h => ((applySubstList_post f m ts ((hm.on _).at (fun _ _ => rfl) f)).of_ok h).1
theorem applySubstFields_eq_substG (m : Subst) (hm : m.Ground) : ∀ (f : Nat) fs fs',
    applySubstFields f m fs = .ok fs' → fs' = substGFields m fs :=
  fun f fs _ h => ((applySubstFields_post f m fs ((hm.on _).at (fun _ _ => rfl) f)).of_ok h).1

theorem applySubst_ne_fuel (f : Nat) (m : Subst) (hm : m.Ground) : ∀ t,
    applySubst (f+1) m t ≠ .error .fuel :=
  fun t => (applySubst_post (f+1) m t ((hm.on _).at (fun _ _ => rfl) _)).ne_fuel nofun
theorem applySubstList_ne_fuel (f : Nat) (m : Subst) (hm : m.Ground) : ∀ ts,
    applySubstList (f+1) m ts ≠ .error .fuel :=
  fun ts => (applySubstList_post (f+1) m ts ((hm.on _).at (fun _ _ => rfl) _)).ne_fuel nofun
theorem applySubstFields_ne_fuel (f : Nat) (m : Subst) (hm : m.Ground) : ∀ fs,
    applySubstFields (f+1) m fs ≠ .error .fuel :=
  fun fs => (applySubstFields_post (f+1) m fs ((hm.on _).at (fun _ _ => rfl) _)).ne_fuel nofun


mutual
theorem substG_substG_on {P : String → Bool} {m m1 : Subst} (hm : m.GroundOn P) (hle : m.le m1) :
    ∀ p, p.VarsIn (P · = true) → StructEq (substG m1 (substG m p)) (substG m1 p)
  | .var n, hp => by
    cases hn : m.get? n with
    | none => simp only [substG, hn]; exact StructEq.refl _
    | some k =>
      obtain ⟨k', hk', e⟩ := hle n k hn
      simp only [substG, hn, hk']
      rw [substG_ground m1 k (hm n k hp.var hn).1]; exact e
  | .top, _ | .bot, _ | .num, _ | .str, _ | .bool, _ | .time, _ => by
    simp only [substG]; exact StructEq.refl _
  | .tuple ts, hp => by simp only [substG]; exact .tuple (substGList_substG_on hm hle ts hp)
  | .list a, hp => by simp only [substG]; exact .list (substG_substG_on hm hle a hp)
  | .map k v, hp => by
    simp only [substG]
    exact .map (substG_substG_on hm hle k hp.map.1) (substG_substG_on hm hle v hp.map.2)
  | .obj fs, hp => by
    simp only [substG]
    refine .obj (by simp only [length_substGFields]) (fun n => by
      simp only [find?_substGFields, Option.isSome_map]) ?_
    intro n t' u' ht' hu'
    obtain ⟨t1, ht1, rfl⟩ := find?_substGFields_some ht'
    obtain ⟨t, ht, rfl⟩ := find?_substGFields_some ht1
    obtain ⟨t2, ht2, rfl⟩ := find?_substGFields_some hu'
    cases ht.symm.trans ht2
    exact substGFields_substG_on hm hle fs hp n t ht
  | .fn _ ps r, hp => by
    simp only [substG]
    exact .fn (substGList_substG_on hm hle ps hp.fn.1) (substG_substG_on hm hle r hp.fn.2)
  | .maybe a, hp => by simp only [substG]; exact .maybe (substG_substG_on hm hle a hp)
theorem substGList_substG_on {P : String → Bool} {m m1 : Subst} (hm : m.GroundOn P)
    (hle : m.le m1) : ∀ ps, ps.VarsIn (P · = true) →
      StructEqList (substGList m1 (substGList m ps)) (substGList m1 ps)
  | .nil, _ => by simp only [substGList]; exact .nil
  | .cons p ps, hp => by
    simp only [substGList]
    exact .cons (substG_substG_on hm hle p hp.cons.1) (substGList_substG_on hm hle ps hp.cons.2)
theorem substGFields_substG_on {P : String → Bool} {m m1 : Subst} (hm : m.GroundOn P)
    (hle : m.le m1) : ∀ (fs : FieldList), fs.VarsIn (P · = true) →
      ∀ n t, fs.find? n = some t → StructEq (substG m1 (substG m t)) (substG m1 t)
  | .nil, _, n, t, h => by simp [FieldList.find?] at h
  | .cons k t' fs, hp, n, t, h => by
    simp only [FieldList.find?] at h
    split at h
    · cases h; exact substG_substG_on hm hle t' hp.cons.1
    · exact substGFields_substG_on hm hle fs hp.cons.2 n t h
end

theorem substG_substG {m m1 : Subst} (hm : m.Ground) (hle : m.le m1) : ∀ p,
    StructEq (substG m1 (substG m p)) (substG m1 p) :=
  fun p => substG_substG_on (hm.on _) hle p fun _ _ => rfl
theorem substG_substGList {m m1 : Subst} (hm : m.Ground) (hle : m.le m1) : ∀ ps,
    StructEqList (substGList m1 (substGList m ps)) (substGList m1 ps) :=
  fun ps => substGList_substG_on (hm.on _) hle ps fun _ _ => rfl
theorem substG_substGFields {m m1 : Subst} (hm : m.Ground) (hle : m.le m1) :
    ∀ (fs : FieldList) n t, fs.find? n = some t →
      StructEq (substG m1 (substG m t)) (substG m1 t) :=
  fun _ _ t _ => substG_substG hm hle t

namespace Sound

mutual
theorem substG_monoS {m m' : Subst} (hle : m.le m') : ∀ p g, slotFree g = true →
    StructEq (substG m p) g → StructEq (substG m' p) g
  | .var n, g, hg, h => by
    simp only [substG] at h ⊢
    cases hn : m.get? n with
    | none =>
      simp only [hn] at h
      cases h; simp [slotFree] at hg
    | some k =>
      obtain ⟨k', hk', e⟩ := hle n k hn
      simp only [hn] at h
      simp only [hk']
      exact StructEq.trans k' k g (StructEq.symm _ _ e) h
  | .top, _, _, h | .bot, _, _, h | .num, _, _, h | .str, _, _, h | .bool, _, _, h
  | .time, _, _, h => by
    simp only [substG] at h ⊢; exact h
  | .tuple ts, g, hg, h => by
    simp only [substG] at h ⊢
    cases h with
    | tuple h => exact .tuple (substG_monoSList hle ts _ hg h)
  | .list a, g, hg, h => by
    simp only [substG] at h ⊢
    cases h with
    | list h => exact .list (substG_monoS hle a _ hg h)
  | .map k v, g, hg, h => by
    simp only [substG] at h ⊢
    cases h with
    | map h1 h2 =>
      simp only [slotFree, Bool.and_eq_true] at hg
      exact .map (substG_monoS hle k _ hg.1 h1) (substG_monoS hle v _ hg.2 h2)
  | .obj fs, g, hg, h => by
    simp only [substG] at h ⊢
    cases h with
    | obj hl hs hr =>
      rename_i gs
      simp only [slotFree] at hg
      refine .obj (by rw [length_substGFields] at hl ⊢; exact hl)
        (fun n => by rw [← hs n, find?_substGFields, find?_substGFields]; simp) ?_
      intro n t' u ht' hu
      obtain ⟨t, ht, rfl⟩ := find?_substGFields_some ht'
      exact substG_monoSFields hle fs n t ht u (slotFreeFields_find gs n u hg hu)
        (hr n (substG m t) u (by rw [find?_substGFields, ht]; rfl) hu)
  | .fn _ ps r, g, hg, h => by
    simp only [substG] at h ⊢
    cases h with
    | fn h1 h2 =>
      simp only [slotFree, Bool.and_eq_true] at hg
      exact .fn (substG_monoSList hle ps _ hg.1 h1) (substG_monoS hle r _ hg.2 h2)
  | .maybe a, g, hg, h => by
    simp only [substG] at h ⊢
    cases h with
    | maybe h => exact .maybe (substG_monoS hle a _ hg h)
termination_by structural p => p
theorem substG_monoSList {m m' : Subst} (hle : m.le m') : ∀ ps gs, slotFreeList gs = true →
    StructEqList (substGList m ps) gs → StructEqList (substGList m' ps) gs
  | .nil, _, _, h => by simp only [substGList] at h ⊢; exact h
  | .cons p ps, _, hg, h => by
    simp only [substGList] at h ⊢
    cases h with
    | cons h1 h2 =>
      simp only [slotFreeList, Bool.and_eq_true] at hg
      exact .cons (substG_monoS hle p _ hg.1 h1) (substG_monoSList hle ps _ hg.2 h2)
termination_by structural ps => ps
theorem substG_monoSFields {m m' : Subst} (hle : m.le m') : ∀ (fs : FieldList) n t,
    fs.find? n = some t → ∀ u, slotFree u = true → StructEq (substG m t) u →
      StructEq (substG m' t) u
  | .nil, n, t, h, _, _, _ => by simp [FieldList.find?] at h
  | .cons k t' fs, n, t, h, u, hu, hb => by
    simp only [FieldList.find?] at h
    split at h
    · cases h; exact substG_monoS hle t' u hu hb
    · exact substG_monoSFields hle fs n t h u hu hb
termination_by structural fs => fs
end

end Sound

mutual
theorem varsIn_substG {P : String → Bool} {m : Subst} (hm : m.GroundOn P) : ∀ t,
    t.VarsIn (P · = true) → (substG m t).VarsIn (P · = true)
  | .var x, hp, n, h => by
    simp only [substG] at h
    cases hx : m.get? x with
    | none => simp only [hx] at h; exact hp n h
    | some k =>
      simp only [hx] at h
      rw [slotFree_freeFrom n k (hm x k hp.var hx).1] at h; cases h
  | .top, _, _, h | .bot, _, _, h | .num, _, _, h | .str, _, _, h | .bool, _, _, h
  | .time, _, _, h => by simp [substG, freeFrom] at h
  | .tuple ts, hp, n, h => varsIn_substGList hm ts hp n h
  | .list a, hp, n, h | .maybe a, hp, n, h => varsIn_substG hm a hp n h
  | .map k v, hp, n, h => by
    simp only [substG, freeFrom, Bool.and_eq_false_iff] at h
    exact h.elim (varsIn_substG hm k hp.map.1 n) (varsIn_substG hm v hp.map.2 n)
  | .obj fs, hp, n, h => varsIn_substGFields hm fs hp n h
  | .fn _ ps r, hp, n, h => by
    simp only [substG, freeFrom, Bool.and_eq_false_iff] at h
    exact h.elim (varsIn_substGList hm ps hp.fn.1 n) (varsIn_substG hm r hp.fn.2 n)
theorem varsIn_substGList {P : String → Bool} {m : Subst} (hm : m.GroundOn P) : ∀ ts,
    ts.VarsIn (P · = true) → (substGList m ts).VarsIn (P · = true)
  | .nil, _, _, h => by simp [substGList, freeFromList] at h
  | .cons t ts, hp, n, h => by
    simp only [substGList, freeFromList, Bool.and_eq_false_iff] at h
    exact h.elim (varsIn_substG hm t hp.cons.1 n) (varsIn_substGList hm ts hp.cons.2 n)
theorem varsIn_substGFields {P : String → Bool} {m : Subst} (hm : m.GroundOn P) : ∀ fs,
    fs.VarsIn (P · = true) → (substGFields m fs).VarsIn (P · = true)
  | .nil, _, _, h => by simp [substGFields, freeFromFields] at h
  | .cons _ t fs, hp, n, h => by
    simp only [substGFields, freeFromFields, Bool.and_eq_false_iff] at h
    exact h.elim (varsIn_substG hm t hp.cons.1 n) (varsIn_substGFields hm fs hp.cons.2 n)
end

theorem substG_kind_of_nonvar (m : Subst) {p : Ty} (hp : p.kind ≠ .tyvar) :
    (substG m p).kind = p.kind := by
  cases p <;> first | (exfalso; exact hp rfl) | rfl

theorem keyable_substG_of_le {m σ : Subst} (hle : m.le σ) (k : Ty)
    (h : (substG σ k).keyable = true) : (substG m k).keyable = true := by
  by_cases hk : k.kind = .tyvar
  · cases k <;> simp [Ty.kind] at hk
    rename_i n
    simp only [substG] at h ⊢
    cases hn : m.get? n with
    | none => simp [Ty.keyable, Ty.kind]
    | some r =>
      obtain ⟨r', hr', e⟩ := hle n r hn
      simp only [hr'] at h
      simp only []
      rw [keyable_of_kind_eq e.kind_eq]; exact h
  · rw [keyable_of_kind_eq ((substG_kind_of_nonvar m hk).trans (substG_kind_of_nonvar σ hk).symm)]
    exact h

theorem wf_substG_substGList {m σ : Subst} (hm : m.Ground) (hle : m.le σ) : ∀ ps,
    wfList (substGList σ ps) = true → wfList (substGList σ (substGList m ps)) = true :=
  fun ps => (substG_substGList hm hle ps).wf_of
theorem wf_substG_substGFields {m σ : Subst} (hm : m.Ground) (hle : m.le σ) : ∀ fs,
    wfFields (substGFields σ fs) = true →
      wfFields (substGFields σ (substGFields m fs)) = true :=
  fun fs => (substG_substG hm hle (.obj fs)).wf_of

mutual
theorem applySubst_ok {m σ : Subst} (hm : m.Ground) (hle : m.le σ) (f : Nat) : ∀ p,
    (substG σ p).wf = true → applySubst (f+1) m p = .ok (substG m p)
  | .var n, _ => by
    rw [applySubst.eq_1]
    simp only [substG]
    cases hn : m.get? n with
    | none => rfl
    | some r =>
      have hr := hm n r hn
      simp only []
      split
      · simp [slotFree] at hr
      · exact applySubst_ground_ok f m r hr.1 hr.2
  | .top, _ | .bot, _ | .num, _ | .str, _ | .bool, _ | .time, _ => by
    simp [applySubst, substG]
  | .tuple ts, h => by
    simp only [substG, Ty.wf] at h
    simp only [applySubst, applySubstList_ok hm hle f ts h, Except.ok_bind, substG]; rfl
  | .list a, h | .maybe a, h => by
    simp only [substG, Ty.wf] at h
    simp only [applySubst, applySubst_ok hm hle f a h, Except.ok_bind, substG]; rfl
  | .map k v, h => by
    simp only [substG, Ty.wf, Bool.and_eq_true] at h
    simp only [applySubst, applySubst_ok hm hle f k h.1.2, applySubst_ok hm hle f v h.2,
      Except.ok_bind, substG, mkMap, keyable_substG_of_le hle k h.1.1, if_true]; rfl
  | .obj fs, h => by
    simp only [substG, Ty.wf] at h
    simp only [applySubst, applySubstFields_ok hm hle f fs h, Except.ok_bind, substG]; rfl
  | .fn _ ps r, h => by
    simp only [substG, Ty.wf, Bool.and_eq_true] at h
    simp only [applySubst, applySubstList_ok hm hle f ps h.1, applySubst_ok hm hle f r h.2,
      Except.ok_bind, substG]; rfl
theorem applySubstList_ok {m σ : Subst} (hm : m.Ground) (hle : m.le σ) (f : Nat) : ∀ ps,
    wfList (substGList σ ps) = true → applySubstList (f+1) m ps = .ok (substGList m ps)
  | .nil, _ => by simp [applySubstList, substGList]
  | .cons p ps, h => by
    simp only [substGList, wfList, Bool.and_eq_true] at h
    simp only [applySubstList, applySubst_ok hm hle f p h.1, applySubstList_ok hm hle f ps h.2,
      Except.ok_bind, substGList]; rfl
theorem applySubstFields_ok {m σ : Subst} (hm : m.Ground) (hle : m.le σ) (f : Nat) : ∀ fs,
    wfFields (substGFields σ fs) = true →
      applySubstFields (f+1) m fs = .ok (substGFields m fs)
  | .nil, _ => by simp [applySubstFields, substGFields]
  | .cons n t fs, h => by
    simp only [substGFields, wfFields, Bool.and_eq_true] at h
    simp only [applySubstFields, applySubst_ok hm hle f t h.1.2,
      applySubstFields_ok hm hle f fs h.2, Except.ok_bind, substGFields]; rfl
end

/-- Map keys stay keyable because those of the `u` are (`StructEq.wf_of`). -/
theorem wf_substGFields_of_structEq {σ : Subst} (hσ : σ.Ground) : ∀ (fs : FieldList),
    wfFields fs = true →
    (∀ n t, fs.find? n = some t → ∃ u, u.wf = true ∧ StructEq (substG σ t) u) →
    wfFields (substGFields σ fs) = true
  | .nil, _, _ => by simp [substGFields, wfFields]
  | .cons k t rest, hp, hall => by
    simp only [wfFields, Bool.and_eq_true] at hp
    simp only [substGFields, wfFields, Bool.and_eq_true]
    obtain ⟨u, hu, hse⟩ := hall k t (FieldList.find?_cons_self k t rest)
    refine ⟨⟨?_, hse.wf_of hu⟩,
      wf_substGFields_of_structEq hσ rest hp.2 fun n t0 ht0 =>
        hall n t0 (FieldList.find?_cons_of_isNone t hp.1.1 ht0)⟩
    simpa [find?_substGFields] using hp.1.1

namespace Sound

theorem TyList.get?_substGList (σ : Subst) : ∀ (ps : TyList) (i : Nat),
    (substGList σ ps).get? i = (ps.get? i).map (substG σ)
  | .nil, _ => by simp [substGList, TyList.get?]
  | .cons p ps, 0 => by simp [substGList, TyList.get?]
  | .cons p ps, i+1 => by simp [substGList, TyList.get?, TyList.get?_substGList σ ps i]

end Sound

end Yae
