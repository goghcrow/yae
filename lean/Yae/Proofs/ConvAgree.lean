/- C15: the own type of a converted plain value (`Plain`) equals (`tyEq`) the static type of its Go type
   (`Conv.agree`, `agreeU`).  The conversion computes types from the value (first element, first entry), `typeOf`
   from the Go type; the two meet only at empty and nil containers, where the conversion itself calls `typeOf`
   (`static_agree`).  A slice is converted element by element (`Conv.elementwise`).  The environment half of C15,
   `sample_accepts`, is type agreement and `ConvEnv.accept_iff`. -/
import Yae.Proofs.ConvVal
import Yae.Proofs.ConvEnv
import Yae.Proofs.ValRel
namespace Yae.ConvVal
open Yae Yae.Sound Yae.ConvEnv

mutual
/-- `g` is a value of static type `t` as `reflect` would present it, no part of it has an interface type, and a
nil struct field is tagged `maybe` (a nil pointer is admitted only there).  A nil slice or map is admitted
wherever a slice or map is: `valOf` refuses it as an element or entry, turns it into `nothing` as a struct field,
and converts it like an empty one directly behind a pointer. -/
def Plain : GoVal → GoType → Prop
  | .bool _, t => t = .bool
  | .int k _, t => t = .int k
  | .uint k _, t => t = .uint k
  | .float is32 _, t => t = (if is32 then .float32 else .float64)
  | .string _, t => t = .string
  | .time _, t => t = .time
  | .ptr v, t => ∃ t', t = .ptr t' ∧ Plain v t'
  | .sliceNil el, t => t = .slice el
  | .slice el vs, t => t = .slice el ∧ PlainList vs el
  | .array el vs, t => t = .array vs.length el ∧ PlainList vs el
  | .mapNil k e, t => t = .map k e
  | .map k e es, t => t = .map k e ∧ PlainEntries es k e
  | .struct fs vs, t => t = .struct fs ∧ PlainFields fs vs
  | .invalid, _ | .ptrNil _, _ | .ifaceNil, _ | .iface _, _ | .unsupported _ _, _ => False
def PlainList : GoValList → GoType → Prop
  | .nil, _ => True
  | .cons v vs, t => Plain v t ∧ PlainList vs t
def PlainEntries : GoEntryList → GoType → GoType → Prop
  | .nil, _, _ => True
  | .cons k v es, kt, vt => Plain k kt ∧ Plain v vt ∧ PlainEntries es kt vt
def PlainFields : GoFieldList → GoValList → Prop
  | .nil, .nil => True
  | .cons name tag t _ fr, .cons x xs =>
    (if x.isNil then (parseTag name tag).2 = true else Plain x t) ∧ PlainFields fr xs
  | .nil, .cons _ _ => False
  | .cons _ _ _ _ _, .nil => False
end

def FieldsAgree : FieldList → FieldList → Prop
  | .nil, .nil => True
  | .cons n t fs, .cons m u gs => n = m ∧ tyEq t u = true ∧ FieldsAgree fs gs
  | _, _ => False

theorem tyEqFields_weaken : ∀ (fs gs : FieldList) (n : String) (u : Ty),
    tyEqFields fs gs = true → (fs.find? n).isNone = true → tyEqFields fs (.cons n u gs) = true
  | .nil, _, _, _, _, _ => rfl
  | .cons m t fs, gs, n, u, h, hn => by
    simp only [tyEqFields, Bool.and_eq_true] at h ⊢
    simp only [FieldList.find?] at hn
    split at hn
    · cases hn
    · next hmn =>
      have hnm : ¬ n = m := fun h => hmn h.symm
      simp only [FieldList.find?, hnm, if_false]
      exact ⟨h.1, tyEqFields_weaken fs gs n u h.2 hn⟩

theorem FieldsAgree.tyEq : ∀ (fs gs : FieldList), FieldsAgree fs gs →
    fieldNamesDistinct fs = true → fs.length = gs.length ∧ tyEqFields fs gs = true
  | .nil, .nil, _, _ => ⟨rfl, rfl⟩
  | .cons n t fs, .cons m u gs, h, hd => by
    obtain ⟨rfl, htu, hr⟩ := h
    simp only [fieldNamesDistinct, Bool.and_eq_true] at hd
    obtain ⟨hl, he⟩ := FieldsAgree.tyEq fs gs hr hd.2
    refine ⟨by simp [FieldList.length, hl], ?_⟩
    simp only [tyEqFields, FieldList.find?, if_true, Bool.and_eq_true]
    exact ⟨htu, tyEqFields_weaken fs gs n u he hd.1⟩
  | .nil, .cons _ _ _, h, _ => by cases h
  | .cons _ _ _, .nil, h, _ => by cases h

theorem static_agree {t : GoType} {lv lv' : Nat} {T T' : Ty} (h : typeOf t lv = .ok T)
    (h' : typeOf t lv' = .ok T') : tyEq T T' = true := by
  cases typeOf_level t lv lv' T T' h h'
  exact tyEq_refl' (typeOf_wf t lv T h)

theorem Plain.goType : ∀ (g : GoVal) (t : GoType), Plain g t → g.goType? = some t
  | .bool _ | .int _ _ | .uint _ _ | .float _ _ | .string _ | .time _ | .sliceNil _
  | .mapNil _ _ => by
    intro t h; cases h; rfl
  | .slice _ _ | .array _ _ | .map _ _ _ | .struct _ _ => by
    intro t h; cases h.1; rfl
  | .ptr p => by
    intro t h
    obtain ⟨t', rfl, hp⟩ := h
    show (p.goType?).map GoType.ptr = _
    rw [Plain.goType p t' hp]; rfl
  | .invalid | .ptrNil _ | .ifaceNil | .iface _ | .unsupported _ _ => by
    intro t h; cases h

def ConvJudgement.AgreeOut : ConvJudgement → Prop
  | .val g _ _ v => ∀ t lv T, Plain g t → typeOf t lv = .ok T → tyEq T v.typeOf = true
  | .fields fs vs _ _ ftys _ =>
    ∀ lv F, PlainFields fs vs → typeOfFields fs lv = .ok F → FieldsAgree F ftys
  | _ => True

theorem Conv.agree {J : ConvJudgement} (h : Conv J) : J.AgreeOut := by
  induction h <;> simp only [ConvJudgement.AgreeOut] at *
  case iface => intro t lv T hp; cases hp
  case ptr ih =>
    intro t lv T hp hT
    obtain ⟨t', rfl, hp'⟩ := hp
    exact ih t' lv T hp' (typeOf_ptr hT)
  case time | bool | int | uint | string =>
    intro t lv T hp hT; cases hp; cases typeOf_scalar rfl hT; rfl
  case float is32 _ _ _ =>
    intro t lv T hp hT; cases hp
    cases is32 <;> (cases typeOf_scalar rfl hT; rfl)
  case emptySeq g el _ _ _ hg ht =>
    intro t lv T hp hT
    cases g <;> cases hg <;> cases Plain.goType _ _ hp <;> exact static_agree (t := .slice el) hT ht
  case emptyMap g _ _ _ _ _ hg ht =>
    intro t lv T hp hT
    cases g <;> cases hg <;> cases Plain.goType _ _ hp <;> exact static_agree hT ht
  case seq g el _ _ _ _ _ _ hg _ _ _ ih0 _ =>
    intro t lv T hp hT
    cases g <;> cases hg <;> obtain ⟨rfl, hp⟩ := hp <;>
      obtain ⟨e', he', rfl⟩ := typeOf_slice_inv (el := el) hT <;> exact ih0 el (lv+1) e' hp.1 he'
  case map ihk ihe _ =>
    intro t lv T hp hT
    obtain ⟨rfl, hp⟩ := hp
    obtain ⟨k', e', hk', he', _, rfl⟩ := typeOf_map_inv hT
    show tyEq (.map k' e') (.map _ _) = true
    simp only [tyEq, ihk _ _ k' hp.1 hk', ihe _ _ e' hp.2.1 he', Bool.and_self]
  case struct ih =>
    intro t lv T hp hT
    obtain ⟨rfl, hpf⟩ := hp
    obtain ⟨F, hF, hd, rfl⟩ := typeOf_struct_inv hT
    obtain ⟨hl, he⟩ := FieldsAgree.tyEq F _ (ih (lv+1) F hpf hF) hd
    simp only [Val.typeOf, tyEq, hl, he, beq_self_eq_true, Bool.and_self]
  case fnil fs vs _ _ hn =>
    intro lv F hp hF
    cases fs <;> cases vs <;> try cases hp
    · cases typeOfFields_nil_inv hF; trivial
    · rcases hn with h | h <;> cases h
  case absent hnil hft0 _ ih =>
    intro lv F hp hF
    obtain ⟨ft, rest', hft, hr, rfl⟩ := typeOfFields_cons_inv hF
    refine ⟨rfl, ?_, ih lv rest' hp.2 hr⟩
    have hp1 := hp.1
    rw [if_pos hnil] at hp1
    rw [if_pos hp1]
    show tyEq (.maybe ft) (.maybe _) = true
    simpa only [tyEq] using static_agree hft hft0
  case present hnil _ _ hvl _ ihw ih =>
    intro lv F hp hF
    obtain ⟨ft, rest', hft, hr, rfl⟩ := typeOfFields_cons_inv hF
    refine ⟨rfl, ?_, ih lv rest' hp.2 hr⟩
    have hp1 := hp.1
    rw [if_neg (by simp [hnil])] at hp1
    have a := ihw _ lv ft hp1 hft
    subst hvl
    split
    · show tyEq (.maybe ft) (.maybe _) = true
      simpa only [tyEq] using a
    · exact a

/-- `U` as in `valOfU`.  The levels `lv`, `lv'` are independent because a nil field's type is computed at
level 0. -/
theorem agreeU : ∀ (g : GoVal) (t : GoType) (lv lv' : Nat) (ro : Bool) (T : Ty) (v : Val),
    Plain g t → typeOf t lv = .ok T → valOfU g lv' ro = .ok v → tyEq T v.typeOf = true :=
  fun _ t lv _ _ T _ hp hT h => (conv_val _ _ _ _ h).agree t lv T hp hT
theorem agreeFields : ∀ (fs : GoFieldList) (vs : GoValList) (lv lv' : Nat) (ro : Bool)
    (F ftys : FieldList) (vals : ValList), PlainFields fs vs → typeOfFields fs lv = .ok F →
    valOfFields fs vs lv' ro = .ok (ftys, vals) → FieldsAgree F ftys :=
  fun _ _ lv _ _ F _ _ hp hF h => (conv_fields _ _ _ _ _ _ h).agree lv F hp hF

/-- `g` inside `n` one-element slices: the witness of `Yae.C15.error_depth_nested` -/
def nest : Nat → GoType → GoVal → GoVal
  | 0, _, g => g
  | n+1, t, g => .slice t (.cons (nest n t g) .nil)

def Elementwise (lv : Nat) (ro : Bool) : GoValList → ValList → Prop
  | .nil, .nil => True
  | .cons e es, .cons x xs => valOf e lv ro = .ok x ∧ Elementwise lv ro es xs
  | _, _ => False

def ConvJudgement.ElemOut : ConvJudgement → Prop
  | .rest _ es lv ro xs => Elementwise lv ro es xs
  | _ => True

theorem Conv.elementwise {J : ConvJudgement} (h : Conv J) : J.ElemOut := by
  induction h <;> simp only [ConvJudgement.ElemOut] at *
  case rnil => trivial
  case rcons hx _ _ _ _ ih => exact ⟨hx, ih⟩

theorem content_slice {el : GoType} {vs : GoValList} {lv : Nat} {ro : Bool} {v : Val}
    (h : valOf (.slice el vs) lv ro = .ok v) :
    ∃ ty xs, v = .list ty xs ∧ Elementwise (lv+1) ro vs xs := by
  cases conv_val _ _ _ _ (valOf_ok h) with
  | emptySeq hg => cases hg; exact ⟨_, .nil, rfl, trivial⟩
  | seq hg h0 _ hr => cases hg; exact ⟨_, _, rfl, h0, hr.elementwise⟩
  | emptyMap hg => cases hg

theorem unwrapEnv_plain : ∀ (g : GoVal) (t : GoType) (lv : Nat) (F : FieldList), Plain g t →
    typeOf t lv = .ok (.obj F) → ∃ fs vs, unwrapEnv g = some (.struct fs vs)
  | .invalid | .ptrNil _ | .ifaceNil | .iface _ | .unsupported _ _ => by
    intro t lv F hp; cases hp
  | .bool _ | .int _ _ | .uint _ _ | .string _ | .time _ => by
    intro t lv F hp hT; cases hp; cases typeOf_scalar rfl hT
  | .float is32 _ => by
    intro t lv F hp hT; cases hp; cases is32 <;> cases typeOf_scalar rfl hT
  | .ptr p => by
    intro t lv F hp hT
    obtain ⟨t', rfl, hp'⟩ := hp
    exact unwrapEnv_plain p t' lv F hp' (typeOf_ptr hT)
  | .sliceNil el | .slice el _ | .array el _ => by
    intro t lv F hp hT
    cases Plain.goType _ _ hp
    obtain ⟨e, _, h⟩ := typeOf_slice_inv (el := el) hT
    cases h
  | .mapNil k e | .map k e _ => by
    intro t lv F hp hT
    cases Plain.goType _ _ hp
    obtain ⟨_, _, _, _, _, h⟩ := typeOf_map_inv hT
    cases h
  | .struct fs vs => fun _ _ _ _ _ => ⟨fs, vs, rfl⟩

theorem reflectMap_plain {g : GoVal} {t : GoType} {lv : Nat} {F : FieldList} (hp : Plain g t)
    (hT : typeOf t lv = .ok (.obj F)) : reflectMap g = .notMap := by
  obtain ⟨fs, vs, hu⟩ := unwrapEnv_plain g t lv F hp hT
  unfold reflectMap
  split
  · rfl
  · rw [hu]

theorem plain_ne_invalid {g : GoVal} {t : GoType} (hp : Plain g t) : g ≠ .invalid := by
  rintro rfl; simp [Plain] at hp

theorem find?_of_mem : ∀ (fs : FieldList) (n : String) (t : Ty), wfFields fs = true →
    (n, t) ∈ fs.toList → fs.find? n = some t
  | .nil, _, _, _, h => by simp [FieldList.toList] at h
  | .cons m t' fs, n, t, hw, h => by
    simp only [wfFields, Bool.and_eq_true] at hw
    simp only [FieldList.toList, List.mem_cons, Prod.mk.injEq] at h
    simp only [FieldList.find?]
    rcases h with ⟨rfl, rfl⟩ | h
    · exact if_pos rfl
    · have ih := find?_of_mem fs n t hw.2 h
      rw [if_neg, ih]
      rintro rfl
      rw [ih] at hw
      cases hw.1.1

theorem obj_env_accepts {F fs : FieldList} {vs : ValList} (hF : (Ty.obj F).wf = true)
    (hw : WF (.obj (.obj fs) vs) = true) (he : tyEq (.obj F) (.obj fs) = true) :
    envCheck F.toList (List.zip fs.names vs.toList) = .ok () := by
  rw [ConvEnv.accept_iff]
  intro n t hm
  simp only [tyEq, Bool.and_eq_true] at he
  simp only [WF, Bool.and_eq_true] at hw
  have hf := find?_of_mem F n t hF hm
  obtain ⟨u, hu, htu⟩ := tyEqFields_find F fs n t he.2 hf
  obtain ⟨i, hi, hg⟩ := FieldList.find?_indexOf? fs n u hu
  obtain ⟨v, hv, _, huv⟩ := WFObj_get? fs vs i n u hw.2 hg
  refine ⟨v, (objGet?_eq_assoc fs vs n).symm.trans ?_,
    tyEq_trans' (wfFields_find F n t hF hf) htu huv⟩
  rw [objGet?, hi]
  exact hv

theorem typeOfRV_plain {g : GoVal} {t : GoType} {T T1 : Ty} (hp : Plain g t)
    (hT : typeOf t 0 = .ok T) (h : typeOfRV g = .ok T1) : tyEq T T1 = true := by
  unfold typeOfRV at h
  split at h
  · next x hx =>
    cases h
    exact agreeU g t 0 0 false T x hp hT (valOf_ok hx)
  · rw [Plain.goType g t hp] at h
    cases hT.symm.trans h
    exact tyEq_refl' (typeOf_wf t 0 T hT)

/-- one sample stands for the type: for plain `g₁`, `g₂` of one Go type whose static type is an object type, the
environment made of `g₂` passes `envCheck` against the type environment made of `g₁` -/
theorem sample_accepts {g1 g2 : GoVal} {t : GoType} {F : FieldList}
    {tenv : List (String × Ty)} {venv : List (String × Val)}
    (h1 : Plain g1 t) (h2 : Plain g2 t) (hT : typeOf t 0 = .ok (.obj F))
    (ht : typeEnvOf g1 = .ok tenv) (hv : valEnvOf g2 = .ok venv) :
    envCheck tenv venv = .ok () := by
  have wT := typeOf_wf t 0 _ hT
  obtain ⟨F1, rfl, hF1w, hF1e⟩ : ∃ F1, tenv = F1.toList ∧ (Ty.obj F1).wf = true ∧
      tyEq (.obj F) (.obj F1) = true := by
    unfold typeEnvOf at ht
    split at ht
    · exact absurd rfl (plain_ne_invalid h1)
    · rw [reflectMap_plain h1 hT] at ht
      simp only at ht
      obtain ⟨T1, hT1, ht⟩ := Except.bind_eq_ok.1 ht
      split at ht
      · cases Except.pure_eq_ok.1 ht
        exact ⟨_, rfl, typeOfRV_wf hT1, typeOfRV_plain h1 hT hT1⟩
      · exact absurd ht Except.throw_ne_ok
  rcases valEnvOf_ok hv with ⟨e, _⟩ | ⟨_, ⟨es, hes, _⟩ | ⟨_, fs, vs, hx, rfl⟩⟩
  · exact absurd e (plain_ne_invalid h2)
  · rw [reflectMap_plain h2 hT] at hes; cases hes
  · exact obj_env_accepts hF1w (valOf_wf hx)
      (tyEq_common wT hF1e (agreeU g2 t 0 0 false _ _ h2 hT (valOf_ok hx)))

end Yae.ConvVal
