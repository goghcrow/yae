/-
  A tree read off tokens whose `?` tokens carry their kind as lexeme has every ternary node named
  `?` (`Expr.ternariesOk`): `trans.Desugar` does not reach its `Unreachable()` on parsed input.
-/
import Yae.Proofs.ParseRespectsSound
import Yae.Model.Desugar
import Yae.Proofs.ParseYieldInd
namespace Yae

def PEnv.QuestionNamed (env : PEnv) : Prop :=
  ∀ j bp, env.ledAt j bp .question → (env.peek j).lexeme = "?"

theorem ternariesOkList_ofList (l : List Expr) :
    ternariesOkList (ExprList.ofList l) = l.all Expr.ternariesOk := by
  induction l with
  | nil => rfl
  | cons e es ih => simp [ExprList.ofList, ternariesOkList, ih]

theorem ternariesOkPairs_ofList (l : List (Expr × Expr)) :
    ternariesOkPairs (PairList.ofList l) = l.all (fun kv => kv.1.ternariesOk && kv.2.ternariesOk) := by
  induction l with
  | nil => rfl
  | cons e es ih => obtain ⟨k, v⟩ := e; simp [PairList.ofList, ternariesOkPairs, ih, Bool.and_assoc]

theorem ternariesOkFields_ofList (l : List (String × Expr)) :
    ternariesOkFields (FieldEList.ofList l) = l.all (fun nv => nv.2.ternariesOk) := by
  induction l with
  | nil => rfl
  | cons e es ih => obtain ⟨k, v⟩ := e; simp [FieldEList.ofList, ternariesOkFields, ih]

def YieldKind.TernariesOk : YieldKind → Prop
  | .expr t => t.ternariesOk = true
  | .args as | .seq as | .elems as => as.all Expr.ternariesOk = true
  | .pairs ps => ps.all (fun kv => kv.1.ternariesOk && kv.2.ternariesOk) = true
  | .fields fs => fs.all (fun nv => nv.2.ternariesOk) = true

theorem YieldKind.Holds.ternariesOk {env : PEnv} (hq : env.QuestionNamed) {K : YieldKind} {i j : Nat}
    (h : K.Holds env i j) : K.TernariesOk := by
  induction h using YieldKind.Holds.induct
  all_goals simp only [YieldKind.TernariesOk] at *
  case time he =>
    obtain ⟨v, rfl⟩ := timeLit_ok he
    rfl
  case emptyMap => rfl
  case ternary hd _ _ _ _ _ _ _ => simp [Expr.ternariesOk, hq _ _ hd, *]
  all_goals simp [Expr.ternariesOk, ternariesOkList_ofList, ternariesOkPairs_ofList,
    ternariesOkFields_ofList, *]

theorem Yields.ternariesOk {env : PEnv} (hq : env.QuestionNamed) :
    ∀ {t i j}, Yields env t i j → t.ternariesOk = true :=
  fun h => YieldKind.Holds.ternariesOk hq (K := .expr _) h
theorem YArgs.ternariesOk {env : PEnv} (hq : env.QuestionNamed) :
    ∀ {as i j}, YArgs env as i j → as.all Expr.ternariesOk = true :=
  fun h => YieldKind.Holds.ternariesOk hq (K := .args _) h
theorem YSeq.ternariesOk {env : PEnv} (hq : env.QuestionNamed) :
    ∀ {as i j}, YSeq env as i j → as.all Expr.ternariesOk = true :=
  fun h => YieldKind.Holds.ternariesOk hq (K := .seq _) h
theorem YElems.ternariesOk {env : PEnv} (hq : env.QuestionNamed) :
    ∀ {as i j}, YElems env as i j → as.all Expr.ternariesOk = true :=
  fun h => YieldKind.Holds.ternariesOk hq (K := .elems _) h
theorem YPairs.ternariesOk {env : PEnv} (hq : env.QuestionNamed) :
    ∀ {ps i j}, YPairs env ps i j →
      ps.all (fun kv => kv.1.ternariesOk && kv.2.ternariesOk) = true :=
  fun h => YieldKind.Holds.ternariesOk hq (K := .pairs _) h
theorem YFields.ternariesOk {env : PEnv} (hq : env.QuestionNamed) :
    ∀ {fs i j}, YFields env fs i j → fs.all (fun nv => nv.2.ternariesOk) = true :=
  fun h => YieldKind.Holds.ternariesOk hq (K := .fields _) h

theorem OpLexemes.questionNamed {ops : List Operator} {times : List (String × Int)}
    {toks : List Token} (h : OpLexemes ops toks) : (mkEnv ops times toks).QuestionNamed := by
  intro j bp ⟨hj, hl⟩
  have hk : ((mkEnv ops times toks).peek j).kind = "?" := (newGrammar_leds ops _ bp _ hl).2.2.2 rfl
  have := h.env (times := times) j hj (Or.inr ⟨bp, .question, hl⟩)
  rw [this, hk]

theorem parse_ternariesOk {ops : List Operator} (hops : ∀ o ∈ ops, o.kind ≠ "<END-OF-FILE>")
    {times : List (String × Int)} {toks : List Token} (hL : OpLexemes ops toks) {t : Expr}
    (h : parse ops times toks = .ok t) : t.ternariesOk = true := by
  obtain ⟨j, hy, _⟩ := parseWith_yields (show PEnv.NoEOF (mkEnv ops times toks) from newGrammar_noEOF hops) h
  exact hy.ternariesOk hL.questionNamed

end Yae
