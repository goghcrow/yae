/-
  C03: what the compiler writes, as a relation between an expression and a region
  `[o, o')` of a code buffer `C` read through `decodeAt`, relative to a constant pool `P`.
  Jump targets are absolute offsets in `C`; a deferred argument is a pool constant holding
  its own buffer, laid out for the same pool and ending in `RETURN`.
-/
import Yae.Model.Vm
namespace Yae.VmSim
open Yae Yae.Vm

def builtinOf (d : FunDecl) : Option BuiltinDecl :=
  match d.ref with
  | .builtin i => builtins[i]?
  | _ => none

/-- as computed by `compileE` -/
def bidOf (d : FunDecl) : Option BId :=
  match d.ref with
  | .builtin i => (builtins[i]?).map (·.id)
  | _ => none

theorem bidOf_eq (d : FunDecl) : bidOf d = (builtinOf d).map (·.id) := by
  unfold bidOf builtinOf; split <;> rfl

theorem bidOf_inv {d : FunDecl} {id : BId} (h : bidOf d = some id) :
    ∃ idx b, d.ref = .builtin idx ∧ builtins[idx]? = some b ∧ b.id = id := by
  unfold bidOf at h
  split at h
  · rename_i i hr
    cases hb : builtins[i]? with
    | none => rw [hb] at h; cases h
    | some b => rw [hb] at h; exact ⟨i, b, hr, hb, by simpa using h⟩
  · cases h

/-- the constant a list / map / object literal refers to -/
def tyConst (ty : Option Ty) : Const :=
  match ty with | some t => .ty t | none => .name "<nil>"

/-- the instruction that ends a static call that is not compiled to jumps -/
def CallTail (P : Pool) (C : Code) (d : FunDecl) (n : Nat) (o1 o' : Nat) : Prop :=
  match (bidOf d).bind intrinsicByValue with
  | some op => decodeAt C o1 = some (.simple op, o')
  | none => ∃ i, decodeAt C o1 =
      some (.call (if d.isLazy then .CALL_BY_NEED else .CALL_BY_VALUE) i n, o') ∧
      P[i]? = some (.fn d)

mutual
inductive LayE (funs : List FunDecl) (P : Pool) : Code → Expr → Nat → Nat → Prop
  | str {C o o' i p v} : decodeAt C o = some (.const .CONST i, o') → P[i]? = some (.val (.str v)) →
      LayE funs P C (.str p v) o o'
  | num {C o o' i p v} : decodeAt C o = some (.const .CONST i, o') → P[i]? = some (.val (.num v)) →
      LayE funs P C (.num p v) o o'
  | time {C o o' i p v} : decodeAt C o = some (.const .CONST i, o') →
      P[i]? = some (.val (.time (TimeV.unix v))) → LayE funs P C (.time p v) o o'
  | bool {C o o' i p v} : decodeAt C o = some (.const .CONST i, o') → P[i]? = some (.val (.bool v)) →
      LayE funs P C (.bool p v) o o'
  | list {C o o1 o' i p es ty} : LayL funs P C es o o1 →
      decodeAt C o1 = some (.newColl .NEW_LIST i es.length, o') → P[i]? = some (tyConst ty) →
      LayE funs P C (.list p es ty) o o'
  | map {C o o1 o' i p ps ty} : LayP funs P C ps o o1 →
      decodeAt C o1 = some (.newColl .NEW_MAP i ps.length, o') → P[i]? = some (tyConst ty) →
      LayE funs P C (.map p ps ty) o o'
  | obj {C o o1 o' i p fs ty} : LayF funs P C fs o o1 →
      decodeAt C o1 = some (.const .NEW_OBJ i, o') → P[i]? = some (tyConst ty) →
      LayE funs P C (.obj p fs ty) o o'
  | ident {C o o' i p x} : decodeAt C o = some (.const .LOAD i, o') → P[i]? = some (.name x) →
      LayE funs P C (.ident p x) o o'
  | dyn {C o o1 o2 o' p col callee args cty resolved index} : (resolved == "") = true →
      LayE funs P C callee o o1 → LayL funs P C args o1 o2 →
      decodeAt C o2 = some (.dyn args.length, o') →
      LayE funs P C (.call p col callee args cty resolved index) o o'
  | condIf {C o o' p col callee cty resolved index d c t f} : (resolved == "") = false →
      resolveStatic funs resolved index = some d → bidOf d = some .IF_BOOL_ANY_ANY →
      LayC funs P C c t f o o' →
      LayE funs P C (.call p col callee (.cons c (.cons t (.cons f .nil))) cty resolved index) o o'
  | condAnd {C o o' p col callee cty resolved index d x y} : (resolved == "") = false →
      resolveStatic funs resolved index = some d → bidOf d = some .LOGIC_AND_BOOL_BOOL →
      LayC funs P C x y (.bool Pos.unknown false) o o' →
      LayE funs P C (.call p col callee (.cons x (.cons y .nil)) cty resolved index) o o'
  | condOr {C o o' p col callee cty resolved index d x y} : (resolved == "") = false →
      resolveStatic funs resolved index = some d → bidOf d = some .LOGIC_OR_BOOL_BOOL →
      LayC funs P C x (.bool Pos.unknown true) y o o' →
      LayE funs P C (.call p col callee (.cons x (.cons y .nil)) cty resolved index) o o'
  | not {C o o1 o' p col callee cty resolved index d x rest} : (resolved == "") = false →
      resolveStatic funs resolved index = some d → bidOf d = some .LOGIC_NOT_BOOL →
      LayE funs P C x o o1 → decodeAt C o1 = some (.simple .LOGICAL_NOT, o') →
      LayE funs P C (.call p col callee (.cons x rest) cty resolved index) o o'
  | strict {C o o1 o' p col callee args cty resolved index d} : (resolved == "") = false →
      resolveStatic funs resolved index = some d →
      ((bidOf d).map isCondIntrinsic).getD false = false → d.isLazy = false →
      LayL funs P C args o o1 → CallTail P C d args.length o1 o' →
      LayE funs P C (.call p col callee args cty resolved index) o o'
  | byNeed {C o o1 o' p col callee args cty resolved index d ths} : (resolved == "") = false →
      resolveStatic funs resolved index = some d →
      ((bidOf d).map isCondIntrinsic).getD false = false → d.isLazy = true →
      LayT funs P C args ths o o1 → CallTail P C d args.length o1 o' →
      LayE funs P C (.call p col callee args cty resolved index) o o'
  | subList {C o o1 o2 o' p col var idx el} : LayE funs P C var o o1 → LayE funs P C idx o1 o2 →
      decodeAt C o2 = some (.simple .LIST_LOAD, o') →
      LayE funs P C (.subscript p col var idx (some (.list el))) o o'
  | subMap {C o o1 o2 o' p col var idx k v} : LayE funs P C var o o1 → LayE funs P C idx o1 o2 →
      decodeAt C o2 = some (.simple .MAP_LOAD, o') →
      LayE funs P C (.subscript p col var idx (some (.map k v))) o o'
  | member {C o o1 o' i p col obj field fp oty index} : LayE funs P C obj o o1 →
      decodeAt C o1 = some (.const .OBJ_LOAD i, o') → P[i]? = some (.name field) →
      LayE funs P C (.member p col obj field fp oty index) o o'
inductive LayL (funs : List FunDecl) (P : Pool) : Code → ExprList → Nat → Nat → Prop
  | nil {C o} : LayL funs P C .nil o o
  | cons {C o o1 o' e es} : LayE funs P C e o o1 → LayL funs P C es o1 o' →
      LayL funs P C (.cons e es) o o'
inductive LayP (funs : List FunDecl) (P : Pool) : Code → PairList → Nat → Nat → Prop
  | nil {C o} : LayP funs P C .nil o o
  | cons {C o o1 o2 o' k v ps} : LayE funs P C k o o1 → LayE funs P C v o1 o2 →
      LayP funs P C ps o2 o' → LayP funs P C (.cons k v ps) o o'
inductive LayF (funs : List FunDecl) (P : Pool) : Code → FieldEList → Nat → Nat → Prop
  | nil {C o} : LayF funs P C .nil o o
  | cons {C o o1 o' n e fs} : LayE funs P C e o o1 → LayF funs P C fs o1 o' →
      LayF funs P C (.cons n e fs) o o'
/-- `c`; `IF_TRUE else`; `t`; `JUMP end`; else: `f`; end: -/
inductive LayC (funs : List FunDecl) (P : Pool) : Code → Expr → Expr → Expr → Nat → Nat → Prop
  | mk {C o o1 o2 o3 o4 o' c t f} : LayE funs P C c o o1 →
      decodeAt C o1 = some (.jump .IF_TRUE o4, o2) → LayE funs P C t o2 o3 →
      decodeAt C o3 = some (.jump .JUMP o', o4) → LayE funs P C f o4 o' →
      LayC funs P C c t f o o'
/-- one `CONST` per argument, each a thunk whose own buffer holds the argument and `RETURN` -/
inductive LayT (funs : List FunDecl) (P : Pool) : Code → ExprList → List (Code × Ty) → Nat → Nat → Prop
  | nil {C o} : LayT funs P C .nil [] o o
  | cons {C o o1 o' i e es body pt ths ob nx} : decodeAt C o = some (.const .CONST i, o1) →
      P[i]? = some (.thunk body pt) → LayE funs P body e 0 ob →
      decodeAt body ob = some (.simple .RETURN, nx) → LayT funs P C es ths o1 o' →
      LayT funs P C (.cons e es) ((body, pt) :: ths) o o'
end

/-- a code unit for `e` against the pool `P`: the code of `e` from offset 0, then `RETURN` as the last instruction.
`compile` makes one from its argument, `compileThunks` one from each argument of a lazy call. -/
def LayU (funs : List FunDecl) (P : Pool) (C : Code) (e : Expr) : Prop :=
  ∃ ob, LayE funs P C e 0 ob ∧ decodeAt C ob = some (.simple .RETURN, C.size)

end Yae.VmSim
