/- The facade's environment check (`Yae.envCheck`, `facade.go: envCheck`).  `envCheck` is, by `rfl`, a verdict on
   the list of offences (`envCheck_eq`); acceptance (`accept_iff`, `reject_iff`), blindness to names the compile-time
   environment does not know (`extra_names_ok`) and to order (`order_irrelevant`) are read off that list. -/
import Yae.Model.Conv
import Yae.Proofs.ListLemmas
namespace Yae.ConvEnv
open Yae

theorem checkBinding_none_iff (venv : List (String × Val)) (n : String) (t : Ty) :
    checkBinding venv n t = none ↔ ∃ v, lookupVal venv n = some v ∧ tyEq t v.typeOf = true := by
  unfold checkBinding
  cases h : lookupVal venv n with
  | none => simp
  | some v =>
    by_cases ht : tyEq t v.typeOf = true <;> simp [ht]

theorem checkBinding_undefined_iff (venv : List (String × Val)) (n : String) (t : Ty) :
    checkBinding venv n t = some .undefined ↔ lookupVal venv n = none := by
  unfold checkBinding
  cases h : lookupVal venv n with
  | none => simp
  | some v => by_cases ht : tyEq t v.typeOf = true <;> simp [ht]

theorem checkBinding_mismatch_iff (venv : List (String × Val)) (n : String) (t : Ty) :
    checkBinding venv n t = some .mismatch ↔
      ∃ v, lookupVal venv n = some v ∧ tyEq t v.typeOf = false := by
  unfold checkBinding
  cases h : lookupVal venv n with
  | none => simp
  | some v => by_cases ht : tyEq t v.typeOf = true <;> simp [ht]

theorem checkBinding_ne_mixed (venv : List (String × Val)) (n : String) (t : Ty) :
    checkBinding venv n t ≠ some .mixed := by
  unfold checkBinding
  cases h : lookupVal venv n with
  | none => simp
  | some v => by_cases ht : tyEq t v.typeOf = true <;> simp [ht]

/-- the offences `envCheck` collects, in the order of `tenv` -/
def errs (tenv : List (String × Ty)) (venv : List (String × Val)) : List EnvErr :=
  tenv.filterMap fun (n, t) => checkBinding venv n t

def verdict (es : List EnvErr) : Except EnvErr Unit :=
  if es.isEmpty then .ok ()
  else if es.all (· == .undefined) then .error .undefined
  else if es.all (· == .mismatch) then .error .mismatch
  else .error .mixed

theorem envCheck_eq (tenv : List (String × Ty)) (venv : List (String × Val)) :
    envCheck tenv venv = verdict (errs tenv venv) := rfl

theorem verdict_ok_iff (es : List EnvErr) : verdict es = .ok () ↔ es = [] := by
  unfold verdict
  cases es with
  | nil => simp
  | cons e es =>
    simp only [List.isEmpty_cons, Bool.false_eq_true, if_false, reduceCtorEq, iff_false]
    split
    · simp
    · split <;> simp

theorem verdict_perm {es es' : List EnvErr} (h : es.Perm es') : verdict es = verdict es' := by
  unfold verdict
  rw [h.isEmpty_eq, h.all_eq, h.all_eq]

theorem errs_eq_nil_iff (tenv : List (String × Ty)) (venv : List (String × Val)) :
    errs tenv venv = [] ↔ ∀ n t, (n, t) ∈ tenv → checkBinding venv n t = none := by
  unfold errs
  rw [List.filterMap_eq_nil_iff]
  exact Prod.forall

/-- every compile-time binding (also when a name occurs twice in `tenv`) finds — by the first binding of that
name in `venv` — a value whose own type is `types.Equals` to the declared type -/
theorem accept_iff (tenv : List (String × Ty)) (venv : List (String × Val)) :
    envCheck tenv venv = .ok () ↔
      ∀ n t, (n, t) ∈ tenv → ∃ v, lookupVal venv n = some v ∧ tyEq t v.typeOf = true := by
  rw [envCheck_eq, verdict_ok_iff, errs_eq_nil_iff]
  constructor
  · intro h n t hm; exact (checkBinding_none_iff venv n t).1 (h n t hm)
  · intro h n t hm; exact (checkBinding_none_iff venv n t).2 (h n t hm)

theorem reject_iff (tenv : List (String × Ty)) (venv : List (String × Val)) :
    (∃ e, envCheck tenv venv = .error e) ↔
      ∃ n t, (n, t) ∈ tenv ∧ (lookupVal venv n = none ∨
        ∃ v, lookupVal venv n = some v ∧ tyEq t v.typeOf = false) := by
  have h : (∃ e, envCheck tenv venv = .error e) ↔ ¬ envCheck tenv venv = .ok () := by
    cases envCheck tenv venv <;> simp
  rw [h, accept_iff, Classical.not_forall]
  refine exists_congr fun n => ?_
  rw [Classical.not_forall]
  refine exists_congr fun t => ?_
  rw [Classical.not_imp]
  refine and_congr_right fun _ => ?_
  cases lookupVal venv n <;> simp

theorem envCheck_congr_binding {tenv : List (String × Ty)} {venv venv' : List (String × Val)}
    (h : ∀ n t, (n, t) ∈ tenv → checkBinding venv n t = checkBinding venv' n t) :
    envCheck tenv venv = envCheck tenv venv' := by
  rw [envCheck_eq, envCheck_eq]
  congr 1
  unfold errs
  induction tenv with
  | nil => rfl
  | cons p rest ih =>
    simp only [List.filterMap_cons, h p.1 p.2 List.mem_cons_self,
      ih fun n t hm => h n t (List.mem_cons_of_mem _ hm)]

theorem envCheck_congr {tenv : List (String × Ty)} {venv venv' : List (String × Val)}
    (h : ∀ n t, (n, t) ∈ tenv → lookupVal venv n = lookupVal venv' n) :
    envCheck tenv venv = envCheck tenv venv' :=
  envCheck_congr_binding fun n t hm => by unfold checkBinding; rw [h n t hm]

theorem lookupVal_append (a b : List (String × Val)) (n : String) :
    lookupVal (a ++ b) n = (lookupVal a n).or (lookupVal b n) := by
  unfold lookupVal
  rw [List.find?_append]
  cases List.find? (fun p => p.1 == n) a <;> simp

theorem lookupVal_none_of_not_mem {a : List (String × Val)} {n : String}
    (h : ∀ p ∈ a, p.1 ≠ n) : lookupVal a n = none := by
  unfold lookupVal
  rw [Option.map_eq_none_iff, List.find?_eq_none]
  intro p hp; simpa using h p hp

theorem lookupVal_extra {tenv : List (String × Ty)} {pre post : List (String × Val)}
    (hpre : ∀ p ∈ pre, ∀ t, (p.1, t) ∉ tenv) (hpost : ∀ p ∈ post, ∀ t, (p.1, t) ∉ tenv)
    (venv : List (String × Val)) {n : String} {t : Ty} (hm : (n, t) ∈ tenv) :
    lookupVal (pre ++ venv ++ post) n = lookupVal venv n := by
  rw [lookupVal_append, lookupVal_append,
    lookupVal_none_of_not_mem fun p hp hpn => hpre p hp t (hpn ▸ hm),
    lookupVal_none_of_not_mem fun p hp hpn => hpost p hp t (hpn ▸ hm)]
  cases lookupVal venv n <;> rfl

theorem extra_names_ok (tenv : List (String × Ty)) (venv pre post : List (String × Val))
    (hpre : ∀ p ∈ pre, ∀ t, (p.1, t) ∉ tenv) (hpost : ∀ p ∈ post, ∀ t, (p.1, t) ∉ tenv) :
    envCheck tenv (pre ++ venv ++ post) = envCheck tenv venv :=
  envCheck_congr fun _ _ hm => lookupVal_extra hpre hpost venv hm

/-! `lookupVal` takes the first binding of a name, so the run-time side needs distinct names; the compile-time
side does not. -/

theorem lookupVal_eq_some_iff {venv : List (String × Val)} (hnd : (venv.map Prod.fst).Nodup)
    (n : String) (v : Val) : lookupVal venv n = some v ↔ (n, v) ∈ venv :=
  assoc_eq_some_iff hnd

theorem lookupVal_perm {venv venv' : List (String × Val)} (hnd : (venv.map Prod.fst).Nodup)
    (hp : venv.Perm venv') (n : String) : lookupVal venv n = lookupVal venv' n := by
  have hnd' : (venv'.map Prod.fst).Nodup := (hp.map Prod.fst).nodup_iff.1 hnd
  apply Option.ext
  intro v
  rw [lookupVal_eq_some_iff hnd, lookupVal_eq_some_iff hnd', hp.mem_iff]

/-- the verdict, including the class of the error (both environments are Go maps) -/
theorem order_irrelevant {tenv tenv' : List (String × Ty)} {venv venv' : List (String × Val)}
    (ht : tenv.Perm tenv') (hv : venv.Perm venv') (hnd : (venv.map Prod.fst).Nodup) :
    envCheck tenv venv = envCheck tenv' venv' := by
  rw [envCheck_congr (venv' := venv') (fun n _ _ => lookupVal_perm hnd hv n),
    envCheck_eq, envCheck_eq]
  exact verdict_perm (ht.filterMap _)

/-! ### when the reported class is `undefined` (the other two classes are not characterised) -/

theorem mem_errs_iff (tenv : List (String × Ty)) (venv : List (String × Val)) (e : EnvErr) :
    e ∈ errs tenv venv ↔ ∃ n t, (n, t) ∈ tenv ∧ checkBinding venv n t = some e := by
  unfold errs
  rw [List.mem_filterMap]
  exact Prod.exists

theorem verdict_undefined_iff (es : List EnvErr) :
    verdict es = .error .undefined ↔ es ≠ [] ∧ ∀ e ∈ es, e = .undefined := by
  unfold verdict
  cases es with
  | nil => simp
  | cons e es =>
    rw [if_neg (by simp)]
    split
    · next h => simpa using h
    · next h => split <;> simpa using h

end Yae.ConvEnv
