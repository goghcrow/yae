/-
  From the lexer to the parser's hypothesis `OpLexemes`: a token produced by a rule that is not one of the ten
  regular-expression rules has its KIND as its lexeme (the rule matched the kind's own text); so for lexed input
  every operator token carries its kind as lexeme, provided no operator is NAMED like one of the four literal kinds
  `<num> <str> <time> <sym>` (the grammar side of it is `literalKind_not_opKind`).  The parser's other hypothesis,
  that no token has the end-of-file kind (`lexed_no_eof`): a token's kind is the kind of a rule of the lexicon, and
  no rule has that kind unless an operator is named so.
-/
import Yae.Proofs.LexRules
import Yae.Proofs.Lex
import Yae.Proofs.ParseRespectsSound
namespace Yae
open Yae

theorem lexed_lexeme_kind {ops : List Operator} {s : List Char} {ts : List Token}
    (h : lex ops s = .ok ts) {t : Token} (ht : t ∈ ts) :
    t.kind ∈ literalKinds ∨ t.lexeme = t.kind := by
  by_cases hk : t.kind ∈ literalKinds
  · exact .inl hk
  · exact .inr (lex_text_token h ht hk).1

theorem literalKind_not_opKind {ops : List Operator} {k : String} (hk : k ∈ literalKinds)
    (hops : ∀ o ∈ ops, o.kind ≠ k) : ¬ (newGrammar ops).isOpKind k := by
  -- no built-in `nud` is `unaryPrefix`, no built-in `led` sits under a literal kind
  have h := newGrammar_entries (P := fun k' _ n => n = .unaryPrefix → k' ≠ k)
    (Q := fun k' _ _ => k' ≠ k) ops
    (fun e he hn => absurd hn ((by decide : ∀ e ∈ builtinNuds, e.2.2 ≠ .unaryPrefix) e he))
    ((by decide : ∀ k ∈ literalKinds, ∀ e ∈ builtinLeds, e.1 ≠ k) k hk)
    fun o ho => ⟨fun _ _ => hops o ho, fun _ _ => hops o ho⟩
  rintro (⟨bp, hl⟩ | ⟨bp, led, hl⟩)
  · exact h.nud hl rfl rfl
  · exact h.led hl rfl

theorem lexed_opLexemes {ops : List Operator} (hops : ∀ o ∈ ops, o.kind ∉ literalKinds)
    {s : List Char} {ts : List Token} (h : lex ops s = .ok ts) : OpLexemes ops ts := by
  intro t ht hk
  rcases lexed_lexeme_kind h ht with hl | hl
  · exact absurd hk (literalKind_not_opKind hl (fun o ho e => hops o ho (e ▸ hl)))
  · exact hl

theorem lexed_no_eof {ops : List Operator} (hops : ∀ o ∈ ops, o.kind ≠ tkEOF) {s : List Char}
    {ts : List Token} (h : lex ops s = .ok ts) : ∀ t ∈ ts, t.kind ≠ tkEOF := by
  intro t ht he
  obtain ⟨pre, post, n, _, _, _, _, hfm, _⟩ := (lex_lexed h).tokAt ht
  obtain ⟨r, hr, hk, _⟩ := firstMatch_mem hfm
  rw [he] at hk
  have hno : (∀ r ∈ constRules, r.kind ≠ tkEOF) ∧ ∀ k ∈ literalKinds, k ≠ tkEOF := by decide
  rcases mem_newLexicon hr with hc | ⟨o, ho, rfl⟩ | ⟨k, hk', p, rfl⟩
  · exact hno.1 r hc hk
  · rw [operRule_kind] at hk
    exact hops o ho hk
  · exact hno.2 k hk' hk

end Yae
