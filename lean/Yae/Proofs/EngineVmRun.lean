/-
  Lemmas for `Yae/Props/EngineVm.lean`: histories on `EngineVm` from the left (as `Yae.EngineHistory.run_out` for
  `Engine`, from the same `runWith` lemmas), and the LOCKSTEP of `EngineVm.run` and `Engine.run`,
  `Yae.EngVm.run_sim`: with no hypothesis at all the two engines are in the same state after every
  history, and the outputs are related by `Sim` — wherever `Engine` returned a Callable,
  `EngineVm` returned the same Callable with the code `vm.Compile` gives
  (`CallableVm.ofCallable`), or the refusal of the VM compiler; and `EngineVm` returns no other
  Callable.
-/
import Yae.Model.EngineVm
import Yae.Proofs.EngineHistory
namespace Yae.EngVm
open Yae Yae.Facade Yae.EngineHistory

theorem run_eq_runWith (e : EngineVm) (ops : List Op) :
    e.run ops = runWith EngineVm.step e [] ops := by
  unfold EngineVm.run
  generalize ([] : List OutVm) = outs
  induction ops generalizing e outs with
  | nil => rfl
  | cons op ops ih => exact ih _ _

theorem run_length (e : EngineVm) (ops : List Op) : (e.run ops).2.length = ops.length := by
  rw [run_eq_runWith]; exact runWith_length _ _ _

theorem run_prefix_some {e : EngineVm} {ops : List Op} {i j : Nat} {o : OutVm} :
    (e.run (ops.take i)).2[j]? = some o ↔ j < i ∧ (e.run ops).2[j]? = some o := by
  rw [run_eq_runWith, run_eq_runWith]; exact runWith_prefix_some _ _ _

theorem run_out {e : EngineVm} {ops : List Op} {i : Nat} {op : Op} (hop : ops[i]? = some op) :
    (e.run ops).2[i]? = some ((e.run (ops.take i)).1.step (e.run (ops.take i)).2 op).2 := by
  rw [run_eq_runWith, run_eq_runWith]; exact runWith_out _ _ hop

def Refuses (c : Callable) (err : Vm.CErr) : Prop :=
  c.backend = .vm ∧ Vm.compile c.funs c.tree = .error err

theorem refuses_iff {c : Callable} {err : Vm.CErr} :
    Refuses c err ↔ vmCodeOf c.backend c.funs c.tree = some (.error err) := by
  unfold Refuses vmCodeOf
  cases c.backend <;> simp

structure Sim (ov : OutVm) (o : Out) : Prop where
  fwd : ∀ c, o = .compiled (.ok c) →
    (ov = .compiled (.ok (.ofCallable c)) ∧ ∀ err, ¬ Refuses c err) ∨
    (∃ err, ov = .compiled (.error (.vm err)) ∧ Refuses c err)
  bwd : ∀ cv, ov = .compiled (.ok cv) → o = .compiled (.ok cv.toCallable)

theorem sim_plain {ov : OutVm} {o : Out} (h1 : ∀ c, o ≠ .compiled (.ok c))
    (h2 : ∀ cv, ov ≠ .compiled (.ok cv)) : Sim ov o :=
  ⟨fun c hc => absurd hc (h1 c), fun cv hc => absurd hc (h2 cv)⟩

def SimOuts (outsV : List OutVm) (outs : List Out) : Prop :=
  outsV.length = outs.length ∧
    ∀ (k : Nat) (ov : OutVm) (o : Out), outsV[k]? = some ov → outs[k]? = some o → Sim ov o

theorem SimOuts.callable {outsV : List OutVm} {outs : List Out} (h : SimOuts outsV outs) (k : Nat) :
    (Out.callable? outs[k]? = none ∧ OutVm.callable? outsV[k]? = none) ∨
    (∃ c, outs[k]? = some (.compiled (.ok c)) ∧
      ((outsV[k]? = some (.compiled (.ok (.ofCallable c))) ∧ ∀ err, ¬ Refuses c err) ∨
       (∃ err, outsV[k]? = some (.compiled (.error (.vm err))) ∧ Refuses c err))) := by
  unfold SimOuts at h
  rcases Nat.lt_or_ge k outs.length with hk | hk
  · have hkv : k < outsV.length := by rw [h.1]; exact hk
    have ho : outs[k]? = some outs[k] := List.getElem?_eq_getElem hk
    have hv : outsV[k]? = some outsV[k] := List.getElem?_eq_getElem hkv
    have hs := h.2 k _ _ hv ho
    by_cases hc : ∃ c, outs[k] = .compiled (.ok c)
    · obtain ⟨c, hc⟩ := hc
      right
      refine ⟨c, by rw [ho, hc], ?_⟩
      rcases hs.fwd c hc with ⟨h1, h2⟩ | ⟨err, h1, h2⟩
      · exact .inl ⟨by rw [hv, h1], h2⟩
      · exact .inr ⟨err, by rw [hv, h1], h2⟩
    · left
      refine ⟨?_, ?_⟩
      · rw [ho]
        unfold Out.callable?
        split
        · next c heq => exact absurd ⟨c, Option.some.inj heq⟩ hc
        · rfl
      · rw [hv]
        unfold OutVm.callable?
        split
        · next cv heq => exact absurd ⟨_, hs.bwd cv (Option.some.inj heq)⟩ hc
        · rfl
  · left
    rw [List.getElem?_eq_none hk, List.getElem?_eq_none (by rw [h.1]; exact hk)]
    exact ⟨rfl, rfl⟩

theorem compile_cases (ev : EngineVm) (times : List (String × Int)) (tenv : List (String × Ty))
    (src : String) :
    (∃ err, (ev.eng.compile times tenv src).2 = .error err ∧
      (ev.compile times tenv src).2 = .error (.front err)) ∨
    (∃ c, (ev.eng.compile times tenv src).2 = .ok c ∧
      (((ev.compile times tenv src).2 = .ok (.ofCallable c) ∧ ∀ err, ¬ Refuses c err) ∨
       (∃ err, (ev.compile times tenv src).2 = .error (.vm err) ∧ Refuses c err))) := by
  unfold EngineVm.compile Engine.compile
  simp only
  cases compileSrc ev.eng.init.ops times (ev.eng.init.tenvOf tenv) src with
  | error err => exact .inl ⟨err, rfl, rfl⟩
  | ok r =>
    refine .inr ⟨_, rfl, ?_⟩
    simp only [CallableVm.ofCallable]
    split
    · next ce hce => exact .inr ⟨ce, rfl, refuses_iff.2 hce⟩
    · next hne => exact .inl ⟨rfl, fun err he => hne err (refuses_iff.1 he)⟩

theorem compile_sim (ev : EngineVm) (times : List (String × Int)) (tenv : List (String × Ty))
    (src : String) :
    Sim (.compiled (ev.compile times tenv src).2) (.compiled (ev.eng.compile times tenv src).2) := by
  rcases compile_cases ev times tenv src with ⟨err, h1, h2⟩ | ⟨c, h1, ⟨h2, h3⟩ | ⟨err, h2, h3⟩⟩
  · rw [h1, h2]
    exact sim_plain (fun _ h => nomatch h) (fun _ h => nomatch h)
  · rw [h1, h2]
    refine ⟨fun c' hc => ?_, fun cv hc => ?_⟩
    · cases hc; exact .inl ⟨rfl, h3⟩
    · cases hc; rfl
  · rw [h1, h2]
    refine ⟨fun c' hc => ?_, fun cv hc => by cases hc⟩
    cases hc; exact .inr ⟨err, rfl, h3⟩

/-- one call, in lockstep: whatever output lists the two steps are given (the outputs of an
`invoke k` are never Callables, so the lists need not be related here) -/
theorem step_sim (ev : EngineVm) {outsV : List OutVm} {outs : List Out} (op : Op) :
    (ev.step outsV op).1.eng = (ev.eng.step outs op).1 ∧
      Sim (ev.step outsV op).2 (ev.eng.step outs op).2 := by
  cases op with
  | compile times tenv src => exact ⟨rfl, compile_sim ev times tenv src⟩
  | invoke k venv ext =>
    simp only [EngineVm.step, Engine.step]
    split <;> split <;> exact ⟨rfl, sim_plain (fun _ h => nomatch h) (fun _ h => nomatch h)⟩
  | _ => exact ⟨rfl, sim_plain (fun _ h => nomatch h) (fun _ h => nomatch h)⟩

theorem run_eng (ev : EngineVm) (ops : List Op) : (ev.run ops).1.eng = (ev.eng.run ops).1 := by
  rw [run_fst]
  unfold EngineVm.run
  generalize ([] : List OutVm) = outsV
  induction ops generalizing ev outsV with
  | nil => rfl
  | cons op ops ih =>
    rw [EngineVm.runFrom, ih, (step_sim ev (outs := []) op).1, List.foldl_cons]; rfl

/-- by `run_eng`, output `k` of either run is that of call `k` on the same engine; `step_sim` relates the two -/
theorem run_sim (ev : EngineVm) (ops : List Op) :
    (ev.run ops).1.eng = (ev.eng.run ops).1 ∧ SimOuts (ev.run ops).2 (ev.eng.run ops).2 := by
  refine ⟨run_eng ev ops, by rw [run_length, EngineHistory.run_length], fun k ov o hv ho => ?_⟩
  have hk : k < ops.length := run_length ev ops ▸ (List.getElem?_eq_some_iff.1 hv).1
  have hop := List.getElem?_eq_getElem hk
  rw [run_out hop] at hv
  rw [EngineHistory.run_out hop, ← run_eng] at ho
  cases hv; cases ho
  exact (step_sim _ _).2

end Yae.EngVm
