/-
  The call step of the walk over `eval` (C01 / C02), `callFun_ok`:
  a function that passes `declOK`, called at an instance `σ` of its signature on arguments whose
  `Ann` types are `StructEq` to the instantiated parameters, yields a value of the instantiated return type or an
  allowed failure, given `EvalOK` at the same fuel for the arguments.  (The parameters at `σ` are then well formed
  and variable free as the argument types are, `params_wf`; there is no hypothesis on `σ` itself.)  Four cases: strict built-in
  (`builtin_outcome`), lazy built-in (`lazy_builtin`: `if`, `&&`, `||`), strict host function (`hostRespects_sound`),
  lazy host function (`forceSeq_ok`).
-/
import Yae.Proofs.SoundnessEval
import Yae.Proofs.SoundnessBuiltins
namespace Yae.Sound
open EvalM

theorem Outcome.res {ext : Externs} {id : BId} {vs : List Val} {T : Ty} {en : Prop}
    (h : Outcome ext id vs T) :
    EvalM.Res Allowed (fun r : Val × List Event => HasTy r.1 T) en (applyBuiltin ext id vs) := by
  rcases h with ⟨v, evs, h, hv⟩ | ⟨_, h⟩ | ⟨_, h | h⟩ | ⟨_, h⟩ <;> rw [h]
  · exact hv
  · exact .inl trivial
  · exact .inl trivial
  · exact .inl (.inl rfl)
  · exact .inl (.inr rfl)

theorem HasTyList.convS : ∀ {vs : List Val} {As Ps : TyList}, HasTyList vs As →
    StructEqList Ps As → wfList As = true → HasTyList vs Ps
  | [], _, _, h, .nil, _ => h
  | [], _, _, h, .cons _ _, _ => by simp [HasTyList] at h
  | _ :: _, _, _, h, .nil, _ => by simp [HasTyList] at h
  | v :: vs, _, _, h, .cons e es, ha => by
    simp only [HasTyList] at h ⊢
    simp only [wfList, Bool.and_eq_true] at ha
    exact ⟨h.1.convS ha.1 e, HasTyList.convS h.2 es ha.2⟩

theorem params_wf {Γ : TEnv} (hvars : VarsOK Γ) {args : ExprList} {As Ps : TyList}
    (hargs : AnnArgs Γ args As) (hse : StructEqList Ps As) :
    wfList As = true ∧ wfList Ps = true ∧ slotFreeList Ps = true := by
  obtain ⟨hAw, hAs⟩ := annArgs_wf hvars args As hargs
  have hPw := hse.wf_of hAw
  exact ⟨hAw, hPw, slotFreeList_of_structEq _ _ hPw hse hAs⟩

theorem get?_of_paramIsRet {ps : TyList} {i : Nat} {ret : Ty}
    (h : (match ps.get? i with
      | some p => tyBeq p ret
      | none => false) = true) (σ : Subst) :
    (substGList σ ps).get? i = some (substG σ ret) := by
  cases hpi : ps.get? i with
  | none => simp [hpi] at h
  | some p =>
    simp only [hpi] at h
    rw [TyList.get?_substGList, hpi, tyBeq_eq _ _ h]; rfl

theorem hostRespects_sound {n : String} {ps : TyList} {ret : Ty} {name : String} {beh : HostBeh}
    (h : hostRespects (.fn n ps ret) beh false = true) (σ : Subst)
    (vs : List Val) (hvs : HasTyList vs (substGList σ ps)) (log : List Event) :
    match (hostStrict name beh vs log).1 with
    | .ok v => HasTy v (substG σ ret)
    | .error f => f = .hostFail name := by
  have hemit : ∀ e : Event, EvalM.emit e log = (.ok (), e :: log) := fun _ => rfl
  simp only [hostRespects] at h
  cases beh with
  | retArg i =>
    simp only [Bool.not_false, Bool.true_and] at h
    obtain ⟨v, hv, hvT⟩ := hvs.get? i _ (get?_of_paramIsRet h σ)
    simp only [hostStrict]
    rw [EvalM.bind_ok (hemit _)]
    simp only [hv]
    exact hvT
  | constNum x | constStr x | constBool x =>
    simp only [Bool.not_false, Bool.true_and] at h
    have := tyBeq_eq _ _ h; subst this
    simp only [hostStrict]
    rw [EvalM.bind_ok (hemit _)]
    exact ⟨rfl, rfl⟩
  | fail =>
    simp only [hostStrict]
    rw [EvalM.bind_ok (hemit _)]
    rfl
  | force order => simp at h

theorem hostStrict_ok {n : String} {ps : TyList} {ret : Ty} {name : String} {beh : HostBeh}
    (h : hostRespects (.fn n ps ret) beh false = true) (σ : Subst)
    (vs : List Val) (hvs : HasTyList vs (substGList σ ps)) {en : Prop} :
    Sat (hostStrict name beh vs) (fun v => HasTy v (substG σ ret)) en := by
  intro log
  have hr := hostRespects_sound (name := name) h σ vs hvs log
  cases hx : (hostStrict name beh vs log).1 with
  | ok v => rw [hx] at hr; exact hr
  | error f => rw [hx] at hr; subst hr; exact .inl trivial

section
variable {Γ : TEnv} {ρ : REnv} {dbg : Bool} {fuel : Nat}

theorem evalBool_ok (ih : EvalOK Γ ρ dbg fuel) {e : Expr} (he : Ann Γ e .bool)
    {k : Val → EvalM Val} {P : Val → Prop} {en : Prop} (hen : en → e.depth < fuel)
    (hk : ∀ b, Sat (k (.bool b)) P en) : Sat (eval fuel dbg ρ e >>= k) P en :=
  Sat.bind (ih _ _ he) hen fun v hv => by
    obtain ⟨b, rfl⟩ := hv.bool_inv
    exact hk b

/-- a lazy host function forces some of its arguments in order and returns the last result -/
theorem forceSeq_ok (ih : EvalOK Γ ρ dbg fuel) {args : ExprList} {As : TyList}
    (hargs : AnnArgs Γ args As) (hAw : wfList As = true) {R : Ty} :
    ∀ (order : List Nat) (acc : Option Val),
    (∀ i ∈ order, i < args.length) →
    (match order.getLast? with
      | some i => ∃ A, As.get? i = some A ∧ StructEq R A
      | none => ∃ v, acc = some v ∧ HasTy v R) →
    Sat (forceSeq fuel dbg ρ args order acc) (fun v => HasTy v R) (depthList args < fuel)
  | [], acc, _, h => by
    simp only [List.getLast?_nil] at h
    obtain ⟨v, rfl, hv⟩ := h
    simp only [forceSeq]
    exact Sat.pure hv
  | i :: rest, acc, hlt, h => by
    simp only [forceSeq]
    obtain ⟨a, ha⟩ := ExprList.get?_lt args i (hlt i (by simp))
    simp only [ha]
    obtain ⟨A, hA, hAnn, hd⟩ := annArgs_get? args As hargs i a ha
    refine Sat.bind (ih a A hAnn) (by omega) (fun v hv => ?_)
    refine forceSeq_ok ih hargs hAw rest (some v) (fun j hj => hlt j (by simp [hj])) ?_
    cases rest with
    | nil =>
      simp only [List.getLast?_singleton] at h
      obtain ⟨A', hA', hse⟩ := h
      rw [hA] at hA'; cases hA'
      simp only [List.getLast?_nil]
      exact ⟨v, rfl, hv.convS (wfList_get? As i A hAw hA) hse⟩
    | cons j rest' =>
      rw [List.getLast?_cons_cons] at h
      exact h

theorem callFun_ok (hvars : VarsOK Γ) (ih : EvalOK Γ ρ dbg fuel)
    {n : String} {ps : TyList} {ret : Ty} {ref : FunRef} {isLazy : Bool}
    (hd : declOK ⟨.fn n ps ret, ref, isLazy⟩ = true)
    {σ : Subst} {args : ExprList} {As : TyList} (hargs : AnnArgs Γ args As)
    (hse : StructEqList (substGList σ ps) As) :
    Sat (callFun fuel dbg ρ ref isLazy args) (fun v => HasTy v (substG σ ret))
      (depthList args < fuel) := by
  obtain ⟨hAw, hPw, hPs⟩ := params_wf hvars hargs hse
  have hlenA : args.length = ps.length := by
    rw [annArgs_length args As hargs, ← StructEqList.length_eq _ _ hse, length_substGList]
  cases ref with
  | builtin idx =>
    obtain ⟨b, hb, hty, hlz⟩ := declOK_builtin hd rfl
    have hmem := List.mem_of_getElem? hb
    simp only [callFun, hb]
    cases isLazy with
    | true =>
      simp only [if_true]
      have hbool : substG σ Ty.bool = Ty.bool := by simp [substG]
      rcases lazy_builtin hmem hlz with ⟨hid, hty'⟩ | ⟨hid, n', hty'⟩
      · -- `if`
        rw [hty] at hty'; cases hty'
        simp only [substGList, hbool] at hse
        cases hse with
        | cons e0 hse => cases hse with
          | cons e1 hse => cases hse with
            | cons e2 hse =>
              cases hse; cases e0
              cases hargs with
              | cons hc hargs => cases hargs with
                | cons ht hargs => cases hargs with
                  | cons hf hargs =>
                    cases hargs
                    simp only [wfList, Bool.and_eq_true] at hAw
                    simp only [hid]
                    refine evalBool_ok ih hc max_lt_l fun bv => ?_
                    cases bv
                    · exact (ih _ _ hf).mono (fun v hv => hv.convS hAw.2.2.1 e2)
                        (fun h => max_lt_l (max_lt_r (max_lt_r h)))
                    · exact (ih _ _ ht).mono (fun v hv => hv.convS hAw.2.1 e1)
                        (fun h => max_lt_l (max_lt_r h))
      · -- `&&`, `||`
        rw [hty] at hty'; cases hty'
        simp only [substGList, hbool] at hse
        cases hse with
        | cons e0 hse => cases hse with
          | cons e1 hse =>
            cases hse; cases e0; cases e1
            cases hargs with
            | cons hx hargs => cases hargs with
              | cons hy hargs =>
                cases hargs
                rcases hid with hid | hid
                · simp only [hid]
                  refine evalBool_ok ih hx max_lt_l fun bv => ?_
                  cases bv
                  · exact Sat.pure ⟨rfl, rfl⟩
                  · exact evalBool_ok ih hy (fun h => max_lt_l (max_lt_r h)) fun _ =>
                      Sat.pure ⟨rfl, rfl⟩
                · simp only [hid]
                  refine evalBool_ok ih hx max_lt_l fun bv => ?_
                  cases bv
                  · exact evalBool_ok ih hy (fun h => max_lt_l (max_lt_r h)) fun _ =>
                      Sat.pure ⟨rfl, rfl⟩
                  · exact Sat.pure ⟨rfl, rfl⟩
    | false =>
      simp only [Bool.false_eq_true, if_false]
      refine Sat.bind (evalArgs_ok ih args As hargs) id (fun vs hvs => ?_)
      have hvs' : HasTyList vs.toList (substGList σ ps) := hvs.convS hse hAw
      refine Sat.bind (Sat.lift (builtin_outcome ρ.ext b hmem hlz hty σ hPw hPs vs.toList hvs').res) id ?_
      rintro ⟨v, evs⟩ hv
      exact Sat.bind Sat.emitAll id (fun _ _ => Sat.pure hv)
  | host name beh =>
    simp only [declOK, Bool.and_eq_true] at hd
    have href := hd.2
    cases isLazy with
    | false =>
      rw [callFun.eq_def]
      simp only [Bool.false_eq_true, if_false]
      refine Sat.bind (evalArgs_ok ih args As hargs) id (fun vs hvs => ?_)
      exact hostStrict_ok href σ _ (hvs.convS hse hAw)
    | true =>
    simp only [hostRespects] at href
    cases beh with
    | retArg | constNum | constStr | constBool | fail => simp at href
    | force order =>
      simp only [Bool.and_eq_true, List.all_eq_true, decide_eq_true_eq] at href
      obtain ⟨⟨-, hall⟩, hlast⟩ := href
      simp only [callFun]
      refine Sat.bind Sat.emit id (fun _ _ => ?_)
      refine forceSeq_ok ih hargs hAw order none (fun i hi => by rw [hlenA]; exact hall i hi) ?_
      cases hl : order.getLast? with
      | none => simp [hl] at hlast
      | some i =>
        simp only [hl] at hlast ⊢
        exact StructEqList.get? hse i _ (get?_of_paramIsRet hlast σ)

end

end Yae.Sound
