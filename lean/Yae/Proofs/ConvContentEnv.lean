/- C15, environments and accessors: the bindings `conv.ValEnvOf` makes of a string-keyed map carry the contents of
   the map's values (for a struct only the pieces are here; `Yae.C15.env_content` puts them together); the content
   equations read through `EntryList.find?` (map subscript), `objGet?` (member access), `lookupVal`; plain Go
   string keys are listed under their quoted texts. -/
import Yae.Proofs.ConvContent
import Yae.Proofs.ConvContentEquiv
import Yae.Proofs.ConvEnv
import Yae.Proofs.ValRel
import Yae.Proofs.NumLemmas
namespace Yae.ConvVal
open Yae Yae.Sound Yae.ConvEnv

def envContents (env : List (String × Val)) : List (String × Content) :=
  env.map fun p => (p.1, p.2.content)

def envNorm (cs : List (String × Content)) : List (String × Content) :=
  cs.map fun p => (p.1, p.2.norm)

theorem mapError_eq_ok {ε ε' α : Type} {a : Except ε α} {f : ε → ε'} {x : α} :
    a.mapError f = .ok x ↔ a = .ok x := by
  cases a <;> simp [Except.mapError]

theorem valEnvOfMap_content : ∀ (es : GoEntryList) (env : List (String × Val)),
    valEnvOfMap es = .ok env → ∃ cs, es.envContent = some cs ∧ envContents env = envNorm cs
  | .nil, env, h => by
    simp only [valEnvOfMap] at h
    cases Except.pure_eq_ok.1 h
    exact ⟨[], rfl, rfl⟩
  | .cons k v es, env, h => by
    simp only [valEnvOfMap] at h
    obtain ⟨x, hx, h⟩ := Except.bind_eq_ok.1 h
    obtain ⟨rest, hr, h⟩ := Except.bind_eq_ok.1 h
    cases Except.pure_eq_ok.1 h
    obtain ⟨c, hc, ec⟩ := valOf_content (mapError_eq_ok.1 hx)
    obtain ⟨cs, hcs, er⟩ := valEnvOfMap_content es rest hr
    refine ⟨(keyName k, c) :: cs, ?_, ?_⟩
    · simp only [GoEntryList.envContent, hc, hcs]
    · simp only [envContents, envNorm, List.map_cons, ec] at er ⊢
      rw [er]

theorem zip_fieldContent : ∀ (fs : FieldList) (vs : ValList),
    envContents (List.zip fs.names vs.toList) = (ValList.fieldContent fs vs).toList
  | .cons n t fs, .cons v vs => by
    simp only [FieldList.names, ValList.toList, List.zip_cons_cons, envContents, List.map_cons,
      ValList.fieldContent, ContentFields.toList]
    exact congrArg _ (zip_fieldContent fs vs)
  | .nil, vs => by simp [FieldList.names, envContents, ValList.fieldContent, ContentFields.toList]
  | .cons _ _ _, .nil => by
    simp [ValList.toList, envContents, ValList.fieldContent, ContentFields.toList]

theorem toList_normFields : ∀ fs : ContentFields,
    (ContentFields.norm fs).toList = envNorm fs.toList
  | .nil => rfl
  | .cons n c fs => by
    simp only [ContentFields.norm, ContentFields.toList, envNorm, List.map_cons]
    exact congrArg _ (toList_normFields fs)

theorem norm_eq_fields {c : Content} {fs : ContentFields} (h : c.norm = .fields fs) :
    ∃ cf, c = .fields cf ∧ ContentFields.norm cf = fs := by
  cases c <;> simp only [Content.norm] at h <;> cases h
  exact ⟨_, rfl, rfl⟩

theorem content_eq_seq {v : Val} {cs : ContentList} (h : v.content = .seq cs) :
    ∃ ty xs, v = .list ty xs ∧ ValList.content xs = cs := by
  cases v with
  | list ty xs => simp only [Val.content, Content.seq.injEq] at h; exact ⟨ty, xs, rfl, h⟩
  | obj ty vs => cases ty <;> simp [Val.content] at h
  | _ => simp [Val.content] at h

theorem content_eq_entries {v : Val} {ces : ContentEntries} (h : v.content = .entries ces) :
    ∃ ty es, v = .map ty es ∧ EntryList.content es = ces := by
  cases v with
  | map ty es => simp only [Val.content, Content.entries.injEq] at h; exact ⟨ty, es, rfl, h⟩
  | obj ty vs => cases ty <;> simp [Val.content] at h
  | _ => simp [Val.content] at h

theorem content_eq_fields {v : Val} {cf : ContentFields} (h : v.content = .fields cf) :
    ∃ fs vs, v = .obj (.obj fs) vs ∧ ValList.fieldContent fs vs = cf := by
  cases v with
  | obj ty vs =>
    cases ty <;> simp only [Val.content, reduceCtorEq] at h
    next fs => exact ⟨fs, vs, rfl, by simpa using h⟩
  | _ => simp [Val.content] at h

theorem entries_find : ∀ (es : EntryList) (t : Kind) (k : String) (c : Content),
    (EntryList.content es).keysNodup = true → ((t, k), c) ∈ (EntryList.content es).toList →
    ∃ x, es.find? t k = some x ∧ x.content = c
  | .nil, _, _, _, _, h => by simp [EntryList.content, ContentEntries.toList] at h
  | .cons t' k' v es, t, k, c, hn, h => by
    simp only [EntryList.content, ContentEntries.keysNodup, Bool.and_eq_true,
      Bool.not_eq_true'] at hn
    simp only [EntryList.content, ContentEntries.toList, List.mem_cons, Prod.mk.injEq] at h
    simp only [EntryList.find?]
    rcases h with ⟨⟨rfl, rfl⟩, rfl⟩ | h
    · exact ⟨v, by simp, rfl⟩
    · have hk := (hasKey_eq_true_iff _ t k).2 (List.mem_map.2 ⟨_, h, rfl⟩)
      have hne : ¬ (t' = t ∧ k' = k) := by
        rintro ⟨rfl, rfl⟩; rw [hn.1] at hk; cases hk
      rw [if_neg hne]
      exact entries_find es t k c hn.2 h

theorem fieldContent_get : ∀ (fs : FieldList) (vs : ValList) (n : String) (c : Content),
    fs.names.Nodup → (n, c) ∈ (ValList.fieldContent fs vs).toList →
    ∃ x, objGet? (.obj fs) vs n = some x ∧ x.content = c := by
  intro fs vs n c hnd h
  rw [← zip_fieldContent] at h
  obtain ⟨⟨n', x⟩, hm, he⟩ := List.mem_map.1 h
  cases he
  exact ⟨x, mem_objGet?_of_nodup fs vs n' x hnd hm, rfl⟩

theorem envContents_fst (env : List (String × Val)) :
    (envContents env).map Prod.fst = env.map Prod.fst := by
  simp [envContents, List.map_map, Function.comp_def]

theorem lookup_of_envContents {env : List (String × Val)} {cs : List (String × Content)}
    (he : envContents env = cs) (hnd : (cs.map Prod.fst).Nodup) {n : String} {c : Content}
    (hm : (n, c) ∈ cs) : ∃ v, lookupVal env n = some v ∧ v.content = c := by
  subst he
  rw [envContents_fst] at hnd
  simp only [envContents, List.mem_map, Prod.mk.injEq] at hm
  obtain ⟨⟨n', v⟩, hmem, rfl, rfl⟩ := hm
  exact ⟨v, (lookupVal_eq_some_iff hnd n' v).2 hmem, rfl⟩

theorem envNorm_of_distinct : ∀ cs : List (String × Content),
    (∀ p ∈ cs, p.2.distinctKeys = true) → envNorm cs = cs := by
  intro cs h
  refine (List.map_congr_left fun p hp => ?_).trans (List.map_id' cs)
  rw [norm_of_distinct p.2 (h p hp)]

/-- `valOf` refuses a struct with two fields of one tag name -/
theorem valEnvOf_struct_nodup {g : GoVal} {env : List (String × Val)}
    (h : valEnvOf g = .ok env) (hrm : reflectMap g = .notMap) : (env.map Prod.fst).Nodup := by
  rcases valEnvOf_ok h with ⟨_, rfl⟩ | ⟨_, ⟨es, hes, _⟩ | ⟨_, fs, vs, hx, rfl⟩⟩
  · exact List.nodup_nil
  · rw [hrm] at hes; cases hes
  · have hw := valOf_wf hx
    simp only [WF, Ty.wf, Bool.and_eq_true] at hw
    exact (wfFields_nodup fs hw.1).sublist (map_fst_zip_sublist _ _)

def stringKeys : GoEntryList → Option (List String)
  | .nil => some []
  | .cons (.string s) _ es => (stringKeys es).map (s :: ·)
  | .cons _ _ _ => none

theorem keys_of_stringKeys : ∀ (es : GoEntryList) (ks : List String) (ces : ContentEntries),
    stringKeys es = some ks → GoEntryList.content es = some ces →
    ces.toList.map Prod.fst = ks.map fun s => (Kind.str, Num.quote s)
  | .nil, ks, ces, hs, hc => by cases hs; cases hc; rfl
  | .cons k v es, ks, ces, hs, hc => by
    cases k <;> simp only [stringKeys, Option.map_eq_some_iff, reduceCtorEq] at hs
    next s =>
    obtain ⟨ks', hks', rfl⟩ := hs
    simp only [GoEntryList.content, GoVal.content, Option.bind, Content.key?] at hc
    split at hc
    · next tag key c r htk _ hr =>
      cases hc; cases htk
      simp only [ContentEntries.toList, List.map_cons, keys_of_stringKeys es ks' r hks' hr]
    · cases hc

theorem valEnvOf_content {g : GoVal} {env : List (String × Val)} (h : valEnvOf g = .ok env) :
    ∃ cs, g.envContent = some cs ∧ envContents env = envNorm cs := by
  unfold GoVal.envContent
  rcases valEnvOf_ok h with ⟨rfl, rfl⟩ | ⟨hne, ⟨es, hrm, h⟩ | ⟨hrm, fs, vs, hx, rfl⟩⟩
  · exact ⟨[], rfl, rfl⟩
  · simp only [hrm]
    exact valEnvOfMap_content es env h
  · obtain ⟨c, hc, ec⟩ := valOf_content hx
    simp only [Val.content] at ec
    obtain ⟨cf, rfl, hcf⟩ := norm_eq_fields ec.symm
    refine ⟨cf.toList, ?_, ?_⟩
    · simp only [hrm, hc]
    · rw [zip_fieldContent, ← hcf, toList_normFields]

theorem stringKeys_nodup (es : GoEntryList) (ks : List String) (ces : ContentEntries)
    (hs : stringKeys es = some ks) (hnd : ks.Nodup) (hc : GoEntryList.content es = some ces) :
    ces.keysNodup = true := by
  rw [keysNodup_eq_true_iff, keys_of_stringKeys es ks ces hs hc]
  exact hnd.map _ fun a b hab h => hab (Num.quote_injective (Prod.mk.inj h).2)

end Yae.ConvVal
