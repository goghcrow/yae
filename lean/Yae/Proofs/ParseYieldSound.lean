/-
  C08: every tree the parser returns yields the tokens it consumed
  (`Big env (.expr rbp i (t, j)) → Yields env t i j`, …; induction on the derivation).
-/
import Yae.Proofs.ParseBig
namespace Yae

theorem PEnv.lt_of_prefix {env : PEnv} (hE : env.NoEOF) {i : Nat} {r : BP × Nud}
    (h : tableLookup (env.peek i).kind env.g.prefixs = some r) : i < env.toks.size :=
  Nat.lt_of_not_le fun hi => by rw [env.peek_ge hi, hE.1] at h; cases h

theorem PEnv.lt_of_infix {env : PEnv} (hE : env.NoEOF) {i : Nat} {r : BP × Led}
    (h : tableLookup (env.peek i).kind env.g.infixs = some r) : i < env.toks.size :=
  Nat.lt_of_not_le fun hi => by rw [env.peek_ge hi, hE.2] at h; cases h

def CallHead (env : PEnv) (c : Expr) (k : Nat) : Prop :=
  (∃ bp, env.ledAt k bp .call) ∨ (c.isMember = true ∧ env.kindAt k "(")

/-- `t = env.peek k`, `i = k + 1`: the token the `nud` / `led` / call was entered on is the one at `k` -/
def ParseJudgement.Y (env : PEnv) : ParseJudgement → Prop
  | .nud t i bp n e j => ∀ k, env.nudAt k bp n → t = env.peek k → i = k + 1 → Yields env e k j
  | .led l t i bp d e j => ∀ i0 k, Yields env l i0 k → env.ledAt k bp d → t = env.peek k →
      i = k + 1 → Yields env e i0 j
  | .expr _ i r => Yields env r.1 i r.2
  | .infx l _ i r => ∀ i0, Yields env l i0 i → Yields env r.1 i0 r.2
  | .call c t i r => ∀ i0 k, Yields env c i0 k → CallHead env c k → t = env.peek k → i = k + 1 →
      Yields env r.1 i0 r.2
  | .args acc i r => ∃ new, r.1.reverse = acc.reverse ++ new ∧ YSeq env new i r.2
  | .list acc i r => ∃ new, r.1.reverse = acc.reverse ++ new ∧ YElems env new i r.2
  | .map acc i r => ∃ new, r.1.reverse = acc.reverse ++ new ∧ YPairs env new i r.2
  | .obj acc i r => ∃ new, r.1.reverse = acc.reverse ++ new ∧ YFields env new i r.2

theorem Big.yields {env : PEnv} (hE : env.NoEOF) {J : ParseJudgement} (h : Big env J) : J.Y env := by
  induction h <;> simp only [ParseJudgement.Y] at *
  case ident => rintro k hn rfl rfl; exact .ident hn
  case true_ => rintro k hn rfl rfl; exact .true_ hn
  case false_ => rintro k hn rfl rfl; exact .false_ hn
  case num hv => rintro k hn rfl rfl; exact .num hn hv
  case str hv => rintro k hn rfl rfl; exact .str hn hv
  case time he => rintro k hn rfl rfl; exact .time hn he
  case group hk hr ih => rintro k hn rfl rfl; exact .group hn ih hk hr
  case pre hr ih => rintro k hn rfl rfl; exact .pre hn ih hr
  case emptyMap hc hk hr => rintro k hn rfl rfl; exact .emptyMap hn hc hk hr
  case emptyList hk hr => rintro k hn rfl rfl; exact .list (es := []) hn .nil hk hr
  case list1 hk hr ih => rintro k hn rfl rfl; exact .list hn (.one ih) hk hr
  case listN hc _ hk hr ih1 ih2 =>
    rintro k hn rfl rfl
    obtain ⟨new, he, hy⟩ := ih2
    rw [he]
    exact .list hn (.cons ih1 hc hy) hk hr
  case map1 hc _ hk hr ih1 ih2 =>
    rintro k hn rfl rfl; exact .map hn (.one ih1 hc ih2) (by simp) hk hr
  case mapN hc _ hcm _ hk hr ih1 ih2 ih3 =>
    rintro k hn rfl rfl
    obtain ⟨new, he, hy⟩ := ih3
    rw [he]
    exact .map hn (.cons ih1 hc ih2 hcm hy) (by simp) hk hr
  case obj hk hr ih =>
    rintro k hn rfl rfl
    obtain ⟨new, he, hy⟩ := ih
    rw [he]
    exact .obj hn hy hk hr
  case binary hfx _ hr ih => rintro i0 k hl hd rfl rfl; exact .binary hl hd hfx ih hr
  case post hr => rintro i0 k hl hd rfl rfl; exact .post hl hd hr
  case ternary hk _ hr ih1 ih2 => rintro i0 k hl hd rfl rfl; exact .ternary hl hd ih1 hk ih2 hr
  case call ih => rintro i0 k hl hd rfl rfl; exact ih _ _ hl (.inl ⟨_, hd⟩) rfl rfl
  case subscript hk hr ih => rintro i0 k hl hd rfl rfl; exact .subscript hl hd ih hk hr
  case member hr hp =>
    rintro i0 k hl hd rfl rfl
    by_cases hi : k + 1 < env.toks.size
    · rw [env.adv_lt hi]
      exact .member hl hd hi hr
    · -- the name is `lexer.EOF`, nothing is consumed for it
      have hpk : env.peek (k + 1) = eofToken := by unfold PEnv.peek; rw [dif_neg hi]
      rw [env.adv_ge (Nat.le_of_not_lt hi)]
      rw [hpk] at hr ⊢
      exact .memberEOF hl hd (by have := hd.1; omega) hr
  case methodCall hr hp _ ih =>
    rintro i0 k hl hd rfl rfl
    have hi : k + 1 < env.toks.size := Nat.lt_of_not_le fun hge => by
      have := hp.2
      rw [env.adv_ge hge, env.peek_ge hge] at this
      exact absurd this (by decide)
    rw [env.adv_lt hi] at hp ih
    exact ih _ _ (.member hl hd hi hr) (.inr ⟨rfl, hp⟩) rfl rfl
  case mk hl _ _ ih1 ih2 =>
    have hi := PEnv.lt_of_prefix hE hl
    exact ih2 _ (ih1 _ ⟨hi, hl⟩ rfl (env.adv_lt hi))
  case istop => exact fun _ hl => hl
  case istep hl _ _ _ ih1 ih2 =>
    have hi := PEnv.lt_of_infix hE hl
    exact fun i0 h => ih2 _ (ih1 _ _ h ⟨hi, hl⟩ rfl (env.adv_lt hi))
  case cnil hk hr =>
    rintro i0 k hc (⟨bp, hd⟩ | ⟨hm, hp⟩) rfl rfl
    · exact .call hc hd .nil hk hr
    · exact .methodCall hc hm hp .nil hk hr
  case cargs hk hr ih =>
    obtain ⟨new, he, hy⟩ := ih
    rw [he]
    rintro i0 k hc (⟨bp, hd⟩ | ⟨hm, hp⟩) rfl rfl
    · exact .call hc hd (.some hy) hk hr
    · exact .methodCall hc hm hp (.some hy) hk hr
  case aone a _ _ _ ih | lone a _ _ _ _ ih => exact ⟨[a], by simp, .one ih⟩
  case acons a _ _ _ hc _ ih1 ih2 | lcons a _ _ _ _ hc _ ih1 ih2 =>
    obtain ⟨new, he, hy⟩ := ih2
    exact ⟨a :: new, by simp [he], .cons ih1 hc hy⟩
  case lnil | mnil | onil => exact ⟨[], by simp, .nil⟩
  case mone a _ v _ _ _ hc _ _ ih1 ih2 => exact ⟨[(a, v)], by simp, .one ih1 hc ih2⟩
  case mcons a _ v _ _ _ _ hc _ hcm _ ih1 ih2 ih3 =>
    obtain ⟨new, he, hy⟩ := ih3
    exact ⟨(a, v) :: new, by simp [he], .cons ih1 hc ih2 hcm hy⟩
  case oone hn hc _ _ ih => exact ⟨[_], by simp, .one hn hc ih⟩
  case ocons hn hc _ hcm _ ih1 ih2 =>
    obtain ⟨new, he, hy⟩ := ih2
    exact ⟨_ :: new, by simp [he], .cons hn hc ih1 hcm hy⟩

theorem parseWith_yields {fuel : Nat} {ops : List Operator}
    {times : List (String × Int)} {toks : List Token} (hE : PEnv.NoEOF (mkEnv ops times toks))
    {t : Expr} (h : parseWith fuel ops times toks = .ok t) :
    ∃ j, Yields (mkEnv ops times toks) t 0 j ∧ ((mkEnv ops times toks).peek j).kind = tkEOF :=
  have ⟨j, h1, h2⟩ := parseWith_ok_iff.mp h
  ⟨j, ((big_of_fuel _ fuel).exprB h1).yields hE, h2⟩

end Yae
