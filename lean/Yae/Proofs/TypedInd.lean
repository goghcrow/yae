/-
  One motive for `Typed` and its four list forms: the five recursors of the mutual block applied to
  the motives `fun e T h => motive (.expr e T) h`, …, so that a fact about all five forms is one
  induction on the derivation.  The statement is the one Lean infers (`#check @TypedKind.Holds.induct`):
  one premise per rule of `Typing.lean`, in the order of that file, named after the rule (`enil
  econs`, `pnil pcons`, `fnil fcons`, `anil acons` for the list forms).  A premise binds the hypotheses of its rule
  in the order written there, then the induction hypotheses of those among them that are derivations, in the same
  order (`callFn`: five hypotheses, then the hypothesis for the arguments, then the one for the callee).
-/
import Yae.Spec.Typing
namespace Yae

inductive TypedKind where
  | expr (e : Expr) (T : Ty)
  | elems (es : ExprList) (T : Ty)
  | pairs (ps : PairList) (K V : Ty)
  | fields (fs : FieldEList) (Fs : FieldList)
  | args (es : ExprList) (Ts : TyList)

namespace TypedKind

def Holds (Γ : TEnv) : TypedKind → Prop
  | .expr e T => Typed Γ e T
  | .elems es T => TypedElems Γ es T
  | .pairs ps K V => TypedPairs Γ ps K V
  | .fields fs Fs => TypedFields Γ fs Fs
  | .args es Ts => TypedArgs Γ es Ts

namespace Holds
set_option linter.defProp false

def induct {Γ : TEnv} {motive : (K : TypedKind) → K.Holds Γ → Prop} :=
  fun str num time bool listNil listCons mapNil mapCons obj ident subList subMap member callMono
      callPoly callFn enil econs pnil pcons fnil fcons anil acons {K} (h : K.Holds Γ) =>
    show motive K h from
    match K, h with
    | .expr _ _, h => @Typed.rec Γ (fun e T h => motive (.expr e T) h)
      (fun es T h => motive (.elems es T) h) (fun ps K V h => motive (.pairs ps K V) h)
      (fun fs Fs h => motive (.fields fs Fs) h) (fun es Ts h => motive (.args es Ts) h)
      str num time bool listNil listCons mapNil mapCons obj ident subList subMap member callMono
      callPoly callFn enil econs pnil pcons fnil fcons anil acons _ _ h
    | .elems _ _, h => @TypedElems.rec Γ (fun e T h => motive (.expr e T) h)
      (fun es T h => motive (.elems es T) h) (fun ps K V h => motive (.pairs ps K V) h)
      (fun fs Fs h => motive (.fields fs Fs) h) (fun es Ts h => motive (.args es Ts) h)
      str num time bool listNil listCons mapNil mapCons obj ident subList subMap member callMono
      callPoly callFn enil econs pnil pcons fnil fcons anil acons _ _ h
    | .pairs _ _ _, h => @TypedPairs.rec Γ (fun e T h => motive (.expr e T) h)
      (fun es T h => motive (.elems es T) h) (fun ps K V h => motive (.pairs ps K V) h)
      (fun fs Fs h => motive (.fields fs Fs) h) (fun es Ts h => motive (.args es Ts) h)
      str num time bool listNil listCons mapNil mapCons obj ident subList subMap member callMono
      callPoly callFn enil econs pnil pcons fnil fcons anil acons _ _ _ h
    | .fields _ _, h => @TypedFields.rec Γ (fun e T h => motive (.expr e T) h)
      (fun es T h => motive (.elems es T) h) (fun ps K V h => motive (.pairs ps K V) h)
      (fun fs Fs h => motive (.fields fs Fs) h) (fun es Ts h => motive (.args es Ts) h)
      str num time bool listNil listCons mapNil mapCons obj ident subList subMap member callMono
      callPoly callFn enil econs pnil pcons fnil fcons anil acons _ _ h
    | .args _ _, h => @TypedArgs.rec Γ (fun e T h => motive (.expr e T) h)
      (fun es T h => motive (.elems es T) h) (fun ps K V h => motive (.pairs ps K V) h)
      (fun fs Fs h => motive (.fields fs Fs) h) (fun es Ts h => motive (.args es Ts) h)
      str num time bool listNil listCons mapNil mapCons obj ident subList subMap member callMono
      callPoly callFn enil econs pnil pcons fnil fcons anil acons _ _ h

end Holds
end TypedKind

end Yae
