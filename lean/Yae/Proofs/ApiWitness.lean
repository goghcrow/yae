/-
  For `Yae/Props/Api.lean`:

  * sufficient, purely syntactic conditions for `LateOK`: the history never selects
    `interp.Interp`; the history registers polymorphic functions only;
  * the WITNESS that `LateOK` cannot be dropped: `histBad` — select `interp.Interp`, compile
    `!true` (inferred type `bool`), register a host function `!(bool) : str` (a respectful one:
    it returns a string, as its signature says), invoke the Callable: it returns the STRING
    `"oops"`;
  * the histories on which the property files show their hypotheses satisfiable, `histGood` and
    `histGoodLate`; they stand here because `EngineVmWitness` runs `histGood` too.
-/
import Yae.Proofs.ApiSound
import Yae.Proofs.EngineWitness
namespace Yae.Api
open Yae Yae.EngineHistory Yae.EngineCheck Yae.EngineWitness

theorem early_effect (e : Engine) (op : Op) (h : e.backend.late = false)
    (hop : ∀ b, op = .useCompiler b → b.late = false) : (effect e op).backend.late = false := by
  cases op with
  | registerFun d =>
    show (e.registerFun d).backend.late = false
    rw [registerFun_eq]; exact h
  | useCompiler b => exact hop b rfl
  | compile times tenv src => exact (init_backend e ▸ h :)
  | _ => exact h

theorem lateOK_of_early {e : Engine} (he : e.backend.late = false) {ops : List Op}
    (h : ∀ b, Op.useCompiler b ∈ ops → b.late = false) : LateOK e ops := by
  intro i k venv ext c _ _ hk hl
  obtain ⟨times, tenv, src, _, hc⟩ := run_callable hk
  rw [(compile_callable hc).2.2.1, foldl_keeps early_effect (ops.take k) he
    fun op hm b hb => h b (hb ▸ List.mem_of_mem_take hm)] at hl
  cases hl

/-- a polymorphic registration registers no monomorphic key at all (`noMonoClash_of_poly`) -/
theorem lateOK_of_poly {e : Engine} {ops : List Op}
    (h : ∀ d, Op.registerFun d ∈ ops → d.key.2 = false) : LateOK e ops := by
  intro i k venv ext c _ _ _ _
  exact noMonoClash_of_poly
    (fun d hd => h d (List.mem_of_mem_take (List.mem_of_mem_drop (mem_regs hd).1))) _

def hostNotStr : FunDecl := ⟨.fn "!" (.cons .bool .nil) .str, .host "!" (.constStr "oops"), false⟩

theorem hostNotStr_ok : Sound.declOK hostNotStr = true := by decide

def histBad : List Op :=
  [.useCompiler .interp, .compile [] [] "!true", .registerFun hostNotStr, .invoke 1 [] {}]

theorem bad_run : ∃ p col cp bp, (Engine.new.run histBad).2 =
    [.done,
     .compiled (.ok ⟨[], .bool, notTrue p col cp bp, builtinDecls, .interp⟩),
     .done,
     .result (.ok (.str "oops"), [.call "!" [(Val.bool true).render]])] := by
  obtain ⟨p, col, cp, bp, hc⟩ :=
    compile_not (e := Engine.new.useCompiler .interp) rfl builtin_not rfl (b := .interp) rfl
  have hm' : lookupMono ((Engine.new.useCompiler .interp).init.registerFun hostNotStr).funs
      "λ ! (bool)" = some hostNotStr := by
    rw [show ((Engine.new.useCompiler .interp).init.registerFun hostNotStr).funs =
      builtinDecls ++ [hostNotStr] from rfl, lookupMono_append]; rfl
  refine ⟨p, col, cp, bp, ?_⟩
  rw [Engine.run, histBad, runFrom_cons (e' := Engine.new.useCompiler .interp) (o := .done) rfl,
    runFrom_cons (step_compile hc _),
    runFrom_cons (e' := (Engine.new.useCompiler .interp).init.registerFun hostNotStr) (o := .done)
      rfl,
    runFrom_cons (step_invoke rfl _ _ _), Engine.runFrom,
    invoke_nil (c := ⟨[], .bool, notTrue p col cp bp, _, .interp⟩) rfl
      (run_hostTrue rfl (resolveStatic_mono hm') rfl p col cp bp _ _)]
  rfl

theorem histBad_opsOK : OpsOK histBad := by
  intro op hop
  simp only [histBad, List.mem_cons, List.not_mem_nil, or_false] at hop
  rcases hop with rfl | rfl | rfl | rfl
  · trivial
  · intro p hp; cases hp
  · intro _; exact hostNotStr_ok
  · trivial

theorem histBad_venvs : ∀ k venv ext, Op.invoke k venv ext ∈ histBad →
    ∀ p ∈ venv, Sound.WF p.2 = true := by
  intro k venv ext hop
  simp only [histBad, List.mem_cons, List.not_mem_nil, or_false, reduceCtorEq, false_or,
    Op.invoke.injEq] at hop
  obtain ⟨_, rfl, _⟩ := hop
  intro p hp; cases hp

theorem histBad_not_lateTyOK : ¬ LateTyOK Engine.new histBad := by
  intro hl
  obtain ⟨p, col, cp, bp, hrun⟩ := bad_run
  have hk : (Engine.new.run histBad).2[1]? =
      some (.compiled (.ok ⟨[], .bool, notTrue p col cp bp, builtinDecls, .interp⟩)) := by
    rw [hrun]; rfl
  have h := hl 3 1 [] {} _ rfl (by decide) hk rfl
  have hreg : regsBetween histBad 1 3 = [hostNotStr] := by rfl
  rw [hreg] at h
  simp only [SameTyClash, notTrue, EngineEval.All] at h
  have hne : ("λ ! (bool)" == "") = false := by decide
  rw [hne] at h
  have h1 : Ty.fn "!" (.cons .bool .nil) .str = Ty.fn "!" (.cons .bool .nil) .bool :=
    h.1 (by decide) hostNotStr (by rfl) builtinNot builtin_not
  cases h1

end Yae.Api

namespace Yae.ApiProps
open Yae Yae.Api Yae.EngineCheck

/-- Non-vacuity, the history `histGood`: register a polymorphic host `string(a) : str`, compile
`x + 1` with `x : num`, invoke with `x = 1`, invoke again with `x` missing -/
def histGood : List Op :=
  [.registerFun EngineWitness.hostString,
   .compile [] [("x", .num)] "x + 1",
   .invoke 1 [("x", .num 1)] {},
   .invoke 1 [] {}]

/-- `histGood` satisfies the hypotheses of `api_sound` (conjuncts 1, 2, 3, 5) and of `api_sound_early`
(conjuncts 1 to 4), written out as those theorems state them -/
theorem histGood_hyps :
    (∀ d, Op.registerFun d ∈ histGood → (∃ n ps r, d.ty = .fn n ps r) → Sound.declOK d = true) ∧
    (∀ times tenv src, Op.compile times tenv src ∈ histGood →
      ∀ p ∈ tenv, p.2.wf = true ∧ slotFree p.2 = true) ∧
    (∀ k venv ext, Op.invoke k venv ext ∈ histGood → ∀ p ∈ venv, Sound.WF p.2 = true) ∧
    (∀ b, Op.useCompiler b ∈ histGood → b.late = false) ∧
    LateOK Engine.new histGood := by
  have hearly : ∀ b, Op.useCompiler b ∈ histGood → b.late = false := by
    intro b hb
    simp [histGood] at hb
  refine ⟨fun d hd _ => ?_, fun times tenv src hc p hp => ?_, fun k venv ext hi p hp => ?_,
    hearly, lateOK_of_early rfl hearly⟩
  · simp only [histGood, List.mem_cons, List.not_mem_nil, or_false, reduceCtorEq,
      Op.registerFun.injEq] at hd
    subst hd
    decide
  · simp only [histGood, List.mem_cons, List.not_mem_nil, or_false, reduceCtorEq, false_or,
      Op.compile.injEq] at hc
    obtain ⟨_, rfl, _⟩ := hc
    simp only [List.mem_singleton] at hp
    subst hp
    exact ⟨rfl, rfl⟩
  · simp only [histGood, List.mem_cons, List.not_mem_nil, or_false, reduceCtorEq, false_or,
      Op.invoke.injEq] at hi
    rcases hi with ⟨_, rfl, _⟩ | ⟨_, rfl, _⟩
    · simp only [List.mem_singleton] at hp
      subst hp
      rfl
    · cases hp

/-- a history with `interp.Interp` AND a registration after the compilation that satisfies
`LateOK` (through `lateOK_of_poly`): the registered function is polymorphic -/
def histGoodLate : List Op :=
  [.useCompiler .interp, .compile [] [] "string(true)", .registerFun EngineWitness.hostString,
   .invoke 1 [] {}]

end Yae.ApiProps
