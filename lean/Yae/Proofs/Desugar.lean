/-
  Lemmas about `Yae.desugar` (model of `trans.Desugar`) for property C10.  `Expr.eraseAtt`, `Expr.noMemberCallee`,
  `Expr.noGroupMemberCallee` occur in the statements of C10.  A name in `_all` is the conjunction over the four
  mutual forms.

  All inductions over trees go through `desugar.mutual_induct`; its two `call` cases are exactly the two `call`
  equations of `desugar` ("callee is directly a `Member`" and "callee is anything else"), and
  `simp only [desugar, *]` rewrites with the second one because the case's hypothesis discharges its side
  condition.  The principle names its cases by the position of the equation in `desugar`: the two `call`
  equations are the twelfth and thirteenth, so `case13` is "callee is anything else".
-/
import Yae.Model.Desugar
namespace Yae

theorem isMember_false_of_forall {callee : Expr}
    (h : ∀ (p : Pos) (col : Int) (o : Expr) (f : String) (fp : Pos) (objTy : Option Ty)
      (index : Int), callee = Expr.member p col o f fp objTy index → False) :
    callee.isMember = false := by
  cases callee <;> first | rfl | exact (h _ _ _ _ _ _ _ rfl).elim

theorem desugarList_length (es : ExprList) : (desugarList es).length = es.length := by
  match es with
  | .nil => rfl
  | .cons e es => simp only [desugarList, ExprList.length, desugarList_length es]

theorem desugar_isCore_all :
    (∀ e : Expr, (desugar e).isCore = true) ∧
    (∀ fs : FieldEList, isCoreFields (desugarFields fs) = true) ∧
    (∀ ps : PairList, isCorePairs (desugarPairs ps) = true) ∧
    (∀ es : ExprList, isCoreList (desugarList es) = true) := by
  apply desugar.mutual_induct
  all_goals
    intros
    simp only [desugar, desugarList, desugarPairs, desugarFields, Expr.isCore, isCoreList,
      isCorePairs, isCoreFields, Bool.and_self, *]

mutual
/-- Erase the checker attachments (`Type`, `VarType`, `ObjType`, `CalleeType` := nil,
`Resolved` := "", `Index` := -1), keep everything else. -/
def Expr.eraseAtt : Expr → Expr
  | .str p v => .str p v
  | .num p v => .num p v
  | .time p v => .time p v
  | .bool p v => .bool p v
  | .ident p n => .ident p n
  | .list p es _ => .list p (eraseAttList es) none
  | .map p ps _ => .map p (eraseAttPairs ps) none
  | .obj p fs _ => .obj p (eraseAttFields fs) none
  | .call p col c as _ _ _ => .call p col c.eraseAtt (eraseAttList as) none "" (-1)
  | .subscript p col v i _ => .subscript p col v.eraseAtt i.eraseAtt none
  | .member p col o f fp _ _ => .member p col o.eraseAtt f fp none (-1)
  | .unary p n np e pre => .unary p n np e.eraseAtt pre
  | .binary p n np fx l r => .binary p n np fx l.eraseAtt r.eraseAtt
  | .ternary p n np l m r => .ternary p n np l.eraseAtt m.eraseAtt r.eraseAtt
  | .group p e => .group p e.eraseAtt
def eraseAttList : ExprList → ExprList
  | .nil => .nil
  | .cons e es => .cons e.eraseAtt (eraseAttList es)
def eraseAttPairs : PairList → PairList
  | .nil => .nil
  | .cons k v ps => .cons k.eraseAtt v.eraseAtt (eraseAttPairs ps)
def eraseAttFields : FieldEList → FieldEList
  | .nil => .nil
  | .cons n e fs => .cons n e.eraseAtt (eraseAttFields fs)
end

mutual
def Expr.noMemberCallee : Expr → Bool
  | .list _ es _ => noMemberCalleeList es
  | .map _ ps _ => noMemberCalleePairs ps
  | .obj _ fs _ => noMemberCalleeFields fs
  | .call _ _ c as _ _ _ => !c.isMember && c.noMemberCallee && noMemberCalleeList as
  | .subscript _ _ v i _ => v.noMemberCallee && i.noMemberCallee
  | .member _ _ o _ _ _ _ => o.noMemberCallee
  | .unary _ _ _ e _ => e.noMemberCallee
  | .binary _ _ _ _ l r => l.noMemberCallee && r.noMemberCallee
  | .ternary _ _ _ l m r => l.noMemberCallee && m.noMemberCallee && r.noMemberCallee
  | .group _ e => e.noMemberCallee
  | _ => true
def noMemberCalleeList : ExprList → Bool
  | .nil => true
  | .cons e es => e.noMemberCallee && noMemberCalleeList es
def noMemberCalleePairs : PairList → Bool
  | .nil => true
  | .cons k v ps => k.noMemberCallee && v.noMemberCallee && noMemberCalleePairs ps
def noMemberCalleeFields : FieldEList → Bool
  | .nil => true
  | .cons _ e fs => e.noMemberCallee && noMemberCalleeFields fs
end

theorem desugar_core_fixed_all :
    (∀ e : Expr, e.isCore = true → e.noMemberCallee = true → desugar e = e.eraseAtt) ∧
    (∀ fs : FieldEList, isCoreFields fs = true → noMemberCalleeFields fs = true →
      desugarFields fs = eraseAttFields fs) ∧
    (∀ ps : PairList, isCorePairs ps = true → noMemberCalleePairs ps = true →
      desugarPairs ps = eraseAttPairs ps) ∧
    (∀ es : ExprList, isCoreList es = true → noMemberCalleeList es = true →
      desugarList es = eraseAttList es) := by
  apply desugar.mutual_induct
  -- the sugar nodes and the call of a bare `Member` contradict the hypotheses
  all_goals
    intros
    rename_i hc hn
    simp only [Expr.isCore, isCoreList, isCorePairs, isCoreFields, Expr.noMemberCallee,
      noMemberCalleeList, noMemberCalleePairs, noMemberCalleeFields, Expr.isMember,
      Bool.and_eq_true, Bool.not_eq_true', Bool.false_eq_true, Bool.true_eq_false, false_and]
      at hc hn
  all_goals
    simp_all only [desugar, desugarList, desugarPairs, desugarFields, Expr.eraseAtt,
      eraseAttList, eraseAttPairs, eraseAttFields, forall_const]

theorem eraseAtt_desugar_all :
    (∀ e : Expr, (desugar e).eraseAtt = desugar e) ∧
    (∀ fs : FieldEList, eraseAttFields (desugarFields fs) = desugarFields fs) ∧
    (∀ ps : PairList, eraseAttPairs (desugarPairs ps) = desugarPairs ps) ∧
    (∀ es : ExprList, eraseAttList (desugarList es) = desugarList es) := by
  apply desugar.mutual_induct
  all_goals
    intros
    simp only [desugar, desugarList, desugarPairs, desugarFields, Expr.eraseAtt, eraseAttList,
      eraseAttPairs, eraseAttFields, *]

/-! Finding D18: `(o.f)(x)` desugars to a call whose callee is the `Member` node `o.f` (the `Group` is dropped after
the method-call rule has been passed over), so a second `desugar` rewrites it to `f(o, x)`.  These are the only
`Member` callees in an output (`desugar_noMemberCallee_all`). -/

def Expr.stripGroups : Expr → Expr
  | .group _ e => e.stripGroups
  | e => e

def Expr.isGroupedMember : Expr → Bool
  | .group _ e => e.stripGroups.isMember
  | _ => false

mutual
def Expr.noGroupMemberCallee : Expr → Bool
  | .list _ es _ => noGroupMemberCalleeList es
  | .map _ ps _ => noGroupMemberCalleePairs ps
  | .obj _ fs _ => noGroupMemberCalleeFields fs
  | .call _ _ c as _ _ _ =>
      !c.isGroupedMember && c.noGroupMemberCallee && noGroupMemberCalleeList as
  | .subscript _ _ v i _ => v.noGroupMemberCallee && i.noGroupMemberCallee
  | .member _ _ o _ _ _ _ => o.noGroupMemberCallee
  | .unary _ _ _ e _ => e.noGroupMemberCallee
  | .binary _ _ _ _ l r => l.noGroupMemberCallee && r.noGroupMemberCallee
  | .ternary _ _ _ l m r =>
      l.noGroupMemberCallee && m.noGroupMemberCallee && r.noGroupMemberCallee
  | .group _ e => e.noGroupMemberCallee
  | _ => true
def noGroupMemberCalleeList : ExprList → Bool
  | .nil => true
  | .cons e es => e.noGroupMemberCallee && noGroupMemberCalleeList es
def noGroupMemberCalleePairs : PairList → Bool
  | .nil => true
  | .cons k v ps => k.noGroupMemberCallee && v.noGroupMemberCallee && noGroupMemberCalleePairs ps
def noGroupMemberCalleeFields : FieldEList → Bool
  | .nil => true
  | .cons _ e fs => e.noGroupMemberCallee && noGroupMemberCalleeFields fs
end

theorem Expr.stripGroups_isMember (e : Expr) :
    e.stripGroups.isMember = (e.isMember || e.isGroupedMember) := by
  cases e <;> rfl

theorem desugar_isMember : ∀ e : Expr, (desugar e).isMember = e.stripGroups.isMember
  | .group _ e => desugar_isMember e
  | .call _ _ c .. => by cases c <;> rfl
  | .str .. | .num .. | .time .. | .bool .. | .ident .. | .list .. | .map .. | .obj ..
  | .unary .. | .binary .. | .ternary .. | .subscript .. | .member .. => rfl

theorem desugar_noMemberCallee_all :
    (∀ e : Expr, (desugar e).noMemberCallee = e.noGroupMemberCallee) ∧
    (∀ fs : FieldEList, noMemberCalleeFields (desugarFields fs) = noGroupMemberCalleeFields fs) ∧
    (∀ ps : PairList, noMemberCalleePairs (desugarPairs ps) = noGroupMemberCalleePairs ps) ∧
    (∀ es : ExprList, noMemberCalleeList (desugarList es) = noGroupMemberCalleeList es) := by
  apply desugar.mutual_induct
  all_goals intros
  -- the callee is not a `Member`, so it is one afterwards iff it is a grouped one
  case case13 hm _ _ =>
    simp only [desugar, Expr.noMemberCallee, Expr.noGroupMemberCallee, desugar_isMember,
      Expr.stripGroups_isMember, isMember_false_of_forall hm, Bool.false_or, *]
  all_goals
    simp only [desugar, desugarList, desugarPairs, desugarFields, Expr.noMemberCallee,
      noMemberCalleeList, noMemberCalleePairs, noMemberCalleeFields, Expr.noGroupMemberCallee,
      noGroupMemberCalleeList, noGroupMemberCalleePairs, noGroupMemberCalleeFields, Expr.isMember,
      Expr.isGroupedMember, Bool.not_false, Bool.true_and, Bool.and_true, Bool.and_assoc, *]

end Yae
