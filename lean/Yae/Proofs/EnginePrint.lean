/-
  For C13: standard output is written by `print` only.  `noPrint funs e`: in the positions `eval` visits, every call
  of the tree is statically dispatched, to a declaration of `funs` that does not refer to the built-in `print`.
  Dynamically dispatched calls are excluded: which function such a call runs is decided by the run-time
  environment, not by the tree (EngineQuiet covers them).
-/
import Yae.Proofs.EvalWalk
namespace Yae.EngineEval
open Yae

def isPrint : Event → Bool
  | .print _ => true
  | _ => false

def Silent (l : List Event) : Prop := ∀ ev ∈ l, isPrint ev = false

mutual
def noPrint (funs : List FunDecl) : Expr → Bool
  | .list _ es _ => noPrintL funs es
  | .map _ ps _ => noPrintP funs ps
  | .obj _ fs _ => noPrintF funs fs
  | .call _ _ _ args _ resolved index =>
    (resolved != "") &&
    (match resolveStatic funs resolved index with
     | some d => !refPrints d.ref
     | none => true) &&
    noPrintL funs args
  | .subscript _ _ var idx _ => noPrint funs var && noPrint funs idx
  | .member _ _ obj _ _ _ _ => noPrint funs obj
  | _ => true
def noPrintL (funs : List FunDecl) : ExprList → Bool
  | .nil => true
  | .cons e es => noPrint funs e && noPrintL funs es
def noPrintP (funs : List FunDecl) : PairList → Bool
  | .nil => true
  | .cons k v ps => noPrint funs k && noPrint funs v && noPrintP funs ps
def noPrintF (funs : List FunDecl) : FieldEList → Bool
  | .nil => true
  | .cons _ e fs => noPrint funs e && noPrintF funs fs
end

def NoPrintAt (funs : List FunDecl) (r : String) (i : Int) : Prop :=
  ∀ d, resolveStatic funs r i = some d → refPrints d.ref = false

mutual
theorem noPrint_all (funs : List FunDecl) :
    ∀ e : Expr, noPrint funs e = true → All (fun _ => True) (NoPrintAt funs) False e
  | .str .., _ | .num .., _ | .time .., _ | .bool .., _ | .ident .., _ => trivial
  | .unary .., _ | .binary .., _ | .ternary .., _ | .group .., _ => trivial
  | .list _ es _, h => noPrintL_all funs es h
  | .map _ ps _, h => noPrintP_all funs ps h
  | .obj _ fs _, h => noPrintF_all funs fs h
  | .call _ _ _ args _ resolved index, h => by
    simp only [noPrint, Bool.and_eq_true, bne_iff_ne, ne_eq] at h
    refine ⟨?_, noPrintL_all funs args h.2⟩
    rw [if_neg (by simpa using h.1.1)]
    intro d hd
    simpa [hd] using h.1.2
  | .subscript _ _ var idx _, h => by
    simp only [noPrint, Bool.and_eq_true] at h
    exact ⟨noPrint_all funs var h.1, noPrint_all funs idx h.2⟩
  | .member _ _ obj _ _ _ _, h => noPrint_all funs obj h
termination_by structural e => e
theorem noPrintL_all (funs : List FunDecl) :
    ∀ es : ExprList, noPrintL funs es = true → AllL (fun _ => True) (NoPrintAt funs) False es
  | .nil, _ => trivial
  | .cons e es, h => by
    simp only [noPrintL, Bool.and_eq_true] at h
    exact ⟨noPrint_all funs e h.1, noPrintL_all funs es h.2⟩
termination_by structural es => es
theorem noPrintP_all (funs : List FunDecl) :
    ∀ ps : PairList, noPrintP funs ps = true → AllP (fun _ => True) (NoPrintAt funs) False ps
  | .nil, _ => trivial
  | .cons k v ps, h => by
    simp only [noPrintP, Bool.and_eq_true] at h
    exact ⟨noPrint_all funs k h.1.1, noPrint_all funs v h.1.2, noPrintP_all funs ps h.2⟩
termination_by structural ps => ps
theorem noPrintF_all (funs : List FunDecl) :
    ∀ fs : FieldEList, noPrintF funs fs = true → AllF (fun _ => True) (NoPrintAt funs) False fs
  | .nil, _ => trivial
  | .cons _ e fs, h => by
    simp only [noPrintF, Bool.and_eq_true] at h
    exact ⟨noPrint_all funs e h.1, noPrintF_all funs fs h.2⟩
termination_by structural fs => fs
end

theorem runEval_silent {dbg : Bool} {ρ : REnv} {e : Expr}
    (h : Silent (eval (e.depth + 1) dbg ρ e []).2) : Silent (runEval dbg ρ e).2 :=
  fun ev hev => h ev (List.mem_reverse.1 hev)

/-- A run compared with itself, the relation between the logs being "equal, and without a line of output".  That
relation does not survive a line of output, so `fn` and `dyn` are filled by their other alternative, that the
function called does not refer to `print`: `NoPrintAt` for the static calls; for function values it has to follow
from `good` (`hdyn`). -/
theorem quietWalk {good : Val → Prop} (G : ValInv good) (dbg : Bool) (ρ : REnv) {D : Prop}
    (hvar : ∀ x v, ρ.lookupVar x = some v → good v)
    (hdyn : D → ∀ ty ref isLazy, good (.fn ty ref isLazy) → refPrints ref = false) :
    Walk (fun l₁ l₂ => l₁ = l₂ ∧ Silent l₁) good dbg dbg ρ ρ (fun _ => True) (NoPrintAt ρ.funs) D where
  val := G
  ext := rfl
  call _ _ _ _ h := ⟨congrArg _ h.1, List.forall_mem_cons.2 ⟨rfl, h.2⟩⟩
  dbg _ _ _ _ h := by
    cases dbg
    · exact h
    · exact ⟨congrArg (List.cons _) h.1, List.forall_mem_cons.2 ⟨rfl, h.2⟩⟩
  var x _ := ⟨rfl, hvar x⟩
  fn _ _ h := ⟨rfl, fun d hd => .inr (h d hd)⟩
  dyn hD ty ref isLazy hg := .inr (hdyn hD ty ref isLazy hg)

/-- **only `print` prints**: evaluating a tree without a call of `print` (and without
dynamically dispatched calls) adds no line of standard output to the log -/
theorem eval_quiet (fuel : Nat) (dbg : Bool) (ρ : REnv) (e : Expr)
    (h : noPrint ρ.funs e = true) (log : List Event) (hl : Silent log) :
    Silent (eval fuel dbg ρ e log).2 :=
  ((quietWalk .top dbg ρ (D := False) (fun _ _ _ => trivial) nofun).eval fuel e
    (noPrint_all _ e h) log log ⟨rfl, hl⟩).2.1.2

end Yae.EngineEval
