/-
  The concrete history for `Yae/Props/EngineVm.lean`: register the host function `string(a) : str`, compile `x + 1`
  with `x : num` (the back end is `vm`, the default of `NewExpr`), invoke with `x = 1`, invoke with `x` missing.
  As in `EngineWitness` the kernel evaluates the front end on `"x + 1"`; the lookup of `+` in the function table is
  `builtin_plus`, and what the checker does on the call is `Yae.Sound.Example.check_plus`.  That the VM compiler
  does not refuse the tree follows in `Props/EngineVm.lean` from the size of the tree (`plusTree_small`).
-/
import Yae.Proofs.ApiWitness
import Yae.Proofs.EngineWitness
import Yae.Proofs.VmCheckedSmall
import Yae.Proofs.SoundnessExample
namespace Yae.EngVm
open Yae Yae.EngineHistory Yae.EngineWitness

/-- the detour of `EngineWitness.isCallTrue` / `front_elim` (`Expr` has no decidable equality), for the shape of `x + 1` -/
def isPlusX : Expr → Bool
  | .call _ _ (.ident _ g) (.cons (.ident _ y) (.cons (.num _ _) .nil)) _ _ _ => g == "+" && y == "x"
  | _ => false

theorem front_plus : (front builtinOps [] "x + 1").map isPlusX = some true := by
  decide +kernel

theorem front_plus_elim :
    ∃ p col cp xp np v cty res idx, front builtinOps [] "x + 1" =
      some (.call p col (.ident cp "+") (.cons (.ident xp "x") (.cons (.num np v) .nil))
        cty res idx) := by
  have h := front_plus
  cases hf : front builtinOps [] "x + 1" with
  | none => rw [hf] at h; cases h
  | some d =>
    rw [hf] at h
    simp only [Option.map_some, Option.some.injEq] at h
    unfold isPlusX at h
    split at h
    · next p col cp g xp y np v cty res idx =>
      simp only [Bool.and_eq_true, beq_iff_eq] at h
      exact ⟨p, col, cp, xp, np, v, cty, res, idx, by rw [h.1, h.2]⟩
    · cases h

def plusTy : Ty := .fn "+" (.cons .num (.cons .num .nil)) .num

def plusTree (p : Pos) (col : Int) (cp xp np : Pos) (v : Float) : Expr :=
  .call p col (.ident cp "+") (.cons (.ident xp "x") (.cons (.num np v) .nil)) (some plusTy)
    "λ + (num, num)" (-1)

theorem compile_plus {e : Engine} (hops : e.init.ops = builtinOps) {d : FunDecl}
    (hm : lookupMono e.init.funs "λ + (num, num)" = some d) (hty : d.ty = plusTy)
    {b : Backend} (hb : e.init.backend = b) :
    ∃ p col cp xp np v, (e.compile [] [("x", .num)] "x + 1").2 =
      .ok ⟨[("x", .num)], .num, plusTree p col cp xp np v, e.init.funs, b⟩ := by
  obtain ⟨p, col, cp, xp, np, v, cty, res, idx, hf⟩ := front_plus_elim
  have hx : check ⟨[("x", .num)], e.init.funs, reservedWords⟩ 0 (.ident xp "x") =
      .ok (.num, .ident xp "x", 0) :=
    check_ident (notReserved_short rfl) rfl
  exact ⟨p, col, cp, xp, np, v, compile_of_front (hops ▸ hf)
    (Sound.Example.check_plus hm hty hx rfl p col cp cty res idx) hb⟩

/-- the bounds under which `Yae.C03.compiles_small` excludes a refusal (at most 4095 nodes; no call of more than
255 arguments) -/
theorem plusTree_small (p : Pos) (col : Int) (cp xp np : Pos) (v : Float) :
    VmChk.argsOK (plusTree p col cp xp np v) = true ∧ VmChk.nodes (plusTree p col cp xp np v) ≤ 4095 := by
  refine ⟨?_, ?_⟩
  · simp [plusTree, VmChk.argsOK, VmChk.argsOKL, ExprList.length]
  · simp [plusTree, VmChk.nodes, VmChk.nodesL]

def histVm : List Op := Yae.ApiProps.histGood

def eng1 : Engine := Engine.new.registerFun hostString

theorem eng1_plus : lookupMono eng1.init.funs "λ + (num, num)" = some builtinPlus := by
  rw [show eng1.init.funs = [hostString] ++ builtinDecls from rfl, EngineCheck.lookupMono_append,
    builtin_plus]
  rfl

theorem histVm_run : ∃ p col cp xp np v r₂ r₃, (Engine.new.run histVm).2 =
    [.done, .compiled (.ok ⟨[("x", .num)], .num, plusTree p col cp xp np v, eng1.init.funs, .vm⟩),
      .result r₂, .result r₃] := by
  obtain ⟨p, col, cp, xp, np, v, hc⟩ := compile_plus (e := eng1) rfl eng1_plus rfl (b := .vm) rfl
  exact ⟨p, col, cp, xp, np, v, _, _, by
    rw [Engine.run, histVm, Yae.ApiProps.histGood, runFrom_cons (e' := eng1) (o := .done) rfl,
      runFrom_cons (step_compile hc _), runFrom_cons (step_invoke rfl _ _ _),
      runFrom_cons (step_invoke rfl _ _ _), Engine.runFrom]
    rfl⟩

theorem histVm_compiles : ∃ c, (Engine.new.run histVm).2[1]? = some (.compiled (.ok c)) := by
  obtain ⟨p, col, cp, xp, np, v, r₂, r₃, h⟩ := histVm_run
  exact ⟨_, by rw [h]; rfl⟩

theorem histVm_callable (k : Nat) (c : Callable)
    (h : (Engine.new.run histVm).2[k]? = some (.compiled (.ok c))) :
    c.backend = .vm ∧ VmChk.argsOK c.tree = true ∧ VmChk.nodes c.tree ≤ 4095 := by
  obtain ⟨p, col, cp, xp, np, v, r₂, r₃, hr⟩ := histVm_run
  rw [hr] at h
  rcases k with _ | _ | _ | _ | k
  · cases h
  · cases h
    exact ⟨rfl, plusTree_small p col cp xp np v⟩
  all_goals cases h

end Yae.EngVm
