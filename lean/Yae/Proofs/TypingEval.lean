/-
  For C06 and C19 (evaluation order, debug mode); nothing about typing.  With the event log of `EvalM` threaded
  explicitly through `seq` the steps of `eval (f+1)` are equations between runs.  Most are stated and proved in
  `Yae.Props.C06`; here stand the ones several node kinds and `Proofs/DebugEval` share, and the guarded lookup
  `if(isset(m,k), m[k], d)`: its tree `guardTree` and the condition `GuardFuns` on the function table.
  `Spec.Typing` is imported for `builtinFuns` alone.
-/
import Yae.Spec.Typing
import Yae.Proofs.EvalMLemmas
namespace Yae
open EvalM

def subscriptStep (f : Nat) (dbg : Bool) (ρ : REnv) (idx : Expr) (x : Val) : EvalM Val :=
  match x with
  | .list _ vs => fun l1 =>
      seq (eval f dbg ρ idx l1) fun i l2 =>
        match i with
        | .num fl =>
          if Num.toInt fl < 0 || Num.toInt fl ≥ vs.length then (.error .indexOutOfRange, l2)
          else match vs.get? (Num.toInt fl).toNat with
            | some v => (.ok v, l2)
            | none => (.error .indexOutOfRange, l2)
        | _ => (.error (.stuck "cast:num"), l2)
  | .map _ es => fun l1 =>
      seq (eval f dbg ρ idx l1) fun k l2 =>
        match k.key? with
        | some (t, ks) =>
          match es.find? t ks with
          | some v => (.ok v, l2)
          | none => (.error .missingKey, l2)
        | none => (.error (.stuck "invalid map key type"), l2)
  | _ => fun l1 => (.error (.stuck "unreachable:subscript"), l1)

theorem eval_ident' (f : Nat) (dbg : Bool) (ρ : REnv) (p : Pos) (name : String)
    (log : List Event) :
    eval (f+1) dbg ρ (.ident p name) log =
      match ρ.lookupVar name with
      | some v => recDbg dbg v p.col log
      | none => (.error (.stuck "missing-var"), log) := by
  rw [eval]
  cases ρ.lookupVar name <;> rfl

/-- a statically dispatched call: the selected function is applied to the *unevaluated*
argument list, then the debug record -/
theorem eval_call_static' {f : Nat} {dbg : Bool} {ρ : REnv} {p : Pos} {col : Int}
    {callee : Expr} {args : ExprList} {cty : Option Ty} {resolved : String} {index : Int}
    {d : FunDecl} (hres : resolved ≠ "") (hd : resolveStatic ρ.funs resolved index = some d)
    (log : List Event) :
    eval (f+1) dbg ρ (.call p col callee args cty resolved index) log =
      seq (callFun f dbg ρ d.ref d.isLazy args log) fun v l => recDbg dbg v col l := by
  rw [eval, EvalM.bind_apply]
  have : (resolved == "") = false := by simpa using hres
  simp only [this, hd]
  rfl

/-- The annotated tree of `if(isset(m,k), m[k], d)`: both calls are statically dispatched to the
first (and only) polymorphic overload registered under `if`/3 and `isset`/2. -/
def guardTree (pos : Pos) (col : Int) (m k d : String) (a1 a2 a3 : Option Ty) : Expr :=
  .call pos col (.ident pos "if")
    (.cons (.call pos col (.ident pos "isset")
              (.cons (.ident pos m) (.cons (.ident pos k) .nil)) a1 "∀.λ isset 2" 0)
    (.cons (.subscript pos col (.ident pos m) (.ident pos k) a2)
    (.cons (.ident pos d) .nil))) a3 "∀.λ if 3" 0

def isBuiltinRef (o : Option FunDecl) (i : Nat) (l : Bool) : Bool :=
  match o with
  | some ⟨_, .builtin j, l'⟩ => i == j && l == l'
  | _ => false

theorem isBuiltinRef_elim {o : Option FunDecl} {i : Nat} {l : Bool}
    (h : isBuiltinRef o i l = true) : ∃ ty, o = some ⟨ty, .builtin i, l⟩ := by
  unfold isBuiltinRef at h
  split at h
  · next ty j l' =>
    simp only [Bool.and_eq_true, beq_iff_eq] at h
    exact ⟨ty, by rw [h.1, h.2]⟩
  · cases h

/-- the function table resolves the two keys to the built-ins `if` (lazy) and `isset`: `22` and `24` are the
positions of `IF_BOOL_ANY_ANY` and `ISSET_MAP_ANY` in `builtins` -/
def GuardFuns (funs : List FunDecl) : Prop :=
  isBuiltinRef (resolveStatic funs "∀.λ if 3" 0) 22 true = true ∧
  isBuiltinRef (resolveStatic funs "∀.λ isset 2" 0) 24 false = true

theorem guardFuns_builtin : GuardFuns builtinFuns := by
  constructor <;> decide

end Yae
