/-
  C03, checked programs: the pieces put together.  For the tree `check` returns, in an environment that
  passed the environment check and in which no dynamically called callee is a lazy function value
  (`DynStrict`; implied by `NoLazyEnv`), the three hypotheses of the simulation theorem hold; hence
  machine = evaluator for every fuel from `W e' + 1` on, and, with the verifier's step bound (C11) and fuel
  monotonicity (an outcome of `run` other than fuel exhaustion does not depend on the fuel), from the number
  of emitted bytes on (main code and deferred bodies), which covers the fuel `runVm` passes.

  Refusals.  Operands the decoder reads back are in range, so a tree with a count that does not fit its
  operand cannot be compiled: a list / map literal of more than 65 535 members, a dynamic call of more
  than 255 arguments.  Trees that show it, `n` copies of a number literal: the checker accepts the list,
  the compiler answers `overflow`.
-/
import Yae.Proofs.VmSimCall
import Yae.Proofs.VmSimCompile
import Yae.Proofs.VmSimRefuse
import Yae.Proofs.VmCompileVerified
import Yae.Proofs.VmCheckedKinds
import Yae.Proofs.CheckElab
import Yae.Proofs.SoundnessMain

namespace Yae.VmCV
open Yae

theorem elab_lit {Γ : TEnv} {j : CheckJudgement} (h : Elab Γ j) :
    match j with
    | .expr _ _ e' => lit e' = true
    | .elems _ _ es' | .args _ _ es' => litL es' = true
    | .pairs _ _ _ ps' => litP ps' = true
    | .fields _ _ fs' => litF fs' = true := by
  induction h with
  | str | num | time | bool | listNil | mapNil | ident
  | elemsNil | pairsNil | fieldsNil | argsNil => rfl
  | listCons _ _ ih ihs => simp only [lit, listShape, litL, ih, ihs, Bool.and_self]
  | mapCons _ _ _ _ ihk ihv ihps =>
    simp only [lit, mapShape, litP, ihk, ihv, ihps, Bool.and_self]
  | obj _ _ ih => simp only [lit, ih]
  | callStatic _ _ _ iha => simp only [lit, iha, Bool.and_self, ite_self]
  | callDyn _ _ _ _ iha ihc => simp only [lit, iha, ihc, Bool.and_self, ite_self]
  | subList _ _ _ ihv ihi | subMap _ _ _ ihv ihi => simp only [lit, ihv, ihi, Bool.and_self]
  | member _ _ _ ih => simp only [lit, ih]
  | elemsCons _ _ _ ih ihs | argsCons _ _ ih ihs => simp only [litL, ih, ihs, Bool.and_self]
  | pairsCons _ _ _ _ _ ihk ihv ihps => simp only [litP, ihk, ihv, ihps, Bool.and_self]
  | fieldsCons _ _ ih ihs => simp only [litF, ih, ihs, Bool.and_self]

theorem check_lit (Γ : TEnv) : ∀ (e : Expr) (c : Nat) (T : Ty) (e' : Expr) (c' : Nat),
    check Γ c e = .ok (T, e', c') → lit e' = true :=
  fun e _ _ _ _ h => elab_lit (check_elab e h)
theorem checkElems_lit (Γ : TEnv) : ∀ (es : ExprList) (c : Nat) (T : Ty) (es' : ExprList)
    (c' : Nat), checkElems Γ c T es = .ok (es', c') → litL es' = true :=
  fun es _ _ _ _ h => elab_lit (checkElems_elab es h)
theorem checkPairs_lit (Γ : TEnv) : ∀ (ps : PairList) (c : Nat) (K V : Ty) (ps' : PairList)
    (c' : Nat), checkPairs Γ c K V ps = .ok (ps', c') → litP ps' = true :=
  fun ps _ _ _ _ _ h => elab_lit (checkPairs_elab ps h)
theorem checkFields_lit (Γ : TEnv) : ∀ (fs : FieldEList) (c : Nat) (tys : FieldList)
    (fs' : FieldEList) (c' : Nat), checkFields Γ c fs = .ok (tys, fs', c') → litF fs' = true :=
  fun fs _ _ _ _ h => elab_lit (checkFields_elab fs h)
theorem checkArgs_lit (Γ : TEnv) : ∀ (es : ExprList) (c : Nat) (tys : TyList)
    (es' : ExprList) (c' : Nat), checkArgs Γ c es = .ok (tys, es', c') → litL es' = true :=
  fun es _ _ _ _ h => elab_lit (checkArgs_elab es h)

end Yae.VmCV

namespace Yae.VmChk
open Yae Yae.Vm Yae.VmSim

section

structure LeM {α : Type} (x y : EvalM α) : Prop where
  le : ∀ l, (x l).1 ≠ .error .fuel → y l = x l

theorem LeM.refl {α : Type} (x : EvalM α) : LeM x x := ⟨fun _ _ => rfl⟩

theorem LeM.bind {α β : Type} {x y : EvalM α} {f g : α → EvalM β}
    (h : LeM x y) (hf : ∀ a, LeM (f a) (g a)) : LeM (x >>= f) (y >>= g) := by
  refine ⟨fun l hne => ?_⟩
  rw [EvalM.bind_apply] at hne
  rw [EvalM.bind_apply, EvalM.bind_apply]
  rcases hx : x l with ⟨e | a, l1⟩
  · rw [hx, seq_error] at hne
    have he : e ≠ .fuel := fun h => hne (by rw [h])
    rw [h.le l (by rw [hx]; intro h'; exact he (by cases h'; rfl)), hx]
    rfl
  · rw [hx, seq_ok] at hne
    rw [h.le l (by rw [hx]; simp), hx, seq_ok, seq_ok]
    exact (hf a).le l1 hne

variable {ρ : REnv} {P : Pool} {F : Nat}

def RunMono (ρ : REnv) (P : Pool) (F : Nat) : Prop :=
  ∀ C pc st, LeM (run F ρ P C pc st) (run (F+1) ρ P C pc st)

theorem forceAll_mono (ih : RunMono ρ P F) (ths : List (Code × Ty)) :
    ∀ (order : List Nat) (acc : Option Val),
      LeM (forceAll F ρ P ths order acc) (forceAll (F+1) ρ P ths order acc)
  | [], some v | [], none => by unfold forceAll; exact LeM.refl _
  | i :: rest, acc => by
    unfold forceAll
    split
    · exact LeM.bind (ih _ _ _) fun v => forceAll_mono ih ths rest (some v)
    · exact LeM.refl _

theorem callLazy_mono (ih : RunMono ρ P F) (d : FunDecl) (ths : List (Code × Ty)) :
    LeM (callLazy F ρ P d ths) (callLazy (F+1) ρ P d ths) := by
  unfold callLazy
  split
  · exact LeM.bind (LeM.refl _) fun _ => forceAll_mono ih ths _ _
  · split
    · refine LeM.bind (ih _ _ _) fun v => ?_
      split
      · exact ih _ _ _
      · exact ih _ _ _
      · exact LeM.refl _
    · exact LeM.refl _
  · exact LeM.refl _

theorem run_mono_succ (ih : RunMono ρ P F) : RunMono ρ P (F+1) := by
  intro C pc st
  have hl := callLazy_mono ih
  conv => lhs; rw [run]
  conv => rhs; rw [run]
  split
  · exact LeM.refl _
  · split
    -- the two sides are the same term around the recursive calls: down through binds and matches;
    -- a leaf is the induction hypothesis, `callLazy_mono`, or the same action on both sides
    all_goals
      repeat' (first
        | exact ih _ _ _
        | exact hl _ _
        | apply LeM.bind
        | intro _
        | exact LeM.refl _
        | split
        | (show LeM (if _ then _ else _) (if _ then _ else _)))

theorem run_mono_all : ∀ F, RunMono ρ P F
  | 0 => fun C pc st => ⟨fun l h => by rw [run_zero] at h; exact absurd rfl h⟩
  | F+1 => run_mono_succ (run_mono_all F)

theorem run_fuel_mono {C : Code} {pc : Nat} {st : List Slot} {l : List Event} {F F' : Nat}
    (hle : F ≤ F') (h : (run F ρ P C pc st l).1 ≠ .error .fuel) :
    run F' ρ P C pc st l = run F ρ P C pc st l := by
  induction hle with
  | refl => rfl
  | step _ ih => rw [(run_mono_all _ C pc st).le l (by rw [ih]; exact h), ih]

end

section
variable {Γ : TEnv} {ρ : REnv} {c c' : Nat} {e e' : Expr} {T : Ty}

theorem checked_wa (hf : Sound.FunsOK Γ.funs) (hv : Sound.VarsOK Γ)
    (hc : check Γ c e = .ok (T, e', c')) : wa Γ.funs e' = true :=
  ck_wa e' (check_ck hf hv e c T e' c' hc)

theorem checked_ka (hf : Sound.FunsOK Γ.funs) (henv : Sound.EnvOK Γ ρ) (hd : DynStrict ρ e')
    (hc : check Γ c e = .ok (T, e', c')) : KA ρ e' :=
  ck_ka hf henv e' (check_ck hf henv.tys e c T e' c' hc) hd

theorem notStuck_of_allowed {α : Type} {f : Fail} (h : Sound.Allowed f) :
    NotStuck (.error f : Except Fail α) := by
  cases f <;> first | trivial | exact h

theorem checked_notStuck (hf : Sound.FunsOK Γ.funs) (henv : Sound.EnvOK Γ ρ)
    (hc : check Γ c e = .ok (T, e', c')) {fuel : Nat} (hfuel : e'.depth < fuel) (dbg : Bool)
    (log : List Event) : NotStuck (eval fuel dbg ρ e' log).1 := by
  rcases Sound.progress hf henv (Sound.check_ann hf henv.tys e c T e' c' hc) hfuel dbg log with
    ⟨_, _, h, _⟩ | ⟨_, _, h, ha⟩
  · rw [h]; trivial
  · rw [h]; exact notStuck_of_allowed ha

theorem checked_run_eq (hf : Sound.FunsOK Γ.funs) (henv : Sound.EnvOK Γ ρ) (hd : DynStrict ρ e')
    (hc : check Γ c e = .ok (T, e', c')) {code : Code} {pool : Pool}
    (hcomp : compile Γ.funs e' = .ok (code, pool)) (log : List Event) {F : Nat}
    (hF : W e' + 1 ≤ F) :
    run F ρ pool code 0 [] log = eval (e'.depth + 1) false ρ e' log :=
  exec_correct henv.funs (compile_layout hcomp) (checked_wa hf henv.tys hc) (checked_ka hf henv hd hc) hF
    log (checked_notStuck hf henv hc (Nat.lt_succ_self _) false log)

theorem checked_run_eq_size (hf : Sound.FunsOK Γ.funs) (henv : Sound.EnvOK Γ ρ)
    (hd : DynStrict ρ e') (hc : check Γ c e = .ok (T, e', c')) {code : Code} {pool : Pool}
    (hcomp : compile Γ.funs e' = .ok (code, pool)) (log : List Event) {F : Nat}
    (hF : totalCodeSize code pool ≤ F) :
    run F ρ pool code 0 [] log = eval (e'.depth + 1) false ρ e' log := by
  have hver := VmCV.compile_verified hcomp (checked_wa hf henv.tys hc)
    (VmCV.check_lit Γ e c T e' c' hc)
  have hne : (run F ρ pool code 0 [] log).1 ≠ .error .fuel :=
    (VmVerify.verify_good hver ρ F log).not_fuel hF
  rw [← run_fuel_mono (F' := max F (W e' + 1)) (Nat.le_max_left _ _) hne]
  exact checked_run_eq hf henv hd hc hcomp log (Nat.le_max_right _ _)

/-- the entry points: `runVm` passes `1000 * (totalCodeSize + 1)` units of fuel -/
theorem checked_runVm_eq (hf : Sound.FunsOK Γ.funs) (henv : Sound.EnvOK Γ ρ)
    (hd : DynStrict ρ e') (hc : check Γ c e = .ok (T, e', c')) {code : Code} {pool : Pool}
    (hcomp : compile Γ.funs e' = .ok (code, pool)) :
    runVm ρ code pool = runEval false ρ e' := by
  unfold runVm runEval
  rw [checked_run_eq_size hf henv hd hc hcomp [] (F := 1000 * (totalCodeSize code pool + 1))
    (by omega)]

end

section
variable {funs : List FunDecl}
open Yae.VmVerify

theorem compile_long_list {p : Pos} {es : ExprList} {ty : Option Ty} (hlen : 65535 < es.length)
    (code : Code) (pool : Pool) : compile funs (.list p es ty) ≠ .ok (code, pool) := by
  intro h
  obtain ⟨ob, hlay, _⟩ := compile_layout h
  cases hlay with
  | list _ hdec _ =>
    have := (VmVerify.u16At_some (decodeAt_inv hdec).2.1).2
    omega

theorem compile_long_map {p : Pos} {ps : PairList} {ty : Option Ty} (hlen : 65535 < ps.length)
    (code : Code) (pool : Pool) : compile funs (.map p ps ty) ≠ .ok (code, pool) := by
  intro h
  obtain ⟨ob, hlay, _⟩ := compile_layout h
  cases hlay with
  | map _ hdec _ =>
    have := (VmVerify.u16At_some (decodeAt_inv hdec).2.1).2
    omega

/-- `""` as the resolved name makes the call dynamic -/
theorem compile_many_args {p : Pos} {col : Int} {callee : Expr} {args : ExprList}
    {cty : Option Ty} {index : Int} (hlen : 255 < args.length)
    (code : Code) (pool : Pool) :
    compile funs (.call p col callee args cty "" index) ≠ .ok (code, pool) := by
  intro h
  obtain ⟨ob, hlay, _⟩ := compile_layout h
  cases hlay with
  | dyn _ _ _ hdec =>
    obtain ⟨⟨b, _, hb⟩, _⟩ := decodeAt_inv hdec
    have := b.toNat_lt
    omega
  | condIf hres | condAnd hres | condOr hres | not hres | strict hres | byNeed hres => cases hres

theorem compile_overflow_of_not_ok {e : Expr} (hw : wa funs e = true)
    (h : ∀ code pool, compile funs e ≠ .ok (code, pool)) : compile funs e = .error .overflow := by
  cases hc : compile funs e with
  | ok r => exact absurd hc (h r.1 r.2)
  | error err => rw [compile_refuse_overflow hw hc]

end

def lits (e : Expr) : Nat → ExprList
  | 0 => .nil
  | n+1 => .cons e (lits e n)

theorem lits_length (e : Expr) : ∀ n, (lits e n).length = n
  | 0 => rfl
  | n+1 => by simp [lits, ExprList.length, lits_length e n]

theorem lits_wa (funs : List FunDecl) {e : Expr} (he : wa funs e = true) :
    ∀ n, waL funs (lits e n) = true
  | 0 => rfl
  | n+1 => by simp [lits, waL, he, lits_wa funs he n]

theorem check_lits (Γ : TEnv) (p q : Pos) (v : Float) (c : Nat) (ty : Option Ty) (n : Nat) :
    check Γ c (.list p (lits (.num q v) (n+1)) ty) =
      .ok (.list .num, .list p (lits (.num q v) (n+1)) (some (.list .num)), c) := by
  have hel : ∀ n, checkElems Γ c .num (lits (.num q v) n) = .ok (lits (.num q v) n, c) := by
    intro n
    induction n with
    | zero => rfl
    | succ n ih =>
      simp only [lits, checkElems, check, Yae.CR.pure_eq, Yae.CR.ok_bind, ih]
      rfl
  simp only [lits, check, Yae.CR.pure_eq, Yae.CR.ok_bind, hel]

theorem lits_overflow (funs : List FunDecl) (p q : Pos) (v : Float) (ty : Ty) {n : Nat}
    (hn : 65535 < n) :
    compile funs (.list p (lits (.num q v) n) (some ty)) = .error .overflow := by
  refine compile_overflow_of_not_ok ?_ (compile_long_list (by rw [lits_length]; exact hn))
  obtain ⟨m, rfl⟩ : ∃ m, n = m + 1 := ⟨n - 1, by omega⟩
  have := lits_wa funs (e := .num q v) rfl (m+1)
  simp only [lits] at this ⊢
  simp only [wa, listTyOk, this, Bool.and_self]

theorem args_overflow (funs : List FunDecl) (p q : Pos) (col : Int) (v : Float) (callee : Expr)
    (cty : Option Ty) (index : Int) (hcallee : wa funs callee = true) {n : Nat} (hn : 255 < n) :
    compile funs (.call p col callee (lits (.num q v) n) cty "" index) = .error .overflow := by
  refine compile_overflow_of_not_ok ?_ (compile_many_args (by rw [lits_length]; exact hn))
  simp only [wa, beq_self_eq_true, if_true, hcallee, lits_wa funs (e := .num q v) rfl n,
    Bool.and_self]

end Yae.VmChk

namespace Yae.C03
open Yae Yae.Vm Yae.VmSim

/-- what the checker guarantees and the compiler relies on (decidable) -/
def WellAnnotated (funs : List FunDecl) (e : Expr) : Prop := wa funs e = true

instance (funs : List FunDecl) (e : Expr) : Decidable (WellAnnotated funs e) := by
  unfold WellAnnotated; infer_instance

/-- the values that occur have the statically known kind where the compiler dispatched on it -/
def KindsAgree (ρ : REnv) (e : Expr) : Prop := KA ρ e

/-- fuel that suffices for the machine: every instruction of the main buffer and of the thunk
bodies forced along the way is counted by `W` -/
def vmFuel (e : Expr) : Nat := W e + 1

/-- no variable is bound to a value that contains, at any depth (object fields, list elements, map
values, optional payloads), a function value with the lazy flag (decidable).  Lazy functions can still be
registered in the function table and called by name; what is excluded is a lazy function as a
first-class VALUE. -/
def NoLazyFunValues (ρ : REnv) : Prop := VmChk.NoLazyEnv ρ

instance (ρ : REnv) : Decidable (NoLazyFunValues ρ) := by
  unfold NoLazyFunValues; infer_instance

/-- the exact extra hypothesis (semantic): in the positions the compiler visits, whenever the
callee of a dynamically dispatched call evaluates, the value is not a function value with the
lazy flag.  It is the part of `KindsAgree` that neither the checker nor type soundness gives. -/
def DynCalleesStrict (ρ : REnv) (e : Expr) : Prop := VmChk.DynStrict ρ e

end Yae.C03
