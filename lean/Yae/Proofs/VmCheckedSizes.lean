/-
  C03, checked programs: WHEN the compiler refuses.  `compile` run on sizes only.

  `sizeE` is `compileE` with the code buffer and the constant pool replaced by their sizes (a pair
  of numbers): the same control structure, the same checks.  `absE_all` / `compile_sizes`: it is an exact
  abstraction -- `compileE` fails iff `sizeE` fails, with the same error, and on success the sizes
  of the buffers `compileE` returns are the numbers `sizeE` returns.  So a refusal depends only on
  running totals, and the checks (`sU16`, `sU8`, `sConst`, `sPatch`) are exactly: the pool size at
  a constant, the member count of a list / map literal, a jump target (offsets in the code
  buffer), each above 65 535; the argument count of a call above 255.
-/
import Yae.Proofs.VmSimCompile
namespace Yae.VmChk
open Yae Yae.Vm Yae.VmSim

/-- the compiler monad on sizes: (bytes of code, number of constants) -/
abbrev SM := StateT (Nat × Nat) (Except CErr)

def sOp : SM Unit := modify fun (c, p) => (c + 1, p)
def sU8 (n : Nat) : SM Unit := do
  if n > 255 then throw .overflow
  modify fun (c, p) => (c + 1, p)
def sU16 (n : Nat) : SM Unit := do
  if n > 65535 then throw .overflow
  modify fun (c, p) => (c + 2, p)
/-- a new constant and its index as a 16-bit operand: refused when 65 536 constants exist -/
def sConst : SM Unit := do
  let (_, p) ← get
  modify fun (c, p) => (c, p + 1)
  sU16 p
def sHere : SM Nat := do let (c, _) ← get; pure c
def sPlaceholder : SM Nat := do let off ← sHere; sU16 0; pure off
def sPatch (target : Nat) : SM Unit := do
  if target > 65535 then throw .overflow

mutual
def sizeE (fuel : Nat) (funs : List FunDecl) (e : Expr) : SM Unit :=
  match fuel with
  | 0 => throw (.unreachable "fuel")
  | fuel+1 =>
  match e with
  | .str _ _ => do sOp; sConst
  | .num _ _ => do sOp; sConst
  | .time _ _ => do sOp; sConst
  | .bool _ _ => do sOp; sConst
  | .list _ es _ => do
    sizeL fuel funs es
    sOp
    sConst
    sU16 es.length
  | .map _ ps _ => do
    sizeP fuel funs ps
    sOp
    sConst
    sU16 ps.length
  | .obj _ fs _ => do
    sizeF fuel funs fs
    sOp
    sConst
  | .ident _ _ => do sOp; sConst
  | .call _ _ callee args _ resolved index =>
    if resolved == "" then do
      sizeE fuel funs callee
      sizeL fuel funs args
      sOp
      sU8 args.length
    else
      match resolveStatic funs resolved index with
      | none => throw .notDefined
      | some d =>
        let bid : Option BId := match d.ref with
          | .builtin i => (builtins[i]?).map (·.id)
          | _ => none
        match bid, args with
        | some .IF_BOOL_ANY_ANY, .cons c (.cons t (.cons f .nil)) => sizeC fuel funs c t f
        | some .LOGIC_AND_BOOL_BOOL, .cons x (.cons y .nil) =>
            sizeC fuel funs x y (.bool Pos.unknown false)
        | some .LOGIC_OR_BOOL_BOOL, .cons x (.cons y .nil) =>
            sizeC fuel funs x (.bool Pos.unknown true) y
        | some .LOGIC_NOT_BOOL, .cons x _ => do
            sizeE fuel funs x
            sOp
        | _, _ => do
          if (bid.map isCondIntrinsic).getD false then throw (.unreachable "intrinsic-args")
          if d.isLazy then sizeT fuel funs args
          else sizeL fuel funs args
          match bid.bind intrinsicByValue with
          | some _ => sOp
          | none => do
            sOp
            sConst
            sU8 args.length
  | .subscript _ _ var idx varTy => do
    sizeE fuel funs var
    sizeE fuel funs idx
    match varTy with
    | some (.list _) => sOp
    | some (.map _ _) => sOp
    | _ => throw (.unreachable "subscript")
  | .member _ _ obj _ _ _ _ => do
    sizeE fuel funs obj
    sOp
    sConst
  | _ => throw (.unreachable "sugar")
termination_by (fuel, 0, 0, sizeOf e)
decreasing_by all_goals exact Prod.Lex.left _ _ (Nat.lt_succ_self _)
def sizeL (fuel : Nat) (funs : List FunDecl) : ExprList → SM Unit
  | .nil => pure ()
  | .cons e es => do sizeE fuel funs e; sizeL fuel funs es
termination_by es => (fuel, 0, 0, sizeOf es)
decreasing_by
  all_goals exact .right _ (.right _ (.right _ (by rw [ExprList.cons.sizeOf_spec]; omega)))
def sizeP (fuel : Nat) (funs : List FunDecl) : PairList → SM Unit
  | .nil => pure ()
  | .cons k v ps => do sizeE fuel funs k; sizeE fuel funs v; sizeP fuel funs ps
termination_by ps => (fuel, 0, 0, sizeOf ps)
decreasing_by
  all_goals exact .right _ (.right _ (.right _ (by rw [PairList.cons.sizeOf_spec]; omega)))
def sizeF (fuel : Nat) (funs : List FunDecl) : FieldEList → SM Unit
  | .nil => pure ()
  | .cons _ e fs => do sizeE fuel funs e; sizeF fuel funs fs
termination_by fs => (fuel, 0, 0, sizeOf fs)
decreasing_by
  all_goals exact .right _ (.right _ (.right _ (by rw [FieldEList.cons.sizeOf_spec]; omega)))
/-- deferred arguments: each body starts a fresh code buffer, the pool is shared -/
def sizeT (fuel : Nat) (funs : List FunDecl) : ExprList → SM Unit
  | .nil => pure ()
  | .cons e es => do
    sOp
    let (c, p) ← get
    set ((0 : Nat), p)
    sizeE fuel funs e
    sOp
    let (_, p') ← get
    set (c, p')
    sConst
    sizeT fuel funs es
termination_by es => (fuel, 1, 0, sizeOf es)
decreasing_by
  · exact .right _ (.left _ _ Nat.zero_lt_one)
  · exact .right _ (.right _ (.right _ (by rw [ExprList.cons.sizeOf_spec]; omega)))
def sizeC (fuel : Nat) (funs : List FunDecl) (c t f : Expr) : SM Unit := do
  sizeE fuel funs c
  sOp
  let _ ← sPlaceholder
  sizeE fuel funs t
  sOp
  let _ ← sPlaceholder
  let branchFalse ← sHere
  sizeE fuel funs f
  let next ← sHere
  sPatch branchFalse
  sPatch next
termination_by (fuel, 0, 1, sizeOf c)
decreasing_by all_goals exact .right _ (.right _ (.left _ _ Nat.zero_lt_one))
end

def sizes (funs : List FunDecl) (e : Expr) : Except CErr (Nat × Nat) := do
  let ((), s) ← (do sizeE (e.depth + 1) funs e; sOp : SM Unit).run (0, 0)
  pure s

/-- the body of a statically resolved call in `sizeE`, with the built-in identifier abstracted
(as `VmSim.callBody` for `compileE`) -/
def sizeBody (cf : Nat) (funs : List FunDecl) (d : FunDecl) (bid : Option BId) (args : ExprList) :
    SM Unit :=
  match bid, args with
  | some .IF_BOOL_ANY_ANY, .cons c (.cons t (.cons f .nil)) => sizeC cf funs c t f
  | some .LOGIC_AND_BOOL_BOOL, .cons x (.cons y .nil) =>
      sizeC cf funs x y (.bool Pos.unknown false)
  | some .LOGIC_OR_BOOL_BOOL, .cons x (.cons y .nil) =>
      sizeC cf funs x (.bool Pos.unknown true) y
  | some .LOGIC_NOT_BOOL, .cons x _ => do
      sizeE cf funs x
      sOp
  | _, _ => do
    if (bid.map isCondIntrinsic).getD false then throw (.unreachable "intrinsic-args")
    if d.isLazy then sizeT cf funs args
    else sizeL cf funs args
    match bid.bind intrinsicByValue with
    | some _ => sOp
    | none => do
      sOp
      sConst
      sU8 args.length

def sz (s : Code × Pool) : Nat × Nat := (s.1.size, s.2.size)

def Rel {α β} (R : α → β → Prop) :
    Except CErr (α × Code × Pool) → Except CErr (β × Nat × Nat) → Prop
  | .ok (a, s'), .ok (b, t) => R a b ∧ sz s' = t
  | .error e, .error e' => e = e'
  | _, _ => False

def AbsRel {α β} (R : α → β → Prop) (x : CM α) (y : SM β) : Prop := ∀ s, Rel R (x s) (y (sz s))

abbrev Abs {α} (x : CM α) (y : SM α) : Prop := AbsRel Eq x y

theorem AbsRel.bind {α α' β β'} {R : α → α' → Prop} {Q : β → β' → Prop} {x : CM α} {y : SM α'}
    {f : α → CM β} {g : α' → SM β'}
    (hx : AbsRel R x y) (hf : ∀ a b, R a b → AbsRel Q (f a) (g b)) :
    AbsRel Q (x >>= f) (y >>= g) := by
  intro s
  rw [cm_bind, cm_bind]
  have h := hx s
  rcases hxs : x s with e | ⟨a, s'⟩ <;> rcases hys : y (sz s) with e' | ⟨b, t⟩ <;>
    rw [hxs, hys] at h
  · exact h
  · exact h.elim
  · exact h.elim
  · obtain ⟨hr, rfl⟩ := h
    exact hf a b hr s'

theorem Abs.bind {α β β'} {Q : β → β' → Prop} {x : CM α} {y : SM α} {f : α → CM β}
    {g : α → SM β'} (hx : Abs x y) (hf : ∀ a, AbsRel Q (f a) (g a)) :
    AbsRel Q (x >>= f) (y >>= g) :=
  AbsRel.bind hx fun a b hab => by subst hab; exact hf a

theorem abs_pure {α} (a : α) : Abs (pure a : CM α) (pure a : SM α) := fun _ => ⟨rfl, rfl⟩
theorem abs_throw {α β} {R : α → β → Prop} (e : CErr) :
    AbsRel R (throw e : CM α) (throw e : SM β) := fun _ => rfl

theorem abs_emitOp (op : Op) : Abs (emitOp op) sOp :=
  fun (c, p) => ⟨rfl, by simp [sz]⟩

theorem rel_guard {α β} {R : α → β → Prop} {b : Prop} [Decidable b] {e : CErr}
    {u : Except CErr (α × Code × Pool)} {v : Except CErr (β × Nat × Nat)} (h : Rel R u v) :
    Rel R (if b then .error e else u) (if b then .error e else v) := by
  split
  · rfl
  · exact h

theorem sU16_eq (n c p : Nat) :
    sU16 n (c, p) = if n > 65535 then .error .overflow else .ok ((), (c + 2, p)) := by
  unfold sU16; split <;> rfl

theorem sU8_eq (n c p : Nat) :
    sU8 n (c, p) = if n > 255 then .error .overflow else .ok ((), (c + 1, p)) := by
  unfold sU8; split <;> rfl

theorem sPatch_eq (t c p : Nat) :
    sPatch t (c, p) = if t > 65535 then .error .overflow else .ok ((), (c, p)) := by
  unfold sPatch; split <;> rfl

theorem abs_emitU16 (n : Nat) : Abs (emitU16 n) (sU16 n) := fun (c, p) => by
  rw [emitU16_eq, sz, sU16_eq]
  exact rel_guard ⟨rfl, by simp [sz]⟩

theorem abs_emitU8 (n : Nat) : Abs (emitU8 n) (sU8 n) := fun (c, p) => by
  rw [emitU8_eq, sz, sU8_eq]
  exact rel_guard ⟨rfl, by simp [sz]⟩

theorem abs_emitConst (k : Const) : Abs (emitConst k) sConst := by
  intro (c, p)
  have h1 : emitConst k (c, p) = emitU16 p.size (c, p.push k) := rfl
  have h2 : sConst (sz (c, p)) = sU16 p.size (sz (c, p.push k)) := by
    simp only [sz, Array.size_push]; rfl
  rw [h1, h2]
  exact abs_emitU16 p.size (c, p.push k)

theorem abs_here : Abs here sHere := fun _ => ⟨rfl, rfl⟩

theorem abs_placeholder : Abs placeholder sPlaceholder := by
  unfold placeholder sPlaceholder
  exact Abs.bind abs_here fun off => Abs.bind (abs_emitU16 0) fun _ => abs_pure off

theorem abs_patch (off t : Nat) : Abs (patch off t) (sPatch t) := fun (c, p) => by
  rw [patch_eq, sz, sPatch_eq]
  exact rel_guard ⟨rfl, by simp [sz]⟩

theorem abs_ite {α β} {R : α → β → Prop} {b : Prop} [Decidable b] {x x' : CM α} {y y' : SM β}
    (h : AbsRel R x y) (h' : AbsRel R x' y') : AbsRel R (if b then x else x') (if b then y else y') := by
  split
  · exact h
  · exact h'

theorem abs_get : AbsRel (fun a b => sz a = b) (get : CM (Code × Pool)) (get : SM (Nat × Nat)) :=
  fun _ => ⟨rfl, rfl⟩

theorem abs_set {x : Code × Pool} {y : Nat × Nat} (h : sz x = y) :
    AbsRel (fun _ _ => True) (set x : CM PUnit) (set y : SM PUnit) :=
  fun _ => ⟨trivial, h⟩

def AbsE (funs : List FunDecl) (cf : Nat) : Prop := ∀ e, Abs (compileE cf funs e) (sizeE cf funs e)

section
variable {funs : List FunDecl} {cf : Nat}

theorem absList (hE : AbsE funs cf) : ∀ es, Abs (compileList cf funs es) (sizeL cf funs es)
  | .nil => by unfold compileList sizeL; exact abs_pure _
  | .cons e es => by
    unfold compileList sizeL
    exact Abs.bind (hE e) fun _ => absList hE es

theorem absFields (hE : AbsE funs cf) : ∀ fs, Abs (compileFields cf funs fs) (sizeF cf funs fs)
  | .nil => by unfold compileFields sizeF; exact abs_pure _
  | .cons _ e fs => by
    unfold compileFields sizeF
    exact Abs.bind (hE e) fun _ => absFields hE fs

theorem absPairs (hE : AbsE funs cf) : ∀ ps, Abs (compilePairs cf funs ps) (sizeP cf funs ps)
  | .nil => by unfold compilePairs sizeP; exact abs_pure _
  | .cons k v ps => by
    unfold compilePairs sizeP
    exact Abs.bind (hE k) fun _ => Abs.bind (hE v) fun _ => absPairs hE ps

theorem absCond (hE : AbsE funs cf) (c t f : Expr) :
    Abs (compileCond cf funs c t f) (sizeC cf funs c t f) := by
  rw [compileCond, sizeC]
  exact Abs.bind (hE c) fun _ => Abs.bind (abs_emitOp _) fun _ =>
    Abs.bind abs_placeholder fun pF => Abs.bind (hE t) fun _ =>
    Abs.bind (abs_emitOp _) fun _ => Abs.bind abs_placeholder fun pN =>
    Abs.bind abs_here fun bf => Abs.bind (hE f) fun _ =>
    Abs.bind abs_here fun nx => Abs.bind (abs_patch pF bf) fun _ => abs_patch pN nx

theorem absThunks (hE : AbsE funs cf) : ∀ (es : ExprList) (ps : TyList),
    Abs (compileThunks cf funs es ps) (sizeT cf funs es)
  | .nil, _ => by unfold compileThunks sizeT; exact abs_pure _
  | .cons e es, ps => by
    unfold compileThunks sizeT
    refine Abs.bind (abs_emitOp _) fun _ => AbsRel.bind abs_get fun (code, pool) (c, p) hxy => ?_
    cases hxy
    refine AbsRel.bind (abs_set rfl) fun _ _ _ => Abs.bind (hE e) fun _ =>
      Abs.bind (abs_emitOp _) fun _ => AbsRel.bind abs_get fun (body, pool') (c', p') hxy' => ?_
    cases hxy'
    exact AbsRel.bind (abs_set rfl) fun _ _ _ => Abs.bind (abs_emitConst _) fun _ =>
      absThunks hE es _

theorem abs_tail (op0 : Op) (k : Const) (o : Option Op) (n : Nat) :
    Abs (match o with
      | some op => emitOp op
      | none => do
        emitOp op0
        emitConst k
        emitU8 n : CM Unit)
      (match o with
      | some _ => sOp
      | none => do
        sOp
        sConst
        sU8 n : SM Unit) := by
  cases o with
  | some op => exact abs_emitOp op
  | none => exact Abs.bind (abs_emitOp _) fun _ => Abs.bind (abs_emitConst _) fun _ => abs_emitU8 _

theorem abs_callBody (hE : AbsE funs cf) (d : FunDecl) (bid : Option BId) (args : ExprList) :
    Abs (callBody cf funs d bid args) (sizeBody cf funs d bid args) := by
  unfold sizeBody
  split
  · exact absCond hE _ _ _
  · exact absCond hE _ _ _
  · exact absCond hE _ _ _
  · exact Abs.bind (hE _) fun _ => abs_emitOp _
  · rename_i n1 n2 n3 n4
    unfold callBody
    split
    · exact (n1 _ _ _ rfl rfl).elim
    · exact (n2 _ _ rfl rfl).elim
    · exact (n3 _ _ rfl rfl).elim
    · exact (n4 _ _ rfl rfl).elim
    · exact abs_ite (fun _ => rfl) (abs_ite
        (Abs.bind (absThunks hE args _) fun _ => abs_tail _ _ _ _)
        (Abs.bind (absList hE args) fun _ => abs_tail _ _ _ _))

theorem absE_zero : AbsE funs 0 := by
  intro e
  unfold compileE sizeE
  exact abs_throw _

theorem absE_succ (hE : AbsE funs cf) : AbsE funs (cf + 1) := by
  intro e
  unfold compileE sizeE
  cases e with
  | str | num | time | bool | ident =>
    exact Abs.bind (abs_emitOp _) fun _ => abs_emitConst _
  | list p es ty =>
    exact Abs.bind (absList hE es) fun _ => Abs.bind (abs_emitOp _) fun _ =>
      Abs.bind (abs_emitConst _) fun _ => abs_emitU16 _
  | map p ps ty =>
    exact Abs.bind (absPairs hE ps) fun _ => Abs.bind (abs_emitOp _) fun _ =>
      Abs.bind (abs_emitConst _) fun _ => abs_emitU16 _
  | obj p fs ty =>
    exact Abs.bind (absFields hE fs) fun _ => Abs.bind (abs_emitOp _) fun _ => abs_emitConst _
  | member p col obj field fp oty index =>
    exact Abs.bind (hE obj) fun _ => Abs.bind (abs_emitOp _) fun _ => abs_emitConst _
  | subscript p col var idx vty =>
    refine Abs.bind (hE var) fun _ => Abs.bind (hE idx) fun _ => ?_
    split
    · exact abs_emitOp _
    · exact abs_emitOp _
    · rename_i h1 h2
      split
      · exact absurd rfl (h1 _)
      · exact absurd rfl (h2 _ _)
      · exact abs_throw _
  | unary | binary | ternary | group => exact abs_throw _
  | call p col callee args cty resolved index =>
    dsimp only
    refine abs_ite (Abs.bind (hE callee) fun _ => Abs.bind (absList hE args) fun _ =>
      Abs.bind (abs_emitOp _) fun _ => abs_emitU8 _) ?_
    cases hrs : resolveStatic funs resolved index with
    | none => exact abs_throw _
    -- what is left of `compileE` / `sizeE` is `callBody` / `sizeBody` at `bidOf d`, written out: equal by unfolding
    | some d => exact abs_callBody hE d (bidOf d) args

theorem absE_all : ∀ cf, AbsE funs cf
  | 0 => absE_zero
  | cf+1 => absE_succ (absE_all cf)

theorem compile_sizes (funs : List FunDecl) (e : Expr) :
    (match compile funs e with
      | .ok (code, pool) => .ok (code.size, pool.size)
      | .error err => .error err : Except CErr (Nat × Nat)) = sizes funs e := by
  have h := (Abs.bind (absE_all (funs := funs) (e.depth + 1) e) fun _ => abs_emitOp .RETURN) (#[], #[])
  unfold compile sizes
  simp only [StateT.run, sz, Array.size_empty] at h ⊢
  revert h
  generalize (compileE (e.depth + 1) funs e >>= fun _ => emitOp .RETURN) (#[], #[]) = x
  generalize (sizeE (e.depth + 1) funs e >>= fun _ => sOp) (0, 0) = y
  intro h
  rcases x with err | ⟨u, c, p⟩ <;> rcases y with err' | ⟨u', t⟩
  · cases h; rfl
  · exact h.elim
  · exact h.elim
  · cases h.2; rfl

end

end Yae.VmChk
