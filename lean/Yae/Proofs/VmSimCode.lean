/-
  C03: bytes.  Prefixes of buffers, the bytes of one instruction read back by
  `decodeAt` (what the emitters of the compiler monad do to `(code, pool)` is in `VmSimCompile`).
-/
import Yae.Proofs.VmDecode
namespace Yae.VmSim
open Yae Yae.Vm

def Pre {α} (a b : Array α) : Prop := a.size ≤ b.size ∧ ∀ i, i < a.size → b[i]? = a[i]?

theorem Pre.refl {α} (a : Array α) : Pre a a := ⟨Nat.le_refl _, fun _ _ => rfl⟩
theorem Pre.trans {α} {a b c : Array α} (h1 : Pre a b) (h2 : Pre b c) : Pre a c :=
  ⟨Nat.le_trans h1.1 h2.1, fun i hi => by rw [h2.2 i (by have := h1.1; omega), h1.2 i hi]⟩
theorem Pre.append {α} (a t : Array α) : Pre a (a ++ t) :=
  ⟨by simp, fun i hi => by simp [Array.getElem?_append, hi]⟩
theorem Pre.push {α} (a : Array α) (x : α) : Pre a (a.push x) :=
  ⟨by simp, fun i hi => by rw [Array.getElem?_push]; simp; omega⟩

def Same (a b : Code) (lo hi : Nat) : Prop := ∀ i, lo ≤ i → i < hi → a[i]? = b[i]?

theorem Same.sub {a b : Code} {lo hi lo' hi' : Nat} (h : Same a b lo hi) (h1 : lo ≤ lo') (h2 : hi' ≤ hi) :
    Same a b lo' hi' := fun i hi1 hi2 => h i (by omega) (by omega)
theorem Same.trans {a b c : Code} {lo hi : Nat} (h1 : Same a b lo hi) (h2 : Same b c lo hi) :
    Same a c lo hi := fun i hi1 hi2 => by rw [h1 i hi1 hi2, h2 i hi1 hi2]
theorem Same.refl (a : Code) (lo hi : Nat) : Same a a lo hi := fun _ _ _ => rfl

def BytesAt (C : Code) (o : Nat) (bs : List UInt8) : Prop := ∀ j, j < bs.length → C[o + j]? = bs[j]?

theorem bytesAt_tail {C c1 : Code} {bs : List UInt8} {lo : Nat}
    (hS : Same C (c1 ++ bs.toArray) lo (c1 ++ bs.toArray).size) (hlo : lo ≤ c1.size) :
    BytesAt C c1.size bs := by
  intro j hj
  rw [hS _ (by omega) (by simp; omega), Array.getElem?_append_right (by omega)]
  simp

theorem u8_val {n : Nat} (h : n ≤ 255) : (UInt8.ofNat n).toNat = n := by
  simp only [UInt8.toNat_ofNat']
  omega

theorem bytesAt_get {C : Code} {o : Nat} {bs : List UInt8} (h : BytesAt C o bs) (j : Nat) (b : UInt8)
    (hb : bs[j]? = some b) : C[o + j]? = some b := by
  rw [h j (List.getElem?_eq_some_iff.mp hb).1, hb]

/-- the two bytes `emitU16 n` writes, read back -/
theorem bytesAt_u16 {C : Code} {o : Nat} {bs : List UInt8} (h : BytesAt C o bs) (j : Nat) {n : Nat}
    (h0 : bs[j]? = some (UInt8.ofNat (n / 256))) (h1 : bs[j+1]? = some (UInt8.ofNat (n % 256)))
    (hn : n ≤ 65535) : u16At C (o + j) = some n := by
  have a := bytesAt_get h j _ h0
  have b := bytesAt_get h (j+1) _ h1
  rw [← Nat.add_assoc] at b
  simp only [u16At, a, b, Option.pure_def, Option.bind_eq_bind, Option.bind_some, UInt8.toNat_ofNat',
    Nat.reducePow, Nat.dvd_refl, Nat.mod_mod_of_dvd, Option.some.injEq]
  omega

section decode
variable {C : Code} {o : Nat}

theorem decode_simple {op : Op} (h : BytesAt C o [UInt8.ofNat op.code])
    (hop : op ∉ [Op.CONST, .LOAD, .NEW_OBJ, .OBJ_LOAD, .NEW_LIST, .NEW_MAP, .IF_TRUE, .JUMP,
      .CALL_BY_VALUE, .CALL_BY_NEED, .DYNAMIC_CALL]) :
    decodeAt C o = some (.simple op, o + 1) := by
  have h0 := bytesAt_get h 0 _ rfl
  simp only [Nat.add_zero] at h0
  simp only [decodeAt, h0, VmVerify.ofCode_code, Option.bind_eq_bind, Option.bind_some]
  split <;> first | rfl | exact absurd hop (by decide)

theorem decode_const {op : Op} {n : Nat}
    (h : BytesAt C o [UInt8.ofNat op.code, UInt8.ofNat (n / 256), UInt8.ofNat (n % 256)])
    (hn : n ≤ 65535) (hop : op ∈ [Op.CONST, .LOAD, .NEW_OBJ, .OBJ_LOAD]) :
    decodeAt C o = some (.const op n, o + 3) := by
  have h0 := bytesAt_get h 0 _ rfl
  simp only [Nat.add_zero] at h0
  have hu := bytesAt_u16 h 1 rfl rfl hn
  simp only [decodeAt, h0, VmVerify.ofCode_code, Option.bind_eq_bind, Option.bind_some]
  simp only [List.mem_cons, List.not_mem_nil, or_false] at hop
  rcases hop with rfl | rfl | rfl | rfl <;> simp [hu]

theorem decode_jump {op : Op} {n : Nat}
    (h : BytesAt C o [UInt8.ofNat op.code, UInt8.ofNat (n / 256), UInt8.ofNat (n % 256)])
    (hn : n ≤ 65535) (hop : op ∈ [Op.IF_TRUE, .JUMP]) :
    decodeAt C o = some (.jump op n, o + 3) := by
  have h0 := bytesAt_get h 0 _ rfl
  simp only [Nat.add_zero] at h0
  have hu := bytesAt_u16 h 1 rfl rfl hn
  simp only [decodeAt, h0, VmVerify.ofCode_code, Option.bind_eq_bind, Option.bind_some]
  simp only [List.mem_cons, List.not_mem_nil, or_false] at hop
  rcases hop with rfl | rfl <;> simp [hu]

theorem decode_newColl {op : Op} {i n : Nat}
    (h : BytesAt C o [UInt8.ofNat op.code, UInt8.ofNat (i / 256), UInt8.ofNat (i % 256),
      UInt8.ofNat (n / 256), UInt8.ofNat (n % 256)])
    (hi : i ≤ 65535) (hn : n ≤ 65535) (hop : op ∈ [Op.NEW_LIST, .NEW_MAP]) :
    decodeAt C o = some (.newColl op i n, o + 5) := by
  have h0 := bytesAt_get h 0 _ rfl
  simp only [Nat.add_zero] at h0
  have hu := bytesAt_u16 h 1 rfl rfl hi
  have hu' := bytesAt_u16 h 3 rfl rfl hn
  simp only [decodeAt, h0, VmVerify.ofCode_code, Option.bind_eq_bind, Option.bind_some]
  simp only [List.mem_cons, List.not_mem_nil, or_false] at hop
  rcases hop with rfl | rfl <;> simp [hu, hu']

theorem decode_call {op : Op} {i a : Nat}
    (h : BytesAt C o [UInt8.ofNat op.code, UInt8.ofNat (i / 256), UInt8.ofNat (i % 256), UInt8.ofNat a])
    (hi : i ≤ 65535) (ha : a ≤ 255) (hop : op ∈ [Op.CALL_BY_VALUE, .CALL_BY_NEED]) :
    decodeAt C o = some (.call op i a, o + 4) := by
  have h0 := bytesAt_get h 0 _ rfl
  have h3 := bytesAt_get h 3 _ rfl
  simp only [Nat.add_zero] at h0
  have hu := bytesAt_u16 h 1 rfl rfl hi
  simp only [decodeAt, h0, VmVerify.ofCode_code, Option.bind_eq_bind, Option.bind_some]
  simp only [List.mem_cons, List.not_mem_nil, or_false] at hop
  rcases hop with rfl | rfl <;> simp [hu, h3, u8_val ha]

theorem decode_dyn {a : Nat}
    (h : BytesAt C o [UInt8.ofNat Op.DYNAMIC_CALL.code, UInt8.ofNat a]) (ha : a ≤ 255) :
    decodeAt C o = some (.dyn a, o + 2) := by
  have h0 := bytesAt_get h 0 _ rfl
  have h1 := bytesAt_get h 1 _ rfl
  simp only [Nat.add_zero] at h0
  simp only [decodeAt, h0, VmVerify.ofCode_code, Option.bind_eq_bind, Option.bind_some]
  simp [h1, u8_val ha]

end decode

end Yae.VmSim
