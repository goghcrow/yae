/-
  C18, "same text ⇒ `==`": the hypotheses (`Val.TextOK`, `Val.Good`), the shape of the text of
  each kind of value (`R_list`, `R_map_cons`, `R_obj`, …), a number's text (a numeric lexeme of `SqlLexNum` or one of
  three words) consists of `numChar`s, a genuine map key followed by `:` is self-delimiting (`key_prefix_unique`), the
  first character of a value's text, and the facts about types used to compare corresponding components.
-/
import Yae.Proofs.ValRelTextChars
import Yae.Proofs.ValRelEq
import Yae.Proofs.SqlLexNum
namespace Yae

def R (v : Val) : List Char := v.render.toList

section
open Num

theorem SqlLex.IsNumLex.chars {cs : List Char} (h : SqlLex.IsNumLex cs) :
    cs ≠ [] ∧ ∀ c ∈ cs, numChar c = true := by
  obtain ⟨neg, ip, fp, rfl, hne, hip, hfp⟩ := h
  refine ⟨by cases ip with | nil => exact absurd rfl hne | cons _ _ => cases neg <;> simp, ?_⟩
  simp only [List.forall_mem_append]
  refine ⟨⟨by cases neg <;> decide, fun c hc => numChar_of_isDigit (hip c hc)⟩, ?_⟩
  split
  · simp
  · intro c hc
    rcases List.mem_cons.1 hc with rfl | hc
    · decide
    · exact numChar_of_isDigit (hfp c hc)

/-- for every bit pattern, NaN and ±Inf included -/
theorem renderNumBits_chars (b : UInt64) :
    (renderNumBits b).toList ≠ [] ∧ ∀ c ∈ (renderNumBits b).toList, numChar c = true := by
  unfold renderNumBits
  split
  · exact (SqlLex.fmtInt_isNumLex _).chars
  · rcases SqlLex.fmtFloatBits_words_or_lex b with h | h
    · exact (by decide : ∀ s ∈ ["NaN", "-Inf", "+Inf"],
        s.toList ≠ [] ∧ ∀ c ∈ s.toList, numChar c = true) _ h
    · exact h.chars

theorem renderNumBits_ne_nil (b : UInt64) : (renderNumBits b).toList ≠ [] :=
  (renderNumBits_chars b).1

theorem renderNum_numChar (x : Float) : ∀ c ∈ (renderNum x).toList, numChar c = true :=
  (renderNumBits_chars x.toBits).2

/-- the key text is the one `Key()` computes for some value (of the kind named by the tag) -/
def KeyGenuine (tag : Kind) (text : String) : Prop := ∃ kv : Val, kv.key? = some (tag, text)

theorem keyGenuine_cases {tag : Kind} {text : String} (h : KeyGenuine tag text) :
    (tag = .bool ∧ ∃ b, text = boolText b) ∨ (tag = .num ∧ ∃ x, text = renderNum x) ∨
    ((tag = .str ∨ tag = .time) ∧ ∃ s, text = quote s) := by
  obtain ⟨kv, hk⟩ := h
  cases kv <;> simp only [Val.key?, Option.some.injEq, Prod.mk.injEq, reduceCtorEq] at hk
  case num x => exact Or.inr (Or.inl ⟨hk.1.symm, x, hk.2.symm⟩)
  case str s => exact Or.inr (Or.inr ⟨Or.inl hk.1.symm, s, hk.2.symm⟩)
  case bool b => exact Or.inl ⟨hk.1.symm, b, hk.2.symm⟩
  case time t => exact Or.inr (Or.inr ⟨Or.inr hk.1.symm, _, hk.2.symm⟩)

theorem key_prefix_unique {tag : Kind} {k k' : String} (hk : KeyGenuine tag k)
    (hk' : KeyGenuine tag k') (s s' : List Char)
    (h : k.toList ++ ':' :: s = k'.toList ++ ':' :: s') : k = k' ∧ s = s' := by
  have hterm : ∀ t, Term stopK (':' :: t) := fun t => Term.cons (by decide) t
  rcases keyGenuine_cases hk with ⟨ht, b, rfl⟩ | ⟨ht, x, rfl⟩ | ⟨ht, a, rfl⟩ <;>
    rcases keyGenuine_cases hk' with ⟨ht', b', rfl⟩ | ⟨ht', x', rfl⟩ | ⟨ht', a', rfl⟩
  · obtain ⟨h1, h2⟩ := prefix_unique stopK _ _ _ _ (fun c hc => (boolText_chars b c hc).2)
      (fun c hc => (boolText_chars b' c hc).2) (hterm s) (hterm s') h
    exact ⟨String.toList_inj.1 h1, by simpa using h2⟩
  · rw [ht] at ht'; cases ht'
  · rw [ht] at ht'; rcases ht' with h | h <;> cases h
  · rw [ht] at ht'; cases ht'
  · obtain ⟨h1, h2⟩ := prefix_unique stopK _ _ _ _
      (fun c hc => (numChar_not_stop (renderNum_numChar x c hc)).2)
      (fun c hc => (numChar_not_stop (renderNum_numChar x' c hc)).2) (hterm s) (hterm s') h
    exact ⟨String.toList_inj.1 h1, by simpa using h2⟩
  · rw [ht] at ht'; rcases ht' with h | h <;> cases h
  · rw [ht'] at ht; rcases ht with h | h <;> cases h
  · rw [ht'] at ht; rcases ht with h | h <;> cases h
  · obtain ⟨h1, h2⟩ := quote_prefix_unique a a' _ _ h
    exact ⟨by rw [h1], by simpa using h2⟩

theorem key_head {tag : Kind} {k : String} (hk : KeyGenuine tag k) (t : List Char) :
    ∃ c, (k.toList ++ t).head? = some c ∧ c ≠ ':' ∧ c ≠ ']' := by
  rcases keyGenuine_cases hk with ⟨_, b, rfl⟩ | ⟨_, x, rfl⟩ | ⟨_, a, rfl⟩
  · cases b
    · exact ⟨'f', rfl, by decide, by decide⟩
    · exact ⟨'t', rfl, by decide, by decide⟩
  · cases hx : (renderNum x).toList with
    | nil => exact absurd hx (renderNumBits_ne_nil x.toBits)
    | cons c r =>
      have hc := numChar_not_stop (renderNum_numChar x c (by rw [hx]; simp))
      refine ⟨c, rfl, ?_, ?_⟩
      · rintro rfl; exact absurd hc.2 (by decide)
      · rintro rfl; exact absurd hc.1 (by decide)
  · exact ⟨'"', quote_head a t, by decide, by decide⟩

end

/-- Local conditions for "the text determines the value": instants satisfy `TimeV.TextOK`; every key text of a
map is the text `Key()` computes for some value of the key's kind (true of every map the
evaluator builds; the model's `EntryList` stores arbitrary strings); no function value (function
values are never `==`, not even to themselves). -/
def Val.LocalTextOK : Val → Prop
  | .time t => t.TextOK
  | .map _ es => ∀ e ∈ es.toList, KeyGenuine e.1 e.2.1
  | .fn _ _ _ => False
  | _ => True

def Val.TextOK (v : Val) : Prop := v.All Val.LocalTextOK

def Val.LocalGood (v : Val) : Prop := v.LocalWF ∧ v.LocalTyped ∧ v.LocalTextOK

def Val.Good (v : Val) : Prop := v.All Val.LocalGood

theorem Val.good_iff (v : Val) : v.Good ↔ v.Typed ∧ v.TextOK :=
  ⟨fun h => ⟨⟨h.imp fun _ hu => hu.1, h.imp fun _ hu => hu.2.1⟩, h.imp fun _ hu => hu.2.2⟩,
    fun ⟨⟨h1, h2⟩, h3⟩ => h1.and (h2.and h3)⟩

theorem Val.Good.wf {v : Val} (h : v.Good) : v.WF := h.imp fun _ hu => hu.1

theorem Val.Typed.good {v : Val} (h : v.Typed) (ho : v.TextOK) : v.Good := (Val.good_iff v).2 ⟨h, ho⟩

theorem R_num (x : Float) : R (.num x) = (Num.renderNum x).toList := by simp [R, Val.render]
theorem R_str (a : String) : R (.str a) = (Num.quote a).toList := by simp [R, Val.render]
theorem R_bool (b : Bool) : R (.bool b) = (boolText b).toList := by simp [R, Val.render, boolText]
theorem R_time (t : TimeV) : R (.time t) = t.render.toList := by simp [R, Val.render]

theorem R_list (ty : Ty) (vs : ValList) (s : List Char) :
    R (.list ty vs) ++ s = seqT '[' ']' (vs.toList.map R) s := by
  simp only [R, Val.render]
  rw [joinStr_toList _ _ _ '[' ']' rfl rfl, renderVals_eq, List.map_map]
  rfl

/-- the entries of a map in the order in which they are rendered -/
def sortE (es : EntryList) : List (Kind × String × Val) :=
  sortBy (ltKey (fun e : Kind × String × Val => e.2.1)) es.toList

def entryText (e : Kind × String × Val) : List Char := e.2.1.toList ++ ':' :: ' ' :: R e.2.2

theorem mem_sortE {es : EntryList} {e : Kind × String × Val} : e ∈ sortE es ↔ e ∈ es.toList :=
  mem_sortBy _ _ _

theorem length_sortE (es : EntryList) : (sortE es).length = es.length := by
  rw [sortE, length_sortBy, EntryList.length_toList]

theorem R_map_nil (ty : Ty) : R (.map ty .nil) = ['[', ':', ']'] := by
  simp [R, Val.render]

theorem R_map_cons (ty : Ty) (t : Kind) (k : String) (v : Val) (es : EntryList) (s : List Char) :
    R (.map ty (.cons t k v es)) ++ s = seqT '[' ']' ((sortE (.cons t k v es)).map entryText) s := by
  rw [R, render_map, renderEntries_eq]
  have hne : (EntryList.cons t k v es).toList.map (fun e => (e.2.1, e.2.2.render)) =
      (k, v.render) :: es.toList.map (fun e => (e.2.1, e.2.2.render)) := by
    simp [EntryList.toList]
  rw [hne]
  simp only [mapText]
  rw [← hne, joinStr_toList _ _ _ '[' ']' rfl rfl,
    sortBy_map Prod.fst (fun e : Kind × String × Val => (e.2.1, e.2.2.render)),
    List.map_map, List.map_map]
  exact congrArg (fun l => seqT '[' ']' l s) (List.map_congr_left (fun e _ => by
    simp [entryText, R, String.toList_append]))

/-- the (field name, value) pairs of an object in the order in which they are rendered -/
def sortP (fs : FieldList) (vs : ValList) : List (String × Val) :=
  sortBy (ltKey Prod.fst) (objPairs fs vs)

def pairText (p : String × Val) : List Char := p.1.toList ++ ':' :: ' ' :: R p.2

theorem mem_sortP {fs : FieldList} {vs : ValList} {p : String × Val} :
    p ∈ sortP fs vs ↔ p ∈ objPairs fs vs := mem_sortBy _ _ _

theorem R_obj (fs : FieldList) (vs : ValList) (s : List Char) :
    R (.obj (.obj fs) vs) ++ s = seqT '{' '}' ((sortP fs vs).map pairText) s := by
  rw [R, render_obj, objPairs_render, objText, joinStr_toList _ _ _ '{' '}' rfl rfl,
    sortBy_map Prod.fst (fun p : String × Val => (p.1, p.2.render)), List.map_map, List.map_map]
  exact congrArg (fun l => seqT '{' '}' l s) (List.map_congr_left (fun p _ => by
    simp [pairText, R, String.toList_append]))

theorem sortP_names (fs : FieldList) (vs : ValList) (h : fs.length = vs.length) :
    (sortP fs vs).map Prod.fst = sortBy (ltKey id) fs.names := by
  rw [← objPairs_fst fs vs h, sortBy_map id Prod.fst]
  rfl

theorem R_just (el : Ty) (v : Val) :
    R (.just el v) = "Just#".toList ++ (el.render.toList ++ '(' :: (R v ++ [')'])) := by
  simp [R, Val.render, String.toList_append]
theorem R_nothing (el : Ty) :
    R (.nothing el) = "Nothing#".toList ++ (el.render.toList ++ ['(', ')']) := by
  simp [R, Val.render, String.toList_append]

/-- The text of a well-formed value without function values is not empty and does not begin with
`,` `]` `}` `)`. -/
theorem R_head (TT : TimeText) {v : Val} (hw : v.LocalWF) (ho : v.LocalTextOK) (t : List Char) :
    ∃ c, (R v ++ t).head? = some c ∧ stopV c = false := by
  cases v with
  | num x =>
    rw [R_num]
    cases hx : (Num.renderNum x).toList with
    | nil => exact absurd hx (renderNumBits_ne_nil x.toBits)
    | cons c r =>
      exact ⟨c, rfl, (numChar_not_stop (renderNum_numChar x c (by rw [hx]; simp))).1⟩
  | str a => rw [R_str]; exact ⟨'"', quote_head a t, by decide⟩
  | bool b => rw [R_bool]; cases b; exact ⟨'f', rfl, by decide⟩; exact ⟨'t', rfl, by decide⟩
  | time a =>
    rw [R_time]
    cases hx : a.render.toList with
    | nil => exact absurd hx (TT.ne a)
    | cons c r => exact ⟨c, rfl, TT.chars a ho c (by rw [hx]; simp)⟩
  | list ty vs => rw [R_list]; cases vs.toList.map R <;> exact ⟨'[', rfl, by decide⟩
  | map ty es =>
    cases es with
    | nil => rw [R_map_nil]; exact ⟨'[', rfl, by decide⟩
    | cons k tk v es =>
      rw [R_map_cons]; cases (sortE (.cons k tk v es)).map entryText <;> exact ⟨'[', rfl, by decide⟩
  | obj ty vs =>
    obtain ⟨_, fs, rfl, _⟩ := hw
    rw [R_obj]; cases (sortP fs vs).map pairText <;> exact ⟨'{', rfl, by decide⟩
  | fn ty r l => exact absurd ho (by simp [Val.LocalTextOK])
  | just el v => rw [R_just]; exact ⟨'J', rfl, by decide⟩
  | nothing el => rw [R_nothing]; exact ⟨'N', rfl, by decide⟩
  | nil => exact absurd hw (by simp [Val.LocalWF])

theorem tyEq_via {a b ta tb : Ty} (ha : a.wf = true) (hb : b.wf = true) (h1 : tyEq a ta = true)
    (h2 : tyEq ta tb = true) (h3 : tyEq b tb = true) : tyEq a b = true := by
  have h3' : tyEq tb b = true := by rw [tyEq_symm' (tyEq_wf hb h3) hb]; exact h3
  exact tyEq_trans' ha h1 (tyEq_trans' (tyEq_wf ha h1) h2 h3')

theorem objPairs_field_ty : ∀ (fs : FieldList) (vs : ValList), fs.names.Nodup →
    (∀ (i : Nat) n t v, fs.get? i = some (n, t) → vs.toList[i]? = some v →
      tyEq v.typeOf t = true) →
    ∀ n v, (n, v) ∈ objPairs fs vs → ∃ t, fs.find? n = some t ∧ tyEq v.typeOf t = true
  | .nil, _, _, _, n, v, h => by simp [objPairs, FieldList.names] at h
  | .cons _ _ _, .nil, _, _, n, v, h => by simp [objPairs, ValList.toList] at h
  | .cons m t0 fs, .cons v0 vs, hnd, hty, n, v, h => by
    simp only [FieldList.names, List.nodup_cons] at hnd
    simp only [objPairs, FieldList.names, ValList.toList, List.zip_cons_cons, List.mem_cons] at h
    rcases h with h | h
    · cases h
      exact ⟨t0, by simp [FieldList.find?], hty 0 m t0 v0 (by simp [FieldList.get?])
        (by simp [ValList.toList])⟩
    · have hn : n ∈ fs.names := (List.of_mem_zip h).1
      have hmn : m ≠ n := by rintro rfl; exact hnd.1 hn
      obtain ⟨t, hf, ht⟩ := objPairs_field_ty fs vs hnd.2
        (fun i n' t' v' hg hv => hty (i+1) n' t' v' (by simpa [FieldList.get?] using hg)
          (by simpa [ValList.toList] using hv)) n v h
      exact ⟨t, by simp [FieldList.find?, hmn, hf], ht⟩

end Yae
