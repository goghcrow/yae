/-
  Yield derivations do not depend on where the tokens sit in the array: if a cursor map `f` carries
  the tokens `[lo, hi)` of `env` to consecutive tokens of `env'` (same grammar, same `strtotime`
  table), a tree that yields a range of the former yields its image in the latter.
-/
import Yae.Proofs.ParseYieldSpan
import Yae.Proofs.ParseYieldInd
namespace Yae

/-! `h.tr`: a token test of the yield rules carries over to an environment and position that show the same token
(`hp`; the position inside the input: `hs`) and, for `nudAt` / `ledAt`, the same grammar (`hg`). -/

theorem PEnv.kindAt.tr {env env' : PEnv} {x x' : Nat} {k : String} (h : env.kindAt x k)
    (hp : env.peek x = env'.peek x') (hs : x' < env'.toks.size) : env'.kindAt x' k :=
  ⟨hs, hp ▸ h.2⟩
theorem PEnv.ledAt.tr {env env' : PEnv} {x x' : Nat} {bp : BP} {led : Led} (h : env.ledAt x bp led)
    (hg : env'.g = env.g) (hp : env.peek x = env'.peek x') (hs : x' < env'.toks.size) :
    env'.ledAt x' bp led := ⟨hs, by rw [← hp, hg]; exact h.2⟩
theorem PEnv.nudAt.tr {env env' : PEnv} {x x' : Nat} {bp : BP} {nud : Nud} (h : env.nudAt x bp nud)
    (hg : env'.g = env.g) (hp : env.peek x = env'.peek x') (hs : x' < env'.toks.size) :
    env'.nudAt x' bp nud := ⟨hs, by rw [← hp, hg]; exact h.2⟩

/-- window `[lo, hi)` of `env'` = window `[lo + d, hi + d)` of `env`: the instance of `Carries` with `f = (· - d)` -/
structure ShiftOK (env env' : PEnv) (d lo hi : Nat) : Prop where
  g : env'.g = env.g
  times : env'.times = env.times
  pk : ∀ x, lo ≤ x → x < hi → env.peek (x + d) = env'.peek x
  szf : ∀ x, lo ≤ x → x < hi → x + d < env.toks.size → x < env'.toks.size
  /-- `x = hi` included: the end of the input goes to the end of the input -/
  szb : ∀ x, lo ≤ x → x ≤ hi → x < env'.toks.size → x + d < env.toks.size

structure Carries (env env' : PEnv) (f : Nat → Nat) (lo hi : Nat) : Prop where
  g : env'.g = env.g
  times : env'.times = env.times
  succ : ∀ {x}, lo ≤ x ∧ x < hi → f (x + 1) = f x + 1
  pk : ∀ {x}, lo ≤ x ∧ x < hi → env'.peek (f x) = env.peek x
  sz : ∀ {x}, lo ≤ x ∧ x < hi → x < env.toks.size → f x < env'.toks.size
  /-- the end of the input goes to the end of the input (for `memberEOF`) -/
  eof : ∀ {x}, lo ≤ x ∧ x < hi → x + 1 = env.toks.size → f x + 1 = env'.toks.size

namespace Carries
variable {env env' : PEnv} {f : Nat → Nat} {lo hi : Nat}

theorem nud (S : Carries env env' f lo hi) {x : Nat} {bp : BP} {n : Nud}
    (h : env.nudAt x bp n) (hx : lo ≤ x ∧ x < hi) : env'.nudAt (f x) bp n :=
  h.tr S.g (S.pk hx).symm (S.sz hx h.1)

theorem led (S : Carries env env' f lo hi) {x : Nat} {bp : BP} {n : Led}
    (h : env.ledAt x bp n) (hx : lo ≤ x ∧ x < hi) : env'.ledAt (f x) bp n :=
  h.tr S.g (S.pk hx).symm (S.sz hx h.1)

theorem kind (S : Carries env env' f lo hi) {x : Nat} {k : String}
    (h : env.kindAt x k) (hx : lo ≤ x ∧ x < hi) : env'.kindAt (f x) k :=
  h.tr (S.pk hx).symm (S.sz hx h.1)

theorem timeLit (S : Carries env env' f lo hi) (t : Token) : env'.timeLit t = env.timeLit t := by
  unfold PEnv.timeLit; rw [S.times]

end Carries

theorem ShiftOK.carries {env env' : PEnv} {d lo hi : Nat} (S : ShiftOK env env' d lo hi) :
    Carries env env' (· - d) (lo + d) (hi + d) where
  g := S.g
  times := S.times
  succ := fun hx => by omega
  pk := fun {x} hx => by
    have := S.pk (x - d) (by omega) (by omega)
    rwa [Nat.sub_add_cancel (by omega), eq_comm] at this
  sz := fun {x} hx h => S.szf (x - d) (by omega) (by omega) (by omega)
  eof := fun {x} hx h => by
    have := S.szf (x - d) (by omega) (by omega) (by omega)
    have := S.szb (x - d + 1) (by omega) (by omega)
    omega

theorem YieldKind.Holds.carry {env env' : PEnv} {f : Nat → Nat} {lo hi : Nat}
    (S : Carries env env' f lo hi) {K : YieldKind} {i j : Nat} (h : K.Holds env i j) :
    lo ≤ i → j ≤ hi → K.Holds env' (f i) (f j) := by
  induction h using YieldKind.Holds.induct
  all_goals simp only [YieldKind.Holds] at *
  all_goals intro h1 h2
  case ident i _ hn | true_ i _ hn | false_ i _ hn =>
    rw [S.succ ⟨h1, h2⟩, ← S.pk ⟨h1, h2⟩]; constructor; exact S.nud hn ⟨h1, h2⟩
  case num i _ _ hn hv | str i _ _ hn hv =>
    rw [← S.pk ⟨h1, h2⟩] at hv ⊢; rw [S.succ ⟨h1, h2⟩]; constructor
    · exact S.nud hn ⟨h1, h2⟩
    · exact hv
  case time i _ _ hn he =>
    rw [← S.pk ⟨h1, h2⟩, ← S.timeLit] at he; rw [S.succ ⟨h1, h2⟩]
    exact .time (S.nud hn ⟨h1, h2⟩) he
  case group i j _ _ _ hn he hk hr ih | list i j _ _ _ hn he hk hr ih | obj i j _ _ _ hn he hk hr ih =>
    have := he.bounds
    have wi : lo ≤ i ∧ i < hi := by omega
    have wj : lo ≤ j ∧ j < hi := by omega
    rw [← S.pk wi, ← S.pk wj] at hr
    rw [S.succ wj]
    constructor
    · exact S.nud hn wi
    · exact S.succ wi ▸ ih (by omega) (by omega)
    · exact S.kind hk wj
    · exact hr
  case pre i j _ _ _ hn he hr ih =>
    have := he.bounds
    have wi : lo ≤ i ∧ i < hi := by omega
    rw [← S.pk wi] at hr ⊢
    exact .pre (S.nud hn wi) (S.succ wi ▸ ih (by omega) h2) hr
  case emptyMap i _ _ hn hc hk hr =>
    have wi : lo ≤ i ∧ i < hi := by omega
    have wc : lo ≤ i + 1 ∧ i + 1 < hi := by omega
    have wk : lo ≤ i + 2 ∧ i + 2 < hi := by omega
    have hc := S.kind hc wc
    have hk := S.kind hk wk
    rw [← S.pk wi, ← S.pk wk] at hr
    rw [S.succ wi] at hc
    rw [S.succ wc, S.succ wi] at hk hr
    rw [S.succ wk, S.succ wc, S.succ wi]
    exact .emptyMap (S.nud hn wi) hc hk hr
  case map i j _ _ _ hn he hne hk hr ih =>
    have := he.bounds
    have wi : lo ≤ i ∧ i < hi := by omega
    have wj : lo ≤ j ∧ j < hi := by omega
    rw [← S.pk wi, ← S.pk wj] at hr
    rw [S.succ wj]
    exact .map (S.nud hn wi) (S.succ wi ▸ ih (by omega) (by omega)) hne (S.kind hk wj) hr
  case binary i j k _ _ _ _ _ _ hl hd hfx hr hg ihl ihr =>
    have := hl.bounds
    have := hr.bounds
    have wj : lo ≤ j ∧ j < hi := by omega
    rw [← S.pk wj]
    exact .binary (ihl h1 (by omega)) (S.led hd wj) hfx (S.succ wj ▸ ihr (by omega) h2) hg
  case post i j _ _ _ hl hd hg ihl =>
    have := hl.bounds
    have wj : lo ≤ j ∧ j < hi := by omega
    rw [← S.pk wj] at hg ⊢
    rw [S.succ wj]
    exact .post (ihl h1 (by omega)) (S.led hd wj) hg
  case ternary i j k n _ _ _ _ _ hl hd hm hk hr hg ihl ihm ihr =>
    have := hl.bounds
    have := hm.bounds
    have := hr.bounds
    have wj : lo ≤ j ∧ j < hi := by omega
    have wk : lo ≤ k ∧ k < hi := by omega
    rw [← S.pk wj]
    exact .ternary (ihl h1 (by omega)) (S.led hd wj) (S.succ wj ▸ ihm (by omega) (by omega))
      (S.kind hk wk) (S.succ wk ▸ ihr (by omega) h2) hg
  case call i j k _ _ _ _ hc hd ha hk hg ihc iha | subscript i j k _ _ _ _ hc hd ha hk hg ihc iha =>
    have := hc.bounds
    have := ha.bounds
    have wj : lo ≤ j ∧ j < hi := by omega
    have wk : lo ≤ k ∧ k < hi := by omega
    rw [← S.pk wk] at hg
    rw [← S.pk wj, S.succ wk]
    constructor
    · exact ihc h1 (by omega)
    · exact S.led hd wj
    · exact S.succ wj ▸ iha (by omega) (by omega)
    · exact S.kind hk wk
    · exact hg
  case methodCall i j k _ _ _ hc hm hp ha hk hg ihc iha =>
    have := hc.bounds
    have := ha.bounds
    have wj : lo ≤ j ∧ j < hi := by omega
    have wk : lo ≤ k ∧ k < hi := by omega
    rw [← S.pk wk] at hg
    rw [← S.pk wj, S.succ wk]
    exact .methodCall (ihc h1 (by omega)) hm (S.kind hp wj)
      (S.succ wj ▸ iha (by omega) (by omega)) (S.kind hk wk) hg
  case member i j _ _ _ hl hd hs hg ihl =>
    have := hl.bounds
    have wj : lo ≤ j ∧ j < hi := by omega
    have wn : lo ≤ j + 1 ∧ j + 1 < hi := by omega
    have hs := S.sz wn hs
    rw [← S.pk wn] at hg ⊢
    rw [S.succ wj] at hs hg ⊢
    rw [← S.pk wj, S.succ wn, S.succ wj]
    exact .member (ihl h1 (by omega)) (S.led hd wj) hs hg
  case memberEOF i j _ _ _ hl hd hs hg ihl =>
    have := hl.bounds
    have wj : lo ≤ j ∧ j < hi := by omega
    rw [← S.pk wj, S.succ wj]
    exact .memberEOF (ihl h1 (by omega)) (S.led hd wj) (S.eof wj hs) hg
  case anil | enil | pnil | fnil => constructor
  case asome ih => exact .some (ih h1 h2)
  case sone ih | eone ih => exact .one (ih h1 h2)
  case scons j _ h hc hs ih ihs | econs j _ h hc hs ih ihs =>
    have := h.bounds
    have := hs.bounds
    have wj : lo ≤ j ∧ j < hi := by omega
    exact .cons (ih h1 (by omega)) (S.kind hc wj) (S.succ wj ▸ ihs (by omega) h2)
  case pone j _ hk hc hv ihk ihv =>
    have := hk.bounds
    have := hv.bounds
    have wj : lo ≤ j ∧ j < hi := by omega
    exact .one (ihk h1 (by omega)) (S.kind hc wj) (S.succ wj ▸ ihv (by omega) h2)
  case pcons j m _ hk hc hv hcm hs ihk ihv ihs =>
    have := hk.bounds
    have := hv.bounds
    have := hs.bounds
    have wj : lo ≤ j ∧ j < hi := by omega
    have wm : lo ≤ m ∧ m < hi := by omega
    exact .cons (ihk h1 (by omega)) (S.kind hc wj) (S.succ wj ▸ ihv (by omega) (by omega))
      (S.kind hcm wm) (S.succ wm ▸ ihs (by omega) h2)
  case fone i _ hn hc hv ihv =>
    have := hv.bounds
    have wi : lo ≤ i ∧ i < hi := by omega
    have wc : lo ≤ i + 1 ∧ i + 1 < hi := by omega
    have hc := S.kind hc wc
    have hv := ihv (by omega) h2
    rw [S.succ wi] at hc
    rw [S.succ wc, S.succ wi] at hv
    rw [← S.pk wi]
    exact .one (S.kind hn wi) hc hv
  case fcons i j _ hn hc hv hcm hs ihv ihs =>
    have := hv.bounds
    have := hs.bounds
    have wi : lo ≤ i ∧ i < hi := by omega
    have wc : lo ≤ i + 1 ∧ i + 1 < hi := by omega
    have wj : lo ≤ j ∧ j < hi := by omega
    have hc := S.kind hc wc
    have hv := ihv (by omega) (by omega)
    rw [S.succ wi] at hc
    rw [S.succ wc, S.succ wi] at hv
    rw [← S.pk wi]
    exact .cons (S.kind hn wi) hc hv (S.kind hcm wj) (S.succ wj ▸ ihs (by omega) h2)

theorem Yields.carry {env env' : PEnv} {f : Nat → Nat} {lo hi : Nat} (S : Carries env env' f lo hi) :
    ∀ {t i j}, Yields env t i j → lo ≤ i → j ≤ hi → Yields env' t (f i) (f j) :=
  fun h => YieldKind.Holds.carry S (K := .expr _) h
theorem YArgs.carry {env env' : PEnv} {f : Nat → Nat} {lo hi : Nat} (S : Carries env env' f lo hi) :
    ∀ {as i j}, YArgs env as i j → lo ≤ i → j ≤ hi → YArgs env' as (f i) (f j) :=
  fun h => YieldKind.Holds.carry S (K := .args _) h
theorem YSeq.carry {env env' : PEnv} {f : Nat → Nat} {lo hi : Nat} (S : Carries env env' f lo hi) :
    ∀ {as i j}, YSeq env as i j → lo ≤ i → j ≤ hi → YSeq env' as (f i) (f j) :=
  fun h => YieldKind.Holds.carry S (K := .seq _) h
theorem YElems.carry {env env' : PEnv} {f : Nat → Nat} {lo hi : Nat} (S : Carries env env' f lo hi) :
    ∀ {as i j}, YElems env as i j → lo ≤ i → j ≤ hi → YElems env' as (f i) (f j) :=
  fun h => YieldKind.Holds.carry S (K := .elems _) h
theorem YPairs.carry {env env' : PEnv} {f : Nat → Nat} {lo hi : Nat} (S : Carries env env' f lo hi) :
    ∀ {ps i j}, YPairs env ps i j → lo ≤ i → j ≤ hi → YPairs env' ps (f i) (f j) :=
  fun h => YieldKind.Holds.carry S (K := .pairs _) h
theorem YFields.carry {env env' : PEnv} {f : Nat → Nat} {lo hi : Nat} (S : Carries env env' f lo hi) :
    ∀ {fs i j}, YFields env fs i j → lo ≤ i → j ≤ hi → YFields env' fs (f i) (f j) :=
  fun h => YieldKind.Holds.carry S (K := .fields _) h

end Yae
