/-
  `Del env env' a b`: `env'` is `env` without the tokens `a` (the `(`) and `b` (the `)`).  If
  `Group p e` yields `[a, b+1)` and occurs in `t` (`UG p e t _`), then the tree `t'` without it
  yields the corresponding range of `env'` (`YieldKind.Holds.ungroup`).  The induction on the yield of `t` follows
  the path from the root to that node: the children left of the path are carried over as they are (`Del.left`),
  those right of it two places down (`Del.right`), and `pos.Range` succeeds on the spans found in `env'` (`range_ex`).
-/
import Yae.Proofs.ParseUngroup
import Yae.Proofs.ParseShift
namespace Yae

structure Del (env env' : PEnv) (a b : Nat) : Prop where
  ho : env.Ordered
  ho' : env'.Ordered
  s0 : ShiftOK env env' 0 0 a
  s1 : ShiftOK env env' 1 a (b - 1)
  s2 : ShiftOK env env' 2 (b - 1) env'.toks.size
  hab : a + 2 ≤ b
  sz : env.toks.size = env'.toks.size + 2
  hb : b < env.toks.size

namespace Del
variable {env env' : PEnv} {a b : Nat}

theorem tokL (D : Del env env' a b) {x : Nat} (hx : x < a) :
    x < env'.toks.size ∧ env.peek x = env'.peek x :=
  ⟨by have := D.sz; have := D.hab; have := D.hb; omega,
    D.s0.pk x (Nat.zero_le _) hx⟩

theorem tokR (D : Del env env' a b) {x : Nat} (hx : b < x + 2) (hlt : x + 2 < env.toks.size) :
    x < env'.toks.size ∧ env.peek (x + 2) = env'.peek x := by
  have := D.sz
  exact ⟨by omega, D.s2.pk x (by omega) (by omega)⟩

theorem left (D : Del env env' a b) {t i j} (h : Yields env t i j) (hj : j ≤ a) :
    Yields env' t i j := h.carry D.s0.carries (Nat.zero_le _) hj
theorem leftA (D : Del env env' a b) {t i j} (h : YArgs env t i j) (hj : j ≤ a) :
    YArgs env' t i j := h.carry D.s0.carries (Nat.zero_le _) hj
theorem leftS (D : Del env env' a b) {t i j} (h : YSeq env t i j) (hj : j ≤ a) :
    YSeq env' t i j := h.carry D.s0.carries (Nat.zero_le _) hj
theorem leftE (D : Del env env' a b) {t i j} (h : YElems env t i j) (hj : j ≤ a) :
    YElems env' t i j := h.carry D.s0.carries (Nat.zero_le _) hj
theorem leftP (D : Del env env' a b) {t i j} (h : YPairs env t i j) (hj : j ≤ a) :
    YPairs env' t i j := h.carry D.s0.carries (Nat.zero_le _) hj
theorem leftF (D : Del env env' a b) {t i j} (h : YFields env t i j) (hj : j ≤ a) :
    YFields env' t i j := h.carry D.s0.carries (Nat.zero_le _) hj

theorem right (D : Del env env' a b) {t i j} (h : Yields env t (i + 2) j) (hi : b < i + 2) :
    ∃ j', j = j' + 2 ∧ Yields env' t i j' := by
  have := h.bounds; have := D.sz
  exact ⟨j - 2, by omega, h.carry D.s2.carries (by omega) (by omega)⟩
theorem rightA (D : Del env env' a b) {t i j} (h : YArgs env t (i + 2) j) (hi : b < i + 2)
    (hs : j ≤ env.toks.size) : ∃ j', j = j' + 2 ∧ YArgs env' t i j' := by
  have := h.bounds; have := D.sz
  exact ⟨j - 2, by omega, h.carry D.s2.carries (by omega) (by omega)⟩

end Del

/-- The derivation `UG p e t t0` that is given only says WHERE in `t` the node occurs; the tree `t'` that is
produced differs from `t0` in the spans of the node's ancestors, which are those `pos.Range` computes in `env'`.
`j ≤ env.toks.size` is used for the lists only, where a tail right of the group is carried two places down. -/
def Ungroups (env env' : PEnv) (p : Pos) (e : Expr) (a b : Nat) : YieldKind → Nat → Nat → Prop
  | .expr t, i, j => ∀ t0, UG p e t t0 →
      i ≤ a ∧ b + 1 ≤ j ∧ ∃ j' t', j = j' + 2 ∧ UG p e t t' ∧ Yields env' t' i j'
  | .args as, i, j => j ≤ env.toks.size → ∀ X, UGL p e (ExprList.ofList as) X →
      i ≤ a ∧ b + 1 ≤ j ∧ ∃ j' as', j = j' + 2 ∧
        UGL p e (ExprList.ofList as) (ExprList.ofList as') ∧ YArgs env' as' i j'
  | .seq as, i, j => j ≤ env.toks.size → ∀ X, UGL p e (ExprList.ofList as) X →
      i ≤ a ∧ b + 1 ≤ j ∧ ∃ j' as', j = j' + 2 ∧
        UGL p e (ExprList.ofList as) (ExprList.ofList as') ∧ YSeq env' as' i j'
  | .elems as, i, j => j ≤ env.toks.size → ∀ X, UGL p e (ExprList.ofList as) X →
      i ≤ a ∧ b + 1 ≤ j ∧ ∃ j' as', j = j' + 2 ∧
        UGL p e (ExprList.ofList as) (ExprList.ofList as') ∧ YElems env' as' i j'
  | .pairs ps, i, j => j ≤ env.toks.size → ∀ X, UGP p e (PairList.ofList ps) X →
      i ≤ a ∧ b + 1 ≤ j ∧ ∃ j' ps', j = j' + 2 ∧ ps' ≠ [] ∧
        UGP p e (PairList.ofList ps) (PairList.ofList ps') ∧ YPairs env' ps' i j'
  | .fields fs, i, j => j ≤ env.toks.size → ∀ X, UGF p e (FieldEList.ofList fs) X →
      i ≤ a ∧ b + 1 ≤ j ∧ ∃ j' fs', j = j' + 2 ∧
        UGF p e (FieldEList.ofList fs) (FieldEList.ofList fs') ∧ YFields env' fs' i j'

theorem YieldKind.Holds.ungroup {env env' : PEnv} {a b : Nat} (D : Del env env' a b) {p : Pos} {e : Expr}
    (hG : Yields env (.group p e) a (b + 1)) {K : YieldKind} {i j : Nat} (h : K.Holds env i j) :
    Ungroups env env' p e a b K i j := by
  induction h using YieldKind.Holds.induct
  all_goals simp only [Ungroups] at *
  case ident | true_ | false_ | num | str =>
    intro _ hU
    cases hU
  case time _ _ _ _ he =>
    intro _ hU
    obtain ⟨v, hv⟩ := timeLit_ok he
    rw [hv] at hU
    cases hU
  case emptyMap =>
    intro _ hU
    cases hU with | map h => cases h
  case group i j0 _ x rg hn he hk hr ih_he =>
    intro _ hU
    cases hU with
    | here =>
      -- the node itself: its span is that of `[a, b + 1)`, so it was read from there
      obtain ⟨rfl, e2⟩ := ((Yields.group hn he hk hr).span D.ho).inj D.ho (hG.span D.ho)
      have hab := D.hab
      exact ⟨by omega, by omega, j0 - 1, _, by omega, .here,
        he.carry D.s1.carries (by omega) (by omega)⟩
    | group hx0 =>
      obtain ⟨h1, h2, j0', x', rfl, hUx, hy⟩ := ih_he _ hx0
      obtain ⟨hl, pl⟩ := D.tokL (x := i) (by omega)
      obtain ⟨hr', pr⟩ := D.tokR (x := j0') (by omega) hk.1
      rw [pl, pr] at hr
      exact ⟨by omega, by omega, j0' + 1, _, rfl, .group hUx,
        .group (hn.tr D.s0.g pl hl) hy (hk.tr pr hr') hr⟩
  case pre i _ _ _ _ hn he hr ih_he =>
    intro _ hU
    cases hU with
    | unary hx0 =>
      obtain ⟨h1, h2, j', x', ej, hUx, hy⟩ := ih_he _ hx0
      obtain ⟨hl, pl⟩ := D.tokL (x := i) (by omega)
      obtain ⟨rg', hrg⟩ := range_ex D.ho' (env'.span_tok hl) (hy.span D.ho') (Nat.le_succ _)
      have hY := Yields.pre (hn.tr D.s0.g pl hl) hy hrg
      rw [← pl] at hY
      exact ⟨by omega, h2, j', _, ej, .unary hUx, hY⟩
  case list i j0 _ _ _ hn he hk hr ih_he =>
    intro _ hU
    cases hU with
    | list hes0 =>
      obtain ⟨h1, h2, j0', es', rfl, hUe, hy⟩ := ih_he (Nat.le_of_lt hk.1) _ hes0
      obtain ⟨hl, pl⟩ := D.tokL (x := i) (by omega)
      obtain ⟨hr', pr⟩ := D.tokR (x := j0') (by omega) hk.1
      rw [pl, pr] at hr
      exact ⟨by omega, by omega, j0' + 1, _, rfl, .list hUe,
        .list (hn.tr D.s0.g pl hl) hy (hk.tr pr hr') hr⟩
  case map i j0 _ _ _ hn he hne hk hr ih_he =>
    intro _ hU
    cases hU with
    | map hps0 =>
      obtain ⟨h1, h2, j0', ps', rfl, hne', hUe, hy⟩ := ih_he (Nat.le_of_lt hk.1) _ hps0
      obtain ⟨hl, pl⟩ := D.tokL (x := i) (by omega)
      obtain ⟨hr', pr⟩ := D.tokR (x := j0') (by omega) hk.1
      rw [pl, pr] at hr
      exact ⟨by omega, by omega, j0' + 1, _, rfl, .map hUe,
        .map (hn.tr D.s0.g pl hl) hy hne' (hk.tr pr hr') hr⟩
  case obj i j0 _ _ _ hn he hk hr ih_he =>
    intro _ hU
    cases hU with
    | obj hfs0 =>
      obtain ⟨h1, h2, j0', fs', rfl, hUe, hy⟩ := ih_he (Nat.le_of_lt hk.1) _ hfs0
      obtain ⟨hl, pl⟩ := D.tokL (x := i) (by omega)
      obtain ⟨hr', pr⟩ := D.tokR (x := j0') (by omega) hk.1
      rw [pl, pr] at hr
      exact ⟨by omega, by omega, j0' + 1, _, rfl, .obj hUe,
        .obj (hn.tr D.s0.g pl hl) hy (hk.tr pr hr') hr⟩
  case binary i j0 j _ _ _ _ _ _ hl hd hfx hr hg ih_hl ih_hr =>
    intro _ hU
    have hbl := hl.bounds
    have hbr := hr.bounds
    cases hU with
    | binL hl0 =>
      obtain ⟨h1, h2, j0', l', rfl, hUl, hyl⟩ := ih_hl _ hl0
      obtain ⟨ht, pt⟩ := D.tokR (x := j0') (by omega) hd.1
      obtain ⟨j', rfl, hyr⟩ := D.right hr (by omega)
      obtain ⟨rg', hrg⟩ := range_ex D.ho' (hyl.span D.ho') (hyr.span D.ho') (by omega)
      have hY := Yields.binary hyl (hd.tr D.s0.g pt ht) hfx hyr hrg
      rw [← pt] at hY
      exact ⟨h1, by omega, j', _, rfl, .binL hUl, hY⟩
    | binR hr0 =>
      obtain ⟨h1, h2, j', r', ej, hUr, hyr⟩ := ih_hr _ hr0
      obtain ⟨ht, pt⟩ := D.tokL (x := j0) (by omega)
      have hyl := D.left hl (by omega)
      obtain ⟨rg', hrg⟩ := range_ex D.ho' (hyl.span D.ho') (hyr.span D.ho') (by omega)
      have hY := Yields.binary hyl (hd.tr D.s0.g pt ht) hfx hyr hrg
      rw [← pt] at hY
      exact ⟨by omega, h2, j', _, ej, .binR hUr, hY⟩
  case post i j0 _ _ _ hl hd hg ih_hl =>
    intro _ hU
    cases hU with
    | unary hl0 =>
      obtain ⟨h1, h2, j0', l', rfl, hUl, hyl⟩ := ih_hl _ hl0
      obtain ⟨ht, pt⟩ := D.tokR (x := j0') (by omega) hd.1
      obtain ⟨rg', hrg⟩ := range_ex D.ho' (hyl.span D.ho') (env'.span_tok ht)
        (by have := hyl.bounds; omega)
      have hY := Yields.post hyl (hd.tr D.s0.g pt ht) hrg
      rw [← pt] at hY
      exact ⟨h1, by omega, j0' + 1, _, rfl, .unary hUl, hY⟩
  case ternary i j0 k0 j _ _ _ _ _ hl hd hm hk hr hg ih_hl ih_hm ih_hr =>
    intro _ hU
    have hbl := hl.bounds
    have hbm := hm.bounds
    have hbr := hr.bounds
    cases hU with
    | ternL hl0 =>
      obtain ⟨h1, h2, j0', l', rfl, hUl, hyl⟩ := ih_hl _ hl0
      obtain ⟨ht, pt⟩ := D.tokR (x := j0') (by omega) hd.1
      obtain ⟨k0', rfl, hym⟩ := D.right hm (by omega)
      obtain ⟨htk, ptk⟩ := D.tokR (x := k0') (by omega) hk.1
      obtain ⟨j', rfl, hyr⟩ := D.right hr (by omega)
      obtain ⟨rg', hrg⟩ := range_ex D.ho' (hyl.span D.ho') (hyr.span D.ho')
        (by have := hym.bounds; omega)
      have hY := Yields.ternary hyl (hd.tr D.s0.g pt ht) hym (hk.tr ptk htk) hyr hrg
      rw [← pt] at hY
      exact ⟨h1, by omega, j', _, rfl, .ternL hUl, hY⟩
    | ternM hm0 =>
      obtain ⟨h1, h2, k0', m', rfl, hUm, hym⟩ := ih_hm _ hm0
      obtain ⟨ht, pt⟩ := D.tokL (x := j0) (by omega)
      have hyl := D.left hl (by omega)
      obtain ⟨htk, ptk⟩ := D.tokR (x := k0') (by omega) hk.1
      obtain ⟨j', rfl, hyr⟩ := D.right hr (by omega)
      obtain ⟨rg', hrg⟩ := range_ex D.ho' (hyl.span D.ho') (hyr.span D.ho')
        (by have := hym.bounds; omega)
      have hY := Yields.ternary hyl (hd.tr D.s0.g pt ht) hym (hk.tr ptk htk) hyr hrg
      rw [← pt] at hY
      exact ⟨by omega, by omega, j', _, rfl, .ternM hUm, hY⟩
    | ternR hr0 =>
      obtain ⟨h1, h2, j', r', ej, hUr, hyr⟩ := ih_hr _ hr0
      obtain ⟨ht, pt⟩ := D.tokL (x := j0) (by omega)
      obtain ⟨htk, ptk⟩ := D.tokL (x := k0) (by omega)
      have hyl := D.left hl (by omega)
      have hym := D.left hm (by omega)
      obtain ⟨rg', hrg⟩ := range_ex D.ho' (hyl.span D.ho') (hyr.span D.ho') (by omega)
      have hY := Yields.ternary hyl (hd.tr D.s0.g pt ht) hym (hk.tr ptk htk) hyr hrg
      rw [← pt] at hY
      exact ⟨by omega, h2, j', _, ej, .ternR hUr, hY⟩
  case call i j0 k0 _ _ _ _ hc hd ha hk hg ih_hc ih_ha =>
    intro _ hU
    have hbc := hc.bounds
    have hba := ha.bounds
    cases hU with
    | callee hc0 =>
      obtain ⟨h1, h2, j0', c', rfl, hUc, hyc⟩ := ih_hc _ hc0
      obtain ⟨ht, pt⟩ := D.tokR (x := j0') (by omega) hd.1
      obtain ⟨k0', rfl, hya⟩ := D.rightA ha (by omega) (Nat.le_of_lt hk.1)
      obtain ⟨htk, ptk⟩ := D.tokR (x := k0') (by omega) hk.1
      obtain ⟨rg', hrg⟩ := range_ex D.ho' (hyc.span D.ho') (env'.span_tok htk)
        (by have := hya.bounds; have := hyc.bounds; omega)
      have hY := Yields.call hyc (hd.tr D.s0.g pt ht) hya (hk.tr ptk htk) hrg
      rw [← pt] at hY
      exact ⟨h1, by omega, k0' + 1, _, rfl, .callee hUc, hY⟩
    | args has0 =>
      obtain ⟨h1, h2, k0', as', rfl, hUa, hya⟩ := ih_ha (Nat.le_of_lt hk.1) _ has0
      obtain ⟨ht, pt⟩ := D.tokL (x := j0) (by omega)
      have hyc := D.left hc (by omega)
      obtain ⟨htk, ptk⟩ := D.tokR (x := k0') (by omega) hk.1
      obtain ⟨rg', hrg⟩ := range_ex D.ho' (hyc.span D.ho') (env'.span_tok htk)
        (by have := hya.bounds; omega)
      have hY := Yields.call hyc (hd.tr D.s0.g pt ht) hya (hk.tr ptk htk) hrg
      rw [← pt] at hY
      exact ⟨by omega, by omega, k0' + 1, _, rfl, .args hUa, hY⟩
  case methodCall i j0 k0 _ _ _ hc hm hp ha hk hg ih_hc ih_ha =>
    intro _ hU
    have hbc := hc.bounds
    have hba := ha.bounds
    cases hU with
    | callee hc0 =>
      obtain ⟨h1, h2, j0', c', rfl, hUc, hyc⟩ := ih_hc _ hc0
      obtain ⟨ht, pt⟩ := D.tokR (x := j0') (by omega) hp.1
      obtain ⟨k0', rfl, hya⟩ := D.rightA ha (by omega) (Nat.le_of_lt hk.1)
      obtain ⟨htk, ptk⟩ := D.tokR (x := k0') (by omega) hk.1
      obtain ⟨rg', hrg⟩ := range_ex D.ho' (hyc.span D.ho') (env'.span_tok htk)
        (by have := hya.bounds; have := hyc.bounds; omega)
      have hY := Yields.methodCall hyc (hUc.isMember hm) (hp.tr pt ht) hya (hk.tr ptk htk) hrg
      rw [← pt] at hY
      exact ⟨h1, by omega, k0' + 1, _, rfl, .callee hUc, hY⟩
    | args has0 =>
      obtain ⟨h1, h2, k0', as', rfl, hUa, hya⟩ := ih_ha (Nat.le_of_lt hk.1) _ has0
      obtain ⟨ht, pt⟩ := D.tokL (x := j0) (by omega)
      have hyc := D.left hc (by omega)
      obtain ⟨htk, ptk⟩ := D.tokR (x := k0') (by omega) hk.1
      obtain ⟨rg', hrg⟩ := range_ex D.ho' (hyc.span D.ho') (env'.span_tok htk)
        (by have := hya.bounds; omega)
      have hY := Yields.methodCall hyc hm (hp.tr pt ht) hya (hk.tr ptk htk) hrg
      rw [← pt] at hY
      exact ⟨by omega, by omega, k0' + 1, _, rfl, .args hUa, hY⟩
  case member i j0 _ _ _ hl hd hi hg ih_hl =>
    intro _ hU
    cases hU with
    | member ho0 =>
      obtain ⟨h1, h2, j0', o', rfl, hUo, hyo⟩ := ih_hl _ ho0
      obtain ⟨ht, pt⟩ := D.tokR (x := j0') (by omega) hd.1
      obtain ⟨htn, ptn⟩ := D.tokR (x := j0' + 1) (by omega) hi
      obtain ⟨rg', hrg⟩ := range_ex D.ho' (hyo.span D.ho') (env'.span_tok htn)
        (by have := hyo.bounds; omega)
      have hY := Yields.member hyo (hd.tr D.s0.g pt ht) htn hrg
      rw [← pt, ← ptn] at hY
      exact ⟨h1, by omega, j0' + 2, _, rfl, .member hUo, hY⟩
  case memberEOF _ _ _ _ _ hl _ _ hg ih_hl =>
    intro _ _
    exact ((hl.span D.ho).not_range_eof D.ho hg).elim
  case subscript i j0 k0 _ _ _ _ hv hd hx hk hg ih_hv ih_hx =>
    intro _ hU
    have hbv := hv.bounds
    have hbx := hx.bounds
    cases hU with
    | subV hv0 =>
      obtain ⟨h1, h2, j0', v', rfl, hUv, hyv⟩ := ih_hv _ hv0
      obtain ⟨ht, pt⟩ := D.tokR (x := j0') (by omega) hd.1
      obtain ⟨k0', rfl, hyx⟩ := D.right hx (by omega)
      obtain ⟨htk, ptk⟩ := D.tokR (x := k0') (by omega) hk.1
      obtain ⟨rg', hrg⟩ := range_ex D.ho' (hyv.span D.ho') (env'.span_tok htk)
        (by have := hyx.bounds; have := hyv.bounds; omega)
      have hY := Yields.subscript hyv (hd.tr D.s0.g pt ht) hyx (hk.tr ptk htk) hrg
      rw [← pt] at hY
      exact ⟨h1, by omega, k0' + 1, _, rfl, .subV hUv, hY⟩
    | subI hx0 =>
      obtain ⟨h1, h2, k0', x', rfl, hUx, hyx⟩ := ih_hx _ hx0
      obtain ⟨ht, pt⟩ := D.tokL (x := j0) (by omega)
      have hyv := D.left hv (by omega)
      obtain ⟨htk, ptk⟩ := D.tokR (x := k0') (by omega) hk.1
      obtain ⟨rg', hrg⟩ := range_ex D.ho' (hyv.span D.ho') (env'.span_tok htk)
        (by have := hyx.bounds; omega)
      have hY := Yields.subscript hyv (hd.tr D.s0.g pt ht) hyx (hk.tr ptk htk) hrg
      rw [← pt] at hY
      exact ⟨by omega, by omega, k0' + 1, _, rfl, .subI hUx, hY⟩
  case anil | enil | pnil | fnil =>
    intro _ _ hU
    cases hU
  case asome _ _ _ h ih_h =>
    intro hs X hU
    obtain ⟨h1, h2, j', as', ej, hUa, hy⟩ := ih_h hs X hU
    exact ⟨h1, h2, j', as', ej, hUa, .some hy⟩
  case sone x _ _ h ih_h | eone x _ _ h ih_h =>
    intro _ X hU
    cases hU with
    | head hx0 =>
      obtain ⟨h1, h2, j', x', ej, hUx, hy⟩ := ih_h _ hx0
      exact ⟨h1, h2, j', [x'], ej, .head hUx, .one hy⟩
    | tail hn =>
      cases hn
  case scons x xs i j0 j h hc hs ih_h ih_hs | econs x xs i j0 j h hc hs ih_h ih_hs =>
    intro hsz X hU
    have hb1 := h.bounds
    have hb2 := hs.bounds
    cases hU with
    | head hx0 =>
      obtain ⟨h1, h2, j0', x', rfl, hUx, hy⟩ := ih_h _ hx0
      obtain ⟨ht, pt⟩ := D.tokR (x := j0') (by omega) hc.1
      have hys := hs.carry D.s2.carries (by omega) (by have := D.sz; omega)
      exact ⟨h1, by omega, j - 2, x' :: xs, by omega, .head hUx, .cons hy (hc.tr pt ht) hys⟩
    | tail hxs0 =>
      obtain ⟨h1, h2, j', xs', ej, hUs, hys⟩ := ih_hs hsz _ hxs0
      obtain ⟨ht, pt⟩ := D.tokL (x := j0) (by omega)
      exact ⟨by omega, h2, j', x :: xs', ej, .tail hUs, .cons (D.left h (by omega)) (hc.tr pt ht) hys⟩
  case pone k v i j0 j hk hc hv ih_hk ih_hv =>
    intro _ X hU
    have hb1 := hk.bounds
    have hb2 := hv.bounds
    cases hU with
    | key hk0 =>
      obtain ⟨h1, h2, j0', k', rfl, hUk, hy⟩ := ih_hk _ hk0
      obtain ⟨ht, pt⟩ := D.tokR (x := j0') (by omega) hc.1
      obtain ⟨j', rfl, hyv⟩ := D.right hv (by omega)
      exact ⟨h1, by omega, j', [(k', v)], rfl, by simp, .key hUk, .one hy (hc.tr pt ht) hyv⟩
    | val hv0 =>
      obtain ⟨h1, h2, j', v', ej, hUv, hy⟩ := ih_hv _ hv0
      obtain ⟨ht, pt⟩ := D.tokL (x := j0) (by omega)
      exact ⟨by omega, h2, j', [(k, v')], ej, by simp, .val hUv,
        .one (D.left hk (by omega)) (hc.tr pt ht) hy⟩
    | tail hn =>
      cases hn
  case pcons k v ps i j0 m0 j hk hc hv hcm hs ih_hk ih_hv ih_hs =>
    intro hsz X hU
    have hb1 := hk.bounds
    have hb2 := hv.bounds
    have hb3 := hs.bounds
    cases hU with
    | key hk0 =>
      obtain ⟨h1, h2, j0', k', rfl, hUk, hy⟩ := ih_hk _ hk0
      obtain ⟨ht, pt⟩ := D.tokR (x := j0') (by omega) hc.1
      obtain ⟨m0', rfl, hyv⟩ := D.right hv (by omega)
      obtain ⟨htm, ptm⟩ := D.tokR (x := m0') (by omega) hcm.1
      have hys := hs.carry D.s2.carries (by omega) (by have := D.sz; omega)
      exact ⟨h1, by omega, j - 2, (k', v) :: ps, by omega, by simp, .key hUk,
        .cons hy (hc.tr pt ht) hyv (hcm.tr ptm htm) hys⟩
    | val hv0 =>
      obtain ⟨h1, h2, m0', v', rfl, hUv, hy⟩ := ih_hv _ hv0
      obtain ⟨ht, pt⟩ := D.tokL (x := j0) (by omega)
      obtain ⟨htm, ptm⟩ := D.tokR (x := m0') (by omega) hcm.1
      have hys := hs.carry D.s2.carries (by omega) (by have := D.sz; omega)
      exact ⟨by omega, by omega, j - 2, (k, v') :: ps, by omega, by simp, .val hUv,
        .cons (D.left hk (by omega)) (hc.tr pt ht) hy (hcm.tr ptm htm) hys⟩
    | tail hps0 =>
      obtain ⟨h1, h2, j', ps', ej, _, hUs, hys⟩ := ih_hs hsz _ hps0
      obtain ⟨ht, pt⟩ := D.tokL (x := j0) (by omega)
      obtain ⟨htm, ptm⟩ := D.tokL (x := m0) (by omega)
      exact ⟨by omega, h2, j', (k, v) :: ps', ej, by simp, .tail hUs,
        .cons (D.left hk (by omega)) (hc.tr pt ht) (D.left hv (by omega)) (hcm.tr ptm htm) hys⟩
  case fone v i _ hn hc hv ih_hv =>
    intro _ X hU
    cases hU with
    | head hv0 =>
      obtain ⟨h1, h2, j', v', ej, hUv, hy⟩ := ih_hv _ hv0
      obtain ⟨ht, pt⟩ := D.tokL (x := i) (by omega)
      obtain ⟨ht1, pt1⟩ := D.tokL (x := i + 1) (by omega)
      have hY := YFields.one (hn.tr pt ht) (hc.tr pt1 ht1) hy
      rw [← pt] at hY
      exact ⟨by omega, h2, j', [((env.peek i).lexeme, v')], ej, .head hUv, hY⟩
    | tail hnil =>
      cases hnil
  case fcons v fs i j0 j hn hc hv hcm hs ih_hv ih_hs =>
    intro hsz X hU
    have hb2 := hv.bounds
    have hb3 := hs.bounds
    cases hU with
    | head hv0 =>
      obtain ⟨h1, h2, j0', v', rfl, hUv, hy⟩ := ih_hv _ hv0
      obtain ⟨ht, pt⟩ := D.tokL (x := i) (by omega)
      obtain ⟨ht1, pt1⟩ := D.tokL (x := i + 1) (by omega)
      obtain ⟨htm, ptm⟩ := D.tokR (x := j0') (by omega) hcm.1
      have hys := hs.carry D.s2.carries (by omega) (by have := D.sz; omega)
      have hY := YFields.cons (hn.tr pt ht) (hc.tr pt1 ht1) hy (hcm.tr ptm htm) hys
      rw [← pt] at hY
      exact ⟨by omega, by omega, j - 2, ((env.peek i).lexeme, v') :: fs, by omega, .head hUv, hY⟩
    | tail hfs0 =>
      obtain ⟨h1, h2, j', fs', ej, hUs, hys⟩ := ih_hs hsz _ hfs0
      obtain ⟨ht, pt⟩ := D.tokL (x := i) (by omega)
      obtain ⟨ht1, pt1⟩ := D.tokL (x := i + 1) (by omega)
      obtain ⟨htm, ptm⟩ := D.tokL (x := j0) (by omega)
      have hY := YFields.cons (hn.tr pt ht) (hc.tr pt1 ht1) (D.left hv (by omega)) (hcm.tr ptm htm) hys
      rw [← pt] at hY
      exact ⟨by omega, h2, j', ((env.peek i).lexeme, v) :: fs', ej, .tail hUs, hY⟩

theorem Yields.ungroup {env env' : PEnv} {a b : Nat} (D : Del env env' a b) {p : Pos} {e : Expr}
    (hG : Yields env (.group p e) a (b + 1)) :
    ∀ {t i j}, Yields env t i j → ∀ t0, UG p e t t0 →
      i ≤ a ∧ b + 1 ≤ j ∧ ∃ j' t', j = j' + 2 ∧ UG p e t t' ∧ Yields env' t' i j' :=
  fun h => YieldKind.Holds.ungroup D hG (K := .expr _) h
theorem YArgs.ungroup {env env' : PEnv} {a b : Nat} (D : Del env env' a b) {p : Pos} {e : Expr}
    (hG : Yields env (.group p e) a (b + 1)) :
    ∀ {as i j}, YArgs env as i j → j ≤ env.toks.size → ∀ X, UGL p e (ExprList.ofList as) X →
      i ≤ a ∧ b + 1 ≤ j ∧ ∃ j' as', j = j' + 2 ∧
        UGL p e (ExprList.ofList as) (ExprList.ofList as') ∧ YArgs env' as' i j' :=
  fun h => YieldKind.Holds.ungroup D hG (K := .args _) h
theorem YSeq.ungroup {env env' : PEnv} {a b : Nat} (D : Del env env' a b) {p : Pos} {e : Expr}
    (hG : Yields env (.group p e) a (b + 1)) :
    ∀ {as i j}, YSeq env as i j → j ≤ env.toks.size → ∀ X, UGL p e (ExprList.ofList as) X →
      i ≤ a ∧ b + 1 ≤ j ∧ ∃ j' as', j = j' + 2 ∧
        UGL p e (ExprList.ofList as) (ExprList.ofList as') ∧ YSeq env' as' i j' :=
  fun h => YieldKind.Holds.ungroup D hG (K := .seq _) h
theorem YElems.ungroup {env env' : PEnv} {a b : Nat} (D : Del env env' a b) {p : Pos} {e : Expr}
    (hG : Yields env (.group p e) a (b + 1)) :
    ∀ {as i j}, YElems env as i j → j ≤ env.toks.size → ∀ X, UGL p e (ExprList.ofList as) X →
      i ≤ a ∧ b + 1 ≤ j ∧ ∃ j' as', j = j' + 2 ∧
        UGL p e (ExprList.ofList as) (ExprList.ofList as') ∧ YElems env' as' i j' :=
  fun h => YieldKind.Holds.ungroup D hG (K := .elems _) h
theorem YPairs.ungroup {env env' : PEnv} {a b : Nat} (D : Del env env' a b) {p : Pos} {e : Expr}
    (hG : Yields env (.group p e) a (b + 1)) :
    ∀ {ps i j}, YPairs env ps i j → j ≤ env.toks.size → ∀ X, UGP p e (PairList.ofList ps) X →
      i ≤ a ∧ b + 1 ≤ j ∧ ∃ j' ps', j = j' + 2 ∧ ps' ≠ [] ∧
        UGP p e (PairList.ofList ps) (PairList.ofList ps') ∧ YPairs env' ps' i j' :=
  fun h => YieldKind.Holds.ungroup D hG (K := .pairs _) h
theorem YFields.ungroup {env env' : PEnv} {a b : Nat} (D : Del env env' a b) {p : Pos} {e : Expr}
    (hG : Yields env (.group p e) a (b + 1)) :
    ∀ {fs i j}, YFields env fs i j → j ≤ env.toks.size → ∀ X, UGF p e (FieldEList.ofList fs) X →
      i ≤ a ∧ b + 1 ≤ j ∧ ∃ j' fs', j = j' + 2 ∧
        UGF p e (FieldEList.ofList fs) (FieldEList.ofList fs') ∧ YFields env' fs' i j' :=
  fun h => YieldKind.Holds.ungroup D hG (K := .fields _) h

end Yae
