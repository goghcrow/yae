/-
  C18, "same text ⇒ `==`": character-level facts about the rendering grammar.  The characters a number's text may
  hold (`numChar`) are no delimiters of the value grammar, a quoted string is self-delimiting, and
  `⟨open⟩ item, item, … ⟨close⟩` decomposes uniquely once each item can be recognised before `,` or the closing bracket
  (`tail_unique`, `seq_unique`).  Also here, because every module of the line needs them: `TimeV.TextOK` and
  `TimeText`.
-/
import Yae.Proofs.ValRel
import Yae.Proofs.ListLemmas
import Yae.Proofs.NumLemmas
namespace Yae
open Num

def Term (stop : Char → Bool) (s : List Char) : Prop := ∀ c, s.head? = some c → stop c = true

theorem Term.nil (stop : Char → Bool) : Term stop [] := by intro c h; simp at h
theorem Term.cons {stop : Char → Bool} {c : Char} (h : stop c = true) (t : List Char) :
    Term stop (c :: t) := by
  intro d hd; simp at hd; rw [← hd]; exact h

/-- the first part is the longest prefix without stop characters -/
theorem prefix_unique (stop : Char → Bool) : ∀ (r r' s s' : List Char),
    (∀ c ∈ r, stop c = false) → (∀ c ∈ r', stop c = false) → Term stop s → Term stop s' →
    r ++ s = r' ++ s' → r = r' ∧ s = s' := by
  intro r r' s s' hr hr' hs hs' h
  have scan : ∀ r s, (∀ c ∈ r, stop c = false) → Term stop s →
      (r ++ s).takeWhile (!stop ·) = r ∧ (r ++ s).dropWhile (!stop ·) = s := fun r s hr hs =>
    span_append (by simpa using hr) fun c t e => by simp [hs c (by rw [e]; rfl)]
  obtain ⟨a1, a2⟩ := scan r s hr hs
  obtain ⟨b1, b2⟩ := scan r' s' hr' hs'
  rw [h] at a1 a2
  exact ⟨a1.symm.trans b1, a2.symm.trans b2⟩

def stopV (c : Char) : Bool := c == ',' || c == ']' || c == '}' || c == ')'
def stopK (c : Char) : Bool := c == ':'

/-- What makes the text of an instant determine the instant, and keeps it apart from what follows
it inside a composite (`Yae/Props/C18.lean` has a counterexample for each clause dropped, `C18.needs_*`):
the zone abbreviation contains none of `,` `]` `}` `)`; nanoseconds below `10^9`; the zone offset
is a whole number of minutes (`Time.String()` prints `-0700`: offset seconds are not displayed);
the displayed date is not before 0000-03-01, i.e. the displayed day `z` has `0 ≤ z + 719468` (the model's
`civilFromDays` is one day off before 0000-02-29, and `TimeV.render` prints every negative year as `0000`). -/
structure TimeV.TextOK (t : TimeV) : Prop where
  zone : ∀ c ∈ t.zone.toList, stopV c = false
  nsec : t.nsec < 1000000000
  offset_min : t.offset % 60 = 0
  year_lo : -62162035200 ≤ t.sec + t.offset

/-- What the decomposition needs of `Time.String()`; proved in `ValRelTextTime` (`timeText`), which `ValRelTextBase`
does not import: the lemmas up to the statements the properties use take it as a hypothesis `TT`. -/
structure TimeText : Prop where
  ne : ∀ t : TimeV, t.render.toList ≠ []
  chars : ∀ t : TimeV, t.TextOK → ∀ c ∈ t.render.toList, stopV c = false
  inj : ∀ a b : TimeV, a.TextOK → b.TextOK → a.render = b.render → a.equal b = true

def numChar (c : Char) : Bool :=
  isDigit c || c == '-' || c == '.' || c == '+' || c == 'N' || c == 'a' || c == 'I' || c == 'n' ||
    c == 'f'

theorem numChar_of_isDigit {c : Char} (h : isDigit c = true) : numChar c = true := by
  simp [numChar, h]

theorem numChar_not_stop {c : Char} (h : numChar c = true) : stopV c = false ∧ stopK c = false := by
  simp only [numChar, isDigit, Bool.or_eq_true, Bool.and_eq_true, decide_eq_true_eq, beq_iff_eq] at h
  have hd : ('0' ≤ c ∧ c ≤ '9') → stopV c = false ∧ stopK c = false := by
    rintro ⟨h1, h2⟩
    have h1' : 48 ≤ c.toNat := h1
    have h2' : c.toNat ≤ 57 := h2
    have hne : ∀ d : Char, (d.toNat < 48 ∨ 57 < d.toNat) → (c == d) = false := fun d hd =>
      beq_eq_false_iff_ne.2 fun e => by rw [e] at h1' h2'; omega
    simp only [stopV, stopK]
    rw [hne ',' (by decide), hne ']' (by decide), hne '}' (by decide), hne ')' (by decide),
      hne ':' (by decide)]
    exact ⟨rfl, rfl⟩
  rcases h with ((((((((h | h) | h) | h) | h) | h) | h) | h) | h)
  · exact hd h
  all_goals (subst h; exact ⟨by decide, by decide⟩)

theorem quote_prefix_unique (a b : String) (s s' : List Char)
    (h : (quote a).toList ++ s = (quote b).toList ++ s') : a = b ∧ s = s' := by
  rw [quote_toList, quote_toList] at h
  simp only [List.cons_append, List.append_assoc, List.cons.injEq, true_and,
    List.nil_append] at h
  have h1 := unquoteBody_quoted a.toList s (a.toList.length + b.toList.length + 1) []
    (by omega)
  have h2 := unquoteBody_quoted b.toList s' (a.toList.length + b.toList.length + 1) []
    (by omega)
  rw [h, h2] at h1
  simp only [List.reverse_nil, List.nil_append, Option.some.injEq, Prod.mk.injEq] at h1
  exact ⟨(String.toList_inj.1 h1.1).symm, h1.2.symm⟩

theorem quote_head (a : String) (t : List Char) : ((quote a).toList ++ t).head? = some '"' := by
  rw [quote_toList]; rfl

theorem boolText_chars (b : Bool) : ∀ c ∈ (boolText b).toList, stopV c = false ∧ stopK c = false := by
  cases b <;> decide

/-- `, item, item … ⟨close⟩ rest` -/
def tailT (c : Char) : List (List Char) → List Char → List Char
  | [], s => c :: s
  | r :: rs, s => ',' :: ' ' :: (r ++ tailT c rs s)

/-- `⟨open⟩ item, item … ⟨close⟩ rest` -/
def seqT (o c : Char) : List (List Char) → List Char → List Char
  | [], s => o :: c :: s
  | r :: rs, s => o :: (r ++ tailT c rs s)

theorem tailT_term {c : Char} (hc : stopV c = true) (rs : List (List Char)) (s : List Char) :
    Term stopV (tailT c rs s) := by
  cases rs with
  | nil => exact Term.cons hc _
  | cons r rs => exact Term.cons (by decide) _

theorem intercalate_tail (c : Char) (r : List Char) (rs : List (List Char)) (s : List Char) :
    ([',', ' '].intercalate (r :: rs)) ++ c :: s = r ++ tailT c rs s := by
  induction rs generalizing r with
  | nil => simp [List.intercalate, tailT]
  | cons r' rs ih =>
    have := ih r'
    simp only [List.intercalate, List.intersperse_cons_cons, List.flatten_cons,
      List.append_assoc] at this ⊢
    rw [this]; simp [tailT]

theorem joinStr_toList (xs : List String) (os cs : String) (o c : Char) (ho : os.toList = [o])
    (hc : cs.toList = [c]) (s : List Char) :
    (joinStr xs ", " os cs).toList ++ s = seqT o c (xs.map String.toList) s := by
  have hsep : (", " : String).toList = [',', ' '] := rfl
  simp only [joinStr, String.toList_append, String.toList_intercalate, ho, hc, hsep,
    List.append_assoc, List.cons_append, List.nil_append]
  cases xs with
  | nil => simp [seqT, List.intercalate]
  | cons x xs =>
    simp only [List.map_cons, seqT, List.cons.injEq, true_and]
    exact intercalate_tail c _ _ s

/-- If items at the same position can be told apart from what follows (`,` or the closing bracket), two
equal sequence tails have the same number of items, related pairwise, and the same rest. -/
theorem tail_unique {α β : Type} (f : α → List Char) (g : β → List Char) (Rel : α → β → Prop)
    (c : Char) (hc : stopV c = true) (hc' : c ≠ ',') :
    ∀ (I : List α) (J : List β) (s s' : List Char),
    (∀ (i : Nat) a b, I[i]? = some a → J[i]? = some b → ∀ t t', Term stopV t → Term stopV t' →
      f a ++ t = g b ++ t' → Rel a b ∧ t = t') →
    tailT c (I.map f) s = tailT c (J.map g) s' →
    I.length = J.length ∧ (∀ (i : Nat) a b, I[i]? = some a → J[i]? = some b → Rel a b) ∧ s = s'
  | [], [], s, s', _, h => by
    simp only [List.map_nil, tailT, List.cons.injEq, true_and] at h
    exact ⟨rfl, by intro i a b ha; simp at ha, h⟩
  | [], b :: J, s, s', _, h => by
    simp only [List.map_nil, List.map_cons, tailT, List.cons.injEq] at h
    exact absurd h.1 hc'
  | a :: I, [], s, s', _, h => by
    simp only [List.map_nil, List.map_cons, tailT, List.cons.injEq] at h
    exact absurd h.1.symm hc'
  | a :: I, b :: J, s, s', H, h => by
    simp only [List.map_cons, tailT, List.cons.injEq, true_and] at h
    obtain ⟨H0, HS⟩ := forall_getElem?_cons.1 H
    obtain ⟨h0, ht⟩ := H0 _ _ (tailT_term hc _ _) (tailT_term hc _ _) h
    obtain ⟨hl, hr, hs⟩ := tail_unique f g Rel c hc hc' I J s s' HS ht
    exact ⟨by simp [hl], forall_getElem?_cons.2 ⟨h0, hr⟩, hs⟩

/-- An empty sequence must not be confused with a non-empty one: either the numbers of items are known to
agree or no item begins with the closing bracket. -/
theorem seq_unique {α β : Type} (f : α → List Char) (g : β → List Char) (Rel : α → β → Prop)
    (o c : Char) (hc : stopV c = true) (hc' : c ≠ ',') (I : List α) (J : List β)
    (s s' : List Char)
    (hemp : I.length = J.length ∨
      ((∀ a ∈ I, ∀ t, (f a ++ t).head? ≠ some c) ∧ (∀ b ∈ J, ∀ t, (g b ++ t).head? ≠ some c)))
    (H : ∀ (i : Nat) a b, I[i]? = some a → J[i]? = some b → ∀ t t', Term stopV t → Term stopV t' →
      f a ++ t = g b ++ t' → Rel a b ∧ t = t')
    (h : seqT o c (I.map f) s = seqT o c (J.map g) s') :
    I.length = J.length ∧ (∀ (i : Nat) a b, I[i]? = some a → J[i]? = some b → Rel a b) ∧ s = s' := by
  cases I with
  | nil =>
    cases J with
    | nil =>
      simp only [List.map_nil, seqT, List.cons.injEq, true_and] at h
      exact ⟨rfl, by intro i a b ha; simp at ha, h⟩
    | cons b J =>
      exfalso
      rcases hemp with hl | ⟨_, hb⟩
      · simp at hl
      · simp only [List.map_nil, List.map_cons, seqT, List.cons.injEq, true_and] at h
        apply hb b (by simp) (tailT c (J.map g) s')
        rw [← h]; rfl
  | cons a I =>
    cases J with
    | nil =>
      exfalso
      rcases hemp with hl | ⟨ha, _⟩
      · simp at hl
      · simp only [List.map_nil, List.map_cons, seqT, List.cons.injEq, true_and] at h
        apply ha a (by simp) (tailT c (I.map f) s)
        rw [h]; rfl
    | cons b J =>
      simp only [List.map_cons, seqT, List.cons.injEq, true_and] at h
      exact tail_unique f g Rel c hc hc' (a :: I) (b :: J) s s' H
        (by simp only [List.map_cons, tailT, h])

theorem insertBy_map {α β : Type} (key : β → String) (f : α → β) (x : α) : ∀ l : List α,
    insertBy (ltKey key) (f x) (l.map f) = (insertBy (ltKey (fun a => key (f a))) x l).map f
  | [] => rfl
  | y :: ys => by
    simp only [List.map_cons, insertBy]
    split
    · rfl
    · simp [insertBy_map key f x ys]

theorem sortBy_map {α β : Type} (key : β → String) (f : α → β) : ∀ l : List α,
    sortBy (ltKey key) (l.map f) = (sortBy (ltKey (fun a => key (f a))) l).map f
  | [] => rfl
  | x :: xs => by
    show insertBy (ltKey key) (f x) (sortBy (ltKey key) (xs.map f)) =
      (insertBy (ltKey (fun a => key (f a))) x (sortBy (ltKey (fun a => key (f a))) xs)).map f
    rw [sortBy_map key f xs, insertBy_map]

theorem exists_of_indexwise {α β : Type} {Rel : α → β → Prop} {I : List α} {J : List β}
    (hl : I.length = J.length) (h : ∀ (i : Nat) a b, I[i]? = some a → J[i]? = some b → Rel a b)
    (a : α) (ha : a ∈ I) : ∃ b ∈ J, Rel a b := by
  obtain ⟨i, hi⟩ := List.mem_iff_getElem?.1 ha
  have hlt : i < J.length := by
    rw [← hl]; exact (List.getElem?_eq_some_iff.1 hi).1
  exact ⟨J[i], List.getElem_mem hlt, h i a J[i] hi (List.getElem?_eq_getElem hlt)⟩

end Yae
