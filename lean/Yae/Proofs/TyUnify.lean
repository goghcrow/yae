/-
  For C17: matching (`unify` against a variable-free right-hand side, as the checker uses it) is sound w.r.t.
  `Below` (`⊑`), complete w.r.t. `StructEq`, and never out of fuel.  By induction on the fuel, one lemma per
  function of the mutual block; `upost` gives soundness and the fuel bound together.  Soundness is for
  substitutions ground on the names satisfying `P` (`Subst.GroundOn`): C17 takes all names, `inferFun`'s
  second `unify` the names a signature may use.
-/
import Yae.Proofs.TySubst
namespace Yae

mutual
/-- `a ⊑ b`: `StructEq` relaxed by the two catch-all cases of `unify`, anything is below `⊥` on the right
and `⊤` on the left is below anything.  Objects: every left name is present on the right. -/
inductive Below : Ty → Ty → Prop
  | botR (a : Ty) : Below a .bot
  | topL (b : Ty) : Below .top b
  | var (n : String) : Below (.var n) (.var n)
  | num : Below .num .num
  | str : Below .str .str
  | bool : Below .bool .bool
  | time : Below .time .time
  | tuple {xs ys} : BelowList xs ys → Below (.tuple xs) (.tuple ys)
  | list {a b} : Below a b → Below (.list a) (.list b)
  | map {k v k' v'} : Below k k' → Below v v' → Below (.map k v) (.map k' v')
  | obj {fs gs : FieldList} :
      fs.length = gs.length →
      (∀ n, (fs.find? n).isSome = true → (gs.find? n).isSome = true) →
      (∀ n t u, fs.find? n = some t → gs.find? n = some u → Below t u) →
      Below (.obj fs) (.obj gs)
  | fn {f g ps qs r s} : BelowList ps qs → Below r s → Below (.fn f ps r) (.fn g qs s)
  | maybe {a b} : Below a b → Below (.maybe a) (.maybe b)
inductive BelowList : TyList → TyList → Prop
  | nil : BelowList .nil .nil
  | cons {x y xs ys} : Below x y → BelowList xs ys → BelowList (.cons x xs) (.cons y ys)
end

@[inherit_doc] infix:50 " ⊑ " => Below

theorem Below.obj_isSome_eq {fs gs : FieldList} (h : Below (.obj fs) (.obj gs))
    (hw : wfFields fs = true) (n : String) : (fs.find? n).isSome = (gs.find? n).isSome := by
  cases h with
  | obj hl hs _ => exact find?_isSome_eq_of_sub hw hl hs n

theorem StructEq.thenBelow : ∀ a b c, StructEq a b → Below b c → Below a c := by
  intro a b c h
  revert c
  induction h using StructEq.rec
    (motive_2 := fun xs ys _ => ∀ zs, BelowList ys zs → BelowList xs zs) with
  | top => exact fun _ _ => .topL _
  | bot | var | num | str | bool | time => exact fun _ h' => h'
  | tuple _ ih =>
    intro _ h'; cases h' with | botR => exact .botR _ | tuple h' => exact .tuple (ih _ h')
  | list _ ih =>
    intro _ h'; cases h' with | botR => exact .botR _ | list h' => exact .list (ih _ h')
  | map _ _ ih1 ih2 =>
    intro _ h'
    cases h' with
    | botR => exact .botR _
    | map h1' h2' => exact .map (ih1 _ h1') (ih2 _ h2')
  | obj hl hs hr ih =>
    intro _ h'
    cases h' with
    | botR => exact .botR _
    | obj hl' hs' hr' =>
      exact .obj (hl.trans hl') (fun n hn => hs' n (by rw [← hs n]; exact hn)) fun n t v ht hv =>
        have ⟨u, hu⟩ := find?_of_isSome_eq (hs n) ht
        ih n t u ht hu _ (hr' n u v hu hv)
  | fn _ _ ih1 ih2 =>
    intro _ h'
    cases h' with
    | botR => exact .botR _
    | fn h1' h2' => exact .fn (ih1 _ h1') (ih2 _ h2')
  | maybe _ ih =>
    intro _ h'; cases h' with | botR => exact .botR _ | maybe h' => exact .maybe (ih _ h')
  | nil => assumption
  | cons _ _ ih1 ih2 =>
    rename_i h'; cases h' with | cons h1' h2' => exact .cons (ih1 _ h1') (ih2 _ h2')

theorem StructEqList.thenBelow : ∀ xs ys zs, StructEqList xs ys → BelowList ys zs →
    BelowList xs zs
  | _, _, _, .nil, h' => h'
  | _, _, _, .cons h1 h2, .cons h1' h2' =>
    .cons (StructEq.thenBelow _ _ _ h1 h1') (StructEqList.thenBelow _ _ _ h2 h2')

theorem StructEq.thenBelowFields : ∀ (fs : FieldList) n t, fs.find? n = some t →
    ∀ u v, StructEq t u → Below u v → Below t v :=
  fun _ _ _ _ _ _ => StructEq.thenBelow _ _ _

mutual
theorem Below.refl : ∀ a, Below a a
  | .top => .topL _ | .bot => .botR _ | .var n => .var n | .num => .num | .str => .str
  | .bool => .bool | .time => .time
  | .tuple ts => .tuple (BelowList.refl ts)
  | .list a => .list (Below.refl a)
  | .map k v => .map (Below.refl k) (Below.refl v)
  | .obj fs => .obj rfl (fun _ h => h) (fun n t u h1 h2 => by
      have : t = u := by simpa [h1] using h2
      subst this
      exact Below.reflFields fs n t h1)
  | .fn _ ps r => .fn (BelowList.refl ps) (Below.refl r)
  | .maybe a => .maybe (Below.refl a)
theorem BelowList.refl : ∀ xs, BelowList xs xs
  | .nil => .nil
  | .cons t ts => .cons (Below.refl t) (BelowList.refl ts)
theorem Below.reflFields : ∀ (fs : FieldList) n t, fs.find? n = some t → Below t t
  | .nil, n, t, h => by simp [FieldList.find?] at h
  | .cons m t' fs, n, t, h => by
    simp only [FieldList.find?] at h
    split at h
    · cases h; exact Below.refl t'
    · exact Below.reflFields fs n t h
end

theorem StructEq.toBelow {a b : Ty} (h : StructEq a b) : Below a b :=
  StructEq.thenBelow a b b h (Below.refl b)

mutual
theorem substG_mono {m m' : Subst} (hle : m.le m') : ∀ p g, slotFree g = true →
    Below (substG m p) g → Below (substG m' p) g
  | .var n, g, hg, h => by
    simp only [substG] at h ⊢
    cases hn : m.get? n with
    | none =>
      simp only [hn] at h
      cases h with
      | botR => exact .botR _
      | var => simp [slotFree] at hg
    | some k =>
      obtain ⟨k', hk', e⟩ := hle n k hn
      simp only [hn] at h
      simp only [hk']
      exact StructEq.thenBelow k' k g (StructEq.symm _ _ e) h
  | .top, _, _, h | .bot, _, _, h | .num, _, _, h | .str, _, _, h | .bool, _, _, h
  | .time, _, _, h => by
    simp only [substG] at h ⊢; exact h
  | .tuple ts, g, hg, h => by
    simp only [substG] at h ⊢
    cases h with
    | botR => exact .botR _
    | tuple h => exact .tuple (substG_monoList hle ts _ hg h)
  | .list a, g, hg, h => by
    simp only [substG] at h ⊢
    cases h with
    | botR => exact .botR _
    | list h => exact .list (substG_mono hle a _ hg h)
  | .map k v, g, hg, h => by
    simp only [substG] at h ⊢
    cases h with
    | botR => exact .botR _
    | map h1 h2 =>
      simp only [slotFree, Bool.and_eq_true] at hg
      exact .map (substG_mono hle k _ hg.1 h1) (substG_mono hle v _ hg.2 h2)
  | .obj fs, g, hg, h => by
    simp only [substG] at h ⊢
    cases h with
    | botR => exact .botR _
    | obj hl hs hr =>
      rename_i gs
      simp only [slotFree] at hg
      refine .obj (by rw [length_substGFields] at hl ⊢; exact hl)
        (fun n hn => hs n (by rw [find?_substGFields] at hn ⊢; simpa using hn)) ?_
      intro n t' u ht' hu
      obtain ⟨t, ht, rfl⟩ := find?_substGFields_some ht'
      exact substG_monoFields hle fs n t ht u (slotFreeFields_find gs n u hg hu)
        (hr n (substG m t) u (by rw [find?_substGFields, ht]; rfl) hu)
  | .fn _ ps r, g, hg, h => by
    simp only [substG] at h ⊢
    cases h with
    | botR => exact .botR _
    | fn h1 h2 =>
      simp only [slotFree, Bool.and_eq_true] at hg
      exact .fn (substG_monoList hle ps _ hg.1 h1) (substG_mono hle r _ hg.2 h2)
  | .maybe a, g, hg, h => by
    simp only [substG] at h ⊢
    cases h with
    | botR => exact .botR _
    | maybe h => exact .maybe (substG_mono hle a _ hg h)
termination_by structural p => p
theorem substG_monoList {m m' : Subst} (hle : m.le m') : ∀ ps gs, slotFreeList gs = true →
    BelowList (substGList m ps) gs → BelowList (substGList m' ps) gs
  | .nil, _, _, h => by simp only [substGList] at h ⊢; exact h
  | .cons p ps, _, hg, h => by
    simp only [substGList] at h ⊢
    cases h with
    | cons h1 h2 =>
      simp only [slotFreeList, Bool.and_eq_true] at hg
      exact .cons (substG_mono hle p _ hg.1 h1) (substG_monoList hle ps _ hg.2 h2)
termination_by structural ps => ps
theorem substG_monoFields {m m' : Subst} (hle : m.le m') : ∀ (fs : FieldList) n t,
    fs.find? n = some t → ∀ u, slotFree u = true → Below (substG m t) u → Below (substG m' t) u
  | .nil, n, t, h, _, _, _ => by simp [FieldList.find?] at h
  | .cons k t' fs, n, t, h, u, hu, hb => by
    simp only [FieldList.find?] at h
    split at h
    · cases h; exact substG_mono hle t' u hu hb
    · exact substG_monoFields hle fs n t h u hu hb
termination_by structural fs => fs
end

theorem slotFree_kind {g : Ty} (h : slotFree g = true) : g.kind ≠ .tyvar := by
  cases g <;> simp [slotFree, Ty.kind] at h ⊢

theorem Ty.eq_bot_of_kind {t : Ty} (h : t.kind = .bot) : t = .bot := by
  cases t <;> first | rfl | cases h

theorem Ty.eq_top_of_kind {t : Ty} (h : t.kind = .top) : t = .top := by
  cases t <;> first | rfl | cases h

theorem unify_var_left (f : Nat) (xn : String) (y : Ty) (m : Subst) (hy : y.kind ≠ .tyvar) :
    unify (f+1) (.var xn) y m = (do
      let y1 ← applySubst f m y
      if freeFrom xn y1 then
        match m.get? xn with
        | some k => if !tyEq k y1 then throw .fail else pure (y1, m.set xn y1)
        | none => pure (y1, m.set xn y1)
      else throw .fail) := by
  rw [unify.eq_def]
  cases y <;> first | exact absurd rfl hy | rfl

theorem unify_nonvar (f : Nat) (x y : Ty) (m : Subst) (hx : x.kind ≠ .tyvar)
    (hy : y.kind ≠ .tyvar) :
    unify (f+1) x y m =
      if x.isPrimitive && y.isPrimitive && x.kind == y.kind then pure (x, m)
      else if x.isComposite && y.isComposite && x.kind == y.kind then unifyComposite f x y m
      else if y.kind == .bot || x.kind == .top then pure (x, m)
      else throw .fail := by
  rw [unify.eq_def]
  dsimp only
  split
  · exact absurd rfl hx
  · rw [pure_bind, if_neg Bool.false_ne_true]
    split
    · rfl
    · split
      · rfl
      · -- the five arms of the final match
        split
        · exact absurd rfl hx
        · exact absurd rfl hy
        · rfl
        · rw [if_pos (by simp [Ty.kind])]
        · rw [if_neg]
          intro h
          simp only [Bool.or_eq_true, beq_iff_eq] at h
          exact h.elim (fun h => ‹y = .bot → False› (Ty.eq_bot_of_kind h))
            fun h => ‹x = .top → False› (Ty.eq_top_of_kind h)

theorem unify_comp (f : Nat) (p g : Ty) (m : Subst) (hp : p.isComposite = true)
    (hk : p.kind = g.kind) : unify (f+1) p g m = unifyComposite f p g m := by
  have hpv : p.kind ≠ .tyvar := by
    intro h; cases p <;> simp [Ty.kind, Ty.isComposite, Kind.isComposite] at h hp
  have hgv : g.kind ≠ .tyvar := by rw [← hk]; exact hpv
  have hgc : g.isComposite = true := by
    simp only [Ty.isComposite] at hp ⊢; rw [← hk]; exact hp
  have hpp : p.isPrimitive = false := by
    cases p <;> simp [Ty.kind, Ty.isComposite, Kind.isComposite, Ty.isPrimitive, Kind.isPrimitive] at hp ⊢
  rw [unify_nonvar f p g m hpv hgv]
  simp [hp, hgc, hk, hpp]

theorem prim_structEq (m : Subst) {p g : Ty}
    (h : (p.isPrimitive && g.isPrimitive && p.kind == g.kind) = true) :
    StructEq (substG m p) g := by
  simp only [Ty.isPrimitive, Bool.and_eq_true, beq_iff_eq] at h
  obtain ⟨⟨hp, -⟩, hk⟩ := h
  cases p <;> cases hp <;> cases g <;> cases hk <;> constructor

theorem botTop_below (m : Subst) {p g : Ty} (h : (g.kind == .bot || p.kind == .top) = true) :
    Below (substG m p) g := by
  simp only [Bool.or_eq_true, beq_iff_eq] at h
  rcases h with h | h
  · cases Ty.eq_bot_of_kind h; exact .botR _
  · cases Ty.eq_top_of_kind h; exact .topL _

theorem botTop_structEq (m : Subst) {p g : Ty}
    (h : (g.kind == .bot || p.kind == .top) = true) (he : tyEq p g = true) :
    StructEq (substG m p) g := by
  simp only [Bool.or_eq_true, beq_iff_eq] at h
  rcases h with h | h
  · cases Ty.eq_bot_of_kind h
    cases p <;> first | contradiction | exact .bot
  · cases Ty.eq_top_of_kind h
    cases g <;> first | contradiction | exact .top

/-- `junk`: for `inferFun` the names outside `P` are the fresh names its first `unify` bound. -/
structure Subst.Ext (P : String → Bool) (m m' : Subst) : Prop where
  ground : m'.GroundOn P
  le : m.le m'
  junk : ∀ n, P n = false → m'.get? n = m.get? n

theorem Subst.Ext.refl {P : String → Bool} {m : Subst} (hm : m.GroundOn P) : m.Ext P m :=
  ⟨hm, Subst.le_refl m, fun _ _ => rfl⟩

theorem Subst.Ext.trans {P : String → Bool} {a b c : Subst} (h1 : a.Ext P b) (h2 : b.Ext P c) :
    a.Ext P c :=
  ⟨h2.ground, Subst.le_trans h1.le h2.le, fun n hn => (h2.junk n hn).trans (h1.junk n hn)⟩

theorem Ty.sizeOf_pos (g : Ty) : 0 < sizeOf g := by
  cases g <;> simp <;> omega

theorem FieldList.find?_sizeOf : ∀ (fs : FieldList) (n : String) (t : Ty),
    fs.find? n = some t → sizeOf t < sizeOf fs
  | .nil, n, t, h => by simp [FieldList.find?] at h
  | .cons m t' fs, n, t, h => by
    simp only [FieldList.find?] at h
    split at h
    · cases h; simp; omega
    · have := FieldList.find?_sizeOf fs n t h
      simp; omega

theorem obj_of_fields {R : Ty → Ty → Prop} {m : Subst} {fs gs : FieldList}
    (h : ∀ n t, fs.find? n = some t → ∃ u, gs.find? n = some u ∧ R (substG m t) u) :
    (∀ n, (fs.find? n).isSome = true → (gs.find? n).isSome = true) ∧
    (∀ n t u, (substGFields m fs).find? n = some t → gs.find? n = some u → R t u) := by
  refine ⟨fun n hn => ?_, fun n t' u ht' hu' => ?_⟩
  · obtain ⟨t0, ht0⟩ := Option.isSome_iff_exists.1 hn
    obtain ⟨u, hu', _⟩ := h n t0 ht0
    rw [hu']; rfl
  · obtain ⟨t0, ht0, rfl⟩ := find?_substGFields_some ht'
    obtain ⟨u', hu'', hb⟩ := h n t0 ht0
    cases hu'.symm.trans hu''
    exact hb

/-- `tyEq` of the returned type to `g` is the checker's assertion on parameters. -/
abbrev MatchOK (P : String → Bool) (p g : Ty) (m : Subst) (r : Ty × Subst) : Prop :=
  m.Ext P r.2 ∧ Below (substG r.2 p) g ∧
    (p.wf = true → tyEq r.1 g = true → StructEq (substG r.2 p) g)

abbrev MatchListOK (P : String → Bool) (ps gs : TyList) (m : Subst) (r : TyList × Subst) : Prop :=
  m.Ext P r.2 ∧ BelowList (substGList r.2 ps) gs ∧
    (wfList ps = true → tyEqList r.1 gs = true → StructEqList (substGList r.2 ps) gs)

/-- A level of `g` costs one unit, so fuel runs out only below `sizeOf g`. -/
def UPost (P : String → Bool) (f : Nat) : Prop :=
  ∀ p g m, slotFree g = true → g.wf = true → p.VarsIn (P · = true) →
    m.GroundOn P → UM.Post (f < sizeOf g) (unify f p g m) (MatchOK P p g m)

/-- `unifyComposite f` is entered from `unify (f+1)` with the same `g`, hence the bound `f + 1 < sizeOf g` -/
def UPostComp (P : String → Bool) (f : Nat) : Prop :=
  ∀ p g m, slotFree g = true → g.wf = true → p.VarsIn (P · = true) →
    m.GroundOn P → UM.Post (f + 1 < sizeOf g) (unifyComposite f p g m) (MatchOK P p g m)

section
variable {P : String → Bool} {f : Nat}

theorem upost_succ (hc : UPostComp P f) : UPost P (f+1) := by
  intro p g m hg hw hp hm
  have hgk := slotFree_kind hg
  by_cases hpk : p.kind = .tyvar
  · cases p <;> simp [Ty.kind] at hpk
    rename_i xn
    have hP := hp.var
    rw [unify_var_left f xn g m hgk, applySubst_ground_ok f m g hg hw, UM.ok_bind]
    have hfin : (∀ k, m.get? xn = some k → tyEq k g = true) →
        MatchOK P (.var xn) g m (g, m.set xn g) := by
      intro hk
      simp only [MatchOK, substG, Subst.get?_set_self]
      refine ⟨⟨hm.set hg hw, Subst.le_set fun k hk' => ?_, fun n hn => ?_⟩, Below.refl _,
        fun _ _ => StructEq.refl _⟩
      · exact tyEq_sound k g (hm xn k hP hk').2 (hk k hk')
      · exact Subst.get?_set_ne _ _ _ _ (by rintro rfl; rw [hP] at hn; cases hn)
    split
    · split
      · next k hk =>
        split
        · exact .throw nofun
        · next hne =>
          exact .pure (hfin fun k' hk' => by rw [hk] at hk'; cases hk'; simpa using hne)
      · next hk => exact .pure (hfin fun k' hk' => by rw [hk] at hk'; cases hk')
    · exact .throw nofun
  · rw [unify_nonvar f p g m hpk hgk]
    split
    · next hc1 =>
      exact .pure ⟨.refl hm, (prim_structEq m hc1).toBelow, fun _ _ => prim_structEq m hc1⟩
    · split
      · exact hc p g m hg hw hp hm
      · split
        · next hc3 => exact .pure ⟨.refl hm, botTop_below m hc3, fun _ => botTop_structEq m hc3⟩
        · exact .throw nofun

theorem upost_list (hu : UPost P f) : ∀ ps gs m,
    slotFreeList gs = true → wfList gs = true → ps.VarsIn (P · = true) →
    m.GroundOn P → ps.length = gs.length →
    UM.Post (f < sizeOf gs) (unifyList f ps gs m) (MatchListOK P ps gs m)
  | .nil, .nil, m, _, _, _, hm, _ => by
    simp only [unifyList]; exact .pure ⟨.refl hm, .nil, fun _ _ => .nil⟩
  | .nil, .cons _ _, _, _, _, _, _, hl => by simp [TyList.length] at hl
  | .cons _ _, .nil, _, _, _, _, _, hl => by simp [TyList.length] at hl
  | .cons p ps, .cons g gs, m, hg, hw, hp, hm, hl => by
    simp only [slotFreeList, Bool.and_eq_true] at hg
    simp only [wfList, Bool.and_eq_true] at hw
    simp only [TyList.length, Nat.add_right_cancel_iff] at hl
    simp only [unifyList, TyList.cons.sizeOf_spec]
    refine (hu p g m hg.1 hw.1 hp.cons.1 hm).bind (by omega)
      fun (t, m1) ⟨hx1, hb1, hs1⟩ => ?_
    refine (upost_list hu ps gs m1 hg.2 hw.2 hp.cons.2 hx1.ground hl).bind
      (by omega) fun (ts', m2) ⟨hx2, hb2, hs2⟩ => ?_
    refine .pure ⟨hx1.trans hx2, .cons (substG_mono hx2.le p g hg.1 hb1) hb2, fun hpw he => ?_⟩
    simp only [wfList, tyEqList, Bool.and_eq_true] at hpw he
    exact .cons (Sound.substG_monoS hx2.le p g hg.1 (hs1 hpw.1 he.1)) (hs2 hpw.2 he.2)

theorem upost_params (hu : UPost P f) : ∀ ps gs m,
    slotFreeList gs = true → wfList gs = true → ps.VarsIn (P · = true) →
    m.GroundOn P → ps.length = gs.length →
    UM.Post (f < sizeOf gs) (unifyParams f ps gs m) (MatchListOK P ps gs m)
  | .nil, .nil, m, _, _, _, hm, _ => by
    simp only [unifyParams]; exact .pure ⟨.refl hm, .nil, fun _ _ => .nil⟩
  | .nil, .cons _ _, _, _, _, _, _, hl => by simp [TyList.length] at hl
  | .cons _ _, .nil, _, _, _, _, _, hl => by simp [TyList.length] at hl
  | .cons p ps, .cons g gs, m, hg, hw, hp, hm, hl => by
    simp only [slotFreeList, Bool.and_eq_true] at hg
    simp only [wfList, Bool.and_eq_true] at hw
    simp only [TyList.length, Nat.add_right_cancel_iff] at hl
    simp only [unifyParams, TyList.cons.sizeOf_spec]
    have hvp := hp.cons.1
    rw [applySubst_ground_ok f m g hg.1 hw.1]
    refine (applySubst_post f m p (hm.at hvp f)).bind (by omega) fun p1 ⟨e1, hw1⟩ => ?_
    subst e1
    refine (hu _ _ m hg.1 hw.1 (varsIn_substG hm p hvp) hm).bind (by omega)
      fun (t, m1) ⟨hx1, hb1, hs1⟩ => ?_
    refine (upost_params hu ps gs m1 hg.2 hw.2 hp.cons.2 hx1.ground hl).bind
      (by omega) fun (ts', m2) ⟨hx2, hb2, hs2⟩ => ?_
    -- the instance of `p` under `m1` is that of the parameter as `unifyParams` substituted it
    have hss := StructEq.symm _ _ (substG_substG_on hm hx1.le p hvp)
    refine .pure ⟨hx1.trans hx2,
      .cons (substG_mono hx2.le p g hg.1 (StructEq.thenBelow _ _ _ hss hb1)) hb2,
      fun hpw he => ?_⟩
    simp only [wfList, tyEqList, Bool.and_eq_true] at hpw he
    exact .cons (Sound.substG_monoS hx2.le p g hg.1 (StructEq.trans _ _ _ hss
      (hs1 (hw1 hpw.1) he.1))) (hs2 hpw.2 he.2)

theorem upost_fields (hu : UPost P f) : ∀ (fs gs : FieldList) m,
    slotFreeFields gs = true → wfFields gs = true →
    fs.VarsIn (P · = true) → m.GroundOn P →
    UM.Post (f < sizeOf gs) (unifyFields f fs gs m) fun r =>
      m.Ext P r.2 ∧
      (∀ n t, fs.find? n = some t → ∃ u, gs.find? n = some u ∧ Below (substG r.2 t) u) ∧
      (wfFields fs = true → tyEqFields r.1 gs = true →
        ∀ n t, fs.find? n = some t → ∃ u, gs.find? n = some u ∧ StructEq (substG r.2 t) u)
  | .nil, gs, m, _, _, _, hm => by
    simp only [unifyFields]
    exact .pure ⟨.refl hm, fun n t ht => by simp [FieldList.find?] at ht,
      fun _ _ n t ht => by simp [FieldList.find?] at ht⟩
  | .cons k t rest, gs, m, hg, hw, hp, hm => by
    simp only [unifyFields]
    split
    · exact .throw nofun
    · next u hu' =>
      have hgu := slotFreeFields_find gs k u hg hu'
      have hsz := FieldList.find?_sizeOf gs k u hu'
      refine (hu t u m hgu (wfFields_find gs k u hw hu') hp.cons.1 hm).bind
        (by omega) fun (t', m1) ⟨hx1, hb1, hs1⟩ => ?_
      refine (upost_fields hu rest gs m1 hg hw hp.cons.2 hx1.ground).bind id
        fun (fs1, m2) ⟨hx2, hb2, hs2⟩ => ?_
      refine .pure ⟨hx1.trans hx2, fun n t0 ht0 => ?_, fun hpw he n t0 ht0 => ?_⟩
      · simp only [FieldList.find?] at ht0
        split at ht0
        · next hkn =>
          cases ht0; subst hkn
          exact ⟨u, hu', substG_mono hx2.le t u hgu hb1⟩
        · exact hb2 n t0 ht0
      · simp only [wfFields, Bool.and_eq_true] at hpw
        simp only [tyEqFields, hu', Bool.and_eq_true] at he
        simp only [FieldList.find?] at ht0
        split at ht0
        · next hkn =>
          cases ht0; subst hkn
          exact ⟨u, hu', Sound.substG_monoS hx2.le t u hgu (hs1 hpw.1.2 he.1)⟩
        · exact hs2 hpw.2 he.2 n t0 ht0

theorem upost_comp (hu : UPost P f) : UPostComp P f := by
  intro p g m hg hw hp hm
  rw [unifyComposite.eq_def]
  split
  · next a b =>
    simp only [Ty.list.sizeOf_spec]
    refine (hu a b m hg hw hp hm).bind (by omega) fun (el, m1) ⟨hx1, hb1, hs1⟩ => ?_
    exact .pure ⟨hx1, .list hb1, fun hpw he => .list (hs1 hpw he)⟩
  · next k v k' v' =>
    simp only [slotFree, Ty.wf, Bool.and_eq_true] at hg hw
    simp only [Ty.map.sizeOf_spec]
    refine (hu k k' m hg.1 hw.1.2 hp.map.1 hm).bind (by omega)
      fun (k1, m1) ⟨hx1, hb1, hs1⟩ => ?_
    refine (hu v v' m1 hg.2 hw.2 hp.map.2 hx1.ground).bind (by omega)
      fun (v1, m2) ⟨hx2, hb2, hs2⟩ => ?_
    refine (UM.Post.mkMap k1 v1).bind id fun t ⟨_, ht⟩ => ?_
    subst ht
    refine .pure ⟨hx1.trans hx2, .map (substG_mono hx2.le k k' hg.1 hb1) hb2, fun hpw he => ?_⟩
    simp only [Ty.wf, tyEq, Bool.and_eq_true] at hpw he
    exact .map (Sound.substG_monoS hx2.le k k' hg.1 (hs1 hpw.1.2 he.1)) (hs2 hpw.2 he.2)
  · next xs ys =>
    simp only [Ty.tuple.sizeOf_spec]
    split
    · exact .throw nofun
    · next hl =>
      refine (upost_list hu xs ys m hg hw hp hm (by simpa using hl)).bind (by omega)
        fun (ts, m1) ⟨hx1, hb1, hs1⟩ => ?_
      exact .pure ⟨hx1, .tuple hb1, fun hpw he => .tuple (hs1 hpw he)⟩
  · next xfs yfs =>
    simp only [Ty.obj.sizeOf_spec]
    split
    · exact .throw nofun
    · next hl =>
      have hl : xfs.length = yfs.length := by simpa using hl
      refine (upost_fields hu xfs yfs m hg hw hp hm).bind (by omega)
        fun (fs, m1) ⟨hx1, hb1, hs1⟩ => ?_
      have hl' : (substGFields m1 xfs).length = yfs.length := by rw [length_substGFields]; exact hl
      have hb := obj_of_fields hb1
      refine .pure ⟨hx1, .obj hl' (fun n hn => hb.1 n ?_) hb.2, fun hpw he => ?_⟩
      · rwa [find?_substGFields, Option.isSome_map] at hn
      · simp only [tyEq, Bool.and_eq_true] at he
        have hs := obj_of_fields (hs1 hpw he.2)
        refine .obj hl' (fun n => ?_) hs.2
        rw [find?_substGFields, Option.isSome_map]
        exact find?_isSome_eq_of_sub hpw hl hs.1 n
  · next name ps r _ qs s =>
    simp only [slotFree, Ty.wf, Bool.and_eq_true] at hg hw
    simp only [Ty.fn.sizeOf_spec]
    split
    · exact .throw nofun
    · next hl =>
      refine (upost_params hu ps qs m hg.1 hw.1 hp.fn.1 hm
        (by simpa using hl)).bind (by omega) fun (ps', m1) ⟨hx1, hb1, hs1⟩ => ?_
      refine (hu r s m1 hg.2 hw.2 hp.fn.2 hx1.ground).bind (by omega)
        fun (r', m2) ⟨hx2, hb2, hs2⟩ => ?_
      refine .pure ⟨hx1.trans hx2, .fn (substG_monoList hx2.le ps qs hg.1 hb1) hb2,
        fun hpw he => ?_⟩
      simp only [Ty.wf, tyEq, Bool.and_eq_true] at hpw he
      exact .fn (Sound.substG_monoSList hx2.le ps qs hg.1 (hs1 hpw.1 he.1)) (hs2 hpw.2 he.2)
  · next a b =>
    simp only [Ty.maybe.sizeOf_spec]
    refine (hu a b m hg hw hp hm).bind (by omega) fun (el, m1) ⟨hx1, hb1, hs1⟩ => ?_
    exact .pure ⟨hx1, .maybe hb1, fun hpw he => .maybe (hs1 hpw he)⟩
  · exact .throw nofun

end

theorem upost (P : String → Bool) : ∀ f, UPost P f
  | 0 => fun _ g _ _ _ _ _ => by unfold unify; exact fun _ => Ty.sizeOf_pos g
  | f+1 => upost_succ (upost_comp (upost P f))

theorem usound (P : String → Bool) (f : Nat) : ∀ p g m t m', slotFree g = true → g.wf = true →
    p.VarsIn (P · = true) → m.GroundOn P → unify f p g m = .ok (t, m') →
    MatchOK P p g m (t, m') :=
  fun p g m _ _ hg hw hp hm h => (upost P f p g m hg hw hp hm).of_ok h

theorem usound_ground {f : Nat} {p g t : Ty} {m m' : Subst} (hg : slotFree g = true)
    (hw : g.wf = true) (hm : m.Ground) (h : unify f p g m = .ok (t, m')) :
    m'.Ground ∧ m.le m' ∧ Below (substG m' p) g :=
  have ⟨hx, hb, _⟩ := usound (fun _ => true) f p g m t m' hg hw (fun _ _ => rfl) (hm.on _) h
  ⟨hx.ground.ground, hx.le, hb⟩

theorem ufuel (f : Nat) : ∀ p g m, slotFree g = true → g.wf = true → Subst.Ground m → sizeOf g ≤ f →
    unify f p g m ≠ .error .fuel :=
  fun p g m hg hw hm hs =>
    (upost (fun _ => true) f p g m hg hw (fun _ _ => rfl) (hm.on _)).ne_fuel (by omega)

/-- The instance `substG σ p` is well formed because `g` is (`StructEq.wf_of`); `r.1.kind = g.kind` serves the
`map` case of `ucomplete_comp` (`mkMap` asserts the unified key keyable). -/
def UComplete (f : Nat) : Prop :=
  ∀ p g m σ, slotFree g = true → g.wf = true → Subst.Ground m → Subst.le m σ →
    StructEq (substG σ p) g → sizeOf g ≤ f →
    Except.Sat (fun _ => False) (fun r => Subst.le r.2 σ ∧ Subst.Ground r.2 ∧ r.1.kind = g.kind)
      (unify f p g m)

def UCompleteComp (f : Nat) : Prop :=
  ∀ p g m σ, slotFree g = true → g.wf = true → Subst.Ground m → Subst.le m σ →
    StructEq (substG σ p) g → sizeOf g ≤ f + 1 →
    p.isComposite = true →
    Except.Sat (fun _ => False) (fun r => Subst.le r.2 σ ∧ Subst.Ground r.2 ∧ r.1.kind = g.kind)
      (unifyComposite f p g m)

theorem ucomplete_zero : UComplete 0 := by
  intro p g m σ _ _ _ _ _ hs
  have := Ty.sizeOf_pos g
  omega

theorem ucomplete_succ {f : Nat} (hc : UCompleteComp f) : UComplete (f+1) := by
  intro p g m σ hg hw hm hle hse hs
  have hgk := slotFree_kind hg
  by_cases hp : p.kind = .tyvar
  · cases p <;> simp [Ty.kind] at hp
    rename_i xn
    rw [unify_var_left f xn g m hgk, applySubst_ground_ok f m g hg hw]
    simp only [Except.ok_bind, slotFree_freeFrom xn g hg, if_true]
    simp only [substG] at hse
    cases hσ : σ.get? xn with
    | none =>
      simp only [hσ] at hse
      cases hse; simp [slotFree] at hg
    | some k' =>
      simp only [hσ] at hse
      have hle' : Subst.le (m.set xn g) σ := by
        intro n k hk
        by_cases hn : xn = n
        · subst hn
          rw [Subst.get?_set_self] at hk; cases hk
          exact ⟨k', hσ, StructEq.symm _ _ hse⟩
        · rw [Subst.get?_set_ne _ _ _ _ hn] at hk; exact hle n k hk
      have hgr := Subst.ground_set (n := xn) hm hg hw
      cases hk : m.get? xn with
      | none => exact .pure ⟨hle', hgr, rfl⟩
      | some k =>
        obtain ⟨k'', hk'', e⟩ := hle xn k hk
        rw [hσ] at hk''; cases hk''
        have : tyEq k g = true :=
          tyEq_complete k g (hm xn k hk).2 (StructEq.trans _ _ _ e hse)
        simp only [this, Bool.not_true, Bool.false_eq_true, if_false]
        exact .pure ⟨hle', hgr, rfl⟩
  · have hk : p.kind = g.kind := (substG_kind_of_nonvar σ hp).symm.trans hse.kind_eq
    by_cases hcomp : p.isComposite = true
    · rw [unify_comp f p g m hcomp hk]
      exact hc p g m σ hg hw hm hle hse hs hcomp
    rw [unify_nonvar f p g m hp hgk]
    by_cases hprim : p.isPrimitive = true
    · have : (p.isPrimitive && g.isPrimitive && p.kind == g.kind) = true := by
        simp only [Ty.isPrimitive, ← hk] at hprim ⊢; simp [hprim]
      simp only [this, if_true]
      exact .pure ⟨hle, hm, hk⟩
    · have h1 : (p.isPrimitive && g.isPrimitive && p.kind == g.kind) = false := by
        simp [hprim]
      have h2 : (p.isComposite && g.isComposite && p.kind == g.kind) = false := by
        simp [hcomp]
      simp only [h1, h2, Bool.false_eq_true, if_false]
      have : (g.kind == Kind.bot || p.kind == Kind.top) = true := by
        rw [← hk]
        cases p <;> simp [Ty.kind, Ty.isPrimitive, Ty.isComposite, Kind.isPrimitive,
          Kind.isComposite] at hp hprim hcomp ⊢
      simp only [this, if_true]
      exact .pure ⟨hle, hm, hk⟩

theorem ucomplete_list {f : Nat} (hu : UComplete f) : ∀ ps gs m σ,
    slotFreeList gs = true → wfList gs = true → Subst.Ground m → Subst.le m σ →
    StructEqList (substGList σ ps) gs → sizeOf gs ≤ f →
    Except.Sat (fun _ => False) (fun r => Subst.le r.2 σ ∧ Subst.Ground r.2) (unifyList f ps gs m)
  | .nil, _, m, σ, _, _, hm, hle, hse, _ => by
    simp only [substGList] at hse
    cases hse
    simp only [unifyList]
    exact .pure ⟨hle, hm⟩
  | .cons p ps, _, m, σ, hg, hw, hm, hle, hse, hs => by
    simp only [substGList] at hse
    cases hse with
    | cons h1 h2 =>
      rename_i g gs
      simp only [slotFreeList, Bool.and_eq_true] at hg
      simp only [wfList, Bool.and_eq_true] at hw
      simp only [TyList.cons.sizeOf_spec] at hs
      simp only [unifyList]
      refine (hu p g m σ hg.1 hw.1 hm hle h1 (by omega)).bind fun (t, m1) ⟨hle1, hm1, _⟩ => ?_
      exact (ucomplete_list hu ps gs m1 σ hg.2 hw.2 hm1 hle1 h2 (by omega)).bind
        fun (ts, m2) h => .pure h

theorem ucomplete_params {f : Nat} (hu : UComplete f) : ∀ ps gs m σ,
    slotFreeList gs = true → wfList gs = true → Subst.Ground m → Subst.le m σ →
    StructEqList (substGList σ ps) gs → sizeOf gs ≤ f →
    Except.Sat (fun _ => False) (fun r => Subst.le r.2 σ ∧ Subst.Ground r.2) (unifyParams f ps gs m)
  | .nil, _, m, σ, _, _, hm, hle, hse, _ => by
    simp only [substGList] at hse
    cases hse
    simp only [unifyParams]
    exact .pure ⟨hle, hm⟩
  | .cons p ps, _, m, σ, hg, hw, hm, hle, hse, hs => by
    simp only [substGList] at hse
    cases hse with
    | cons h1 h2 =>
      rename_i g gs
      simp only [slotFreeList, Bool.and_eq_true] at hg
      simp only [wfList, Bool.and_eq_true] at hw
      simp only [TyList.cons.sizeOf_spec] at hs
      cases f with
      | zero => omega
      | succ f' =>
      simp only [unifyParams]
      refine .bind_ok (applySubst_ok hm hle f' p (h1.wf_of hw.1)) ?_
      refine .bind_ok (applySubst_ground_ok (f'+1) m g hg.1 hw.1) ?_
      refine (hu (substG m p) g m σ hg.1 hw.1 hm hle
        (StructEq.trans _ _ _ (substG_substG hm hle p) h1) (by omega)).bind
        fun (t, m1) ⟨hle1, hm1, _⟩ => ?_
      exact (ucomplete_params hu ps gs m1 σ hg.2 hw.2 hm1 hle1 h2 (by omega)).bind
        fun (ts, m2) h => .pure h

theorem ucomplete_fields {f : Nat} (hu : UComplete f) : ∀ (fs gs : FieldList) m σ,
    slotFreeFields gs = true → wfFields gs = true → Subst.Ground m → Subst.le m σ →
    wfFields (substGFields σ fs) = true →
    (∀ n t, fs.find? n = some t → ∃ u, gs.find? n = some u ∧ StructEq (substG σ t) u) →
    sizeOf gs ≤ f →
    Except.Sat (fun _ => False) (fun r => Subst.le r.2 σ ∧ Subst.Ground r.2) (unifyFields f fs gs m)
  | .nil, gs, m, σ, _, _, hm, hle, _, _, _ => by
    simp only [unifyFields]
    exact .pure ⟨hle, hm⟩
  | .cons k t rest, gs, m, σ, hg, hw, hm, hle, hpw, hall, hs => by
    simp only [substGFields, wfFields, Bool.and_eq_true] at hpw
    obtain ⟨u, hu', hse⟩ := hall k t (FieldList.find?_cons_self k t rest)
    have hgu := slotFreeFields_find gs k u hg hu'
    have hwu := wfFields_find gs k u hw hu'
    have hsz := FieldList.find?_sizeOf gs k u hu'
    have hnone : (rest.find? k).isNone = true := by
      rw [← Option.isNone_map, ← find?_substGFields]; exact hpw.1.1
    simp only [unifyFields, hu']
    refine (hu t u m σ hgu hwu hm hle hse (by omega)).bind fun (t', m1) ⟨hle1, hm1, _⟩ => ?_
    exact (ucomplete_fields hu rest gs m1 σ hg hw hm1 hle1 hpw.2
      (fun n t0 ht0 => hall n t0 (FieldList.find?_cons_of_isNone t hnone ht0)) hs).bind
        fun (fs1, m2) h => .pure h

theorem ucomplete_comp {f : Nat} (hu : UComplete f) : UCompleteComp f := by
  intro p g m σ hg hw hm hle hse hs hcomp
  cases p with
  | list a =>
    simp only [substG] at hse
    cases hse with
    | list h1 =>
      rename_i b
      simp only [Ty.list.sizeOf_spec] at hs
      simp only [unifyComposite]
      exact (hu a b m σ hg hw hm hle h1 (by omega)).bind
        fun (el, m1) ⟨hle1, hm1, _⟩ => .pure ⟨hle1, hm1, rfl⟩
  | maybe a =>
    simp only [substG] at hse
    cases hse with
    | maybe h1 =>
      rename_i b
      simp only [Ty.maybe.sizeOf_spec] at hs
      simp only [unifyComposite]
      exact (hu a b m σ hg hw hm hle h1 (by omega)).bind
        fun (el, m1) ⟨hle1, hm1, _⟩ => .pure ⟨hle1, hm1, rfl⟩
  | map k v =>
    simp only [substG] at hse
    cases hse with
    | map h1 h2 =>
      rename_i k' v'
      simp only [slotFree, Bool.and_eq_true] at hg
      simp only [Ty.wf, Bool.and_eq_true] at hw
      simp only [Ty.map.sizeOf_spec] at hs
      simp only [unifyComposite]
      refine (hu k k' m σ hg.1 hw.1.2 hm hle h1 (by omega)).bind
        fun (k1, m1) ⟨hle1, hm1, hk1⟩ => ?_
      refine (hu v v' m1 σ hg.2 hw.2 hm1 hle1 h2 (by omega)).bind
        fun (v1, m2) ⟨hle2, hm2, _⟩ => ?_
      have hkey : k1.keyable = true := by rw [keyable_of_kind_eq hk1]; exact hw.1.1
      exact .bind_ok (mkMap_eq_ok.2 ⟨hkey, rfl⟩) (.pure ⟨hle2, hm2, rfl⟩)
  | tuple xs =>
    simp only [substG] at hse
    cases hse with
    | tuple h1 =>
      rename_i ys
      simp only [Ty.tuple.sizeOf_spec] at hs
      have hl : xs.length = ys.length := by
        rw [← length_substGList σ xs]; exact StructEqList.length_eq _ _ h1
      simp only [unifyComposite, hl, bne_self_eq_false, Bool.false_eq_true, if_false]
      exact (ucomplete_list hu xs ys m σ hg hw hm hle h1 (by omega)).bind
        fun (ts, m1) ⟨hle1, hm1⟩ => .pure ⟨hle1, hm1, rfl⟩
  | obj xfs =>
    simp only [substG] at hse
    have hpw : wfFields (substGFields σ xfs) = true := hse.wf_of hw
    cases hse with
    | obj hl hsome hrel =>
      rename_i yfs
      simp only [Ty.obj.sizeOf_spec] at hs
      rw [length_substGFields] at hl
      simp only [unifyComposite, hl, bne_self_eq_false, Bool.false_eq_true, if_false]
      exact (ucomplete_fields hu xfs yfs m σ hg hw hm hle hpw
        (fun n t ht => by
          have h1 : (substGFields σ xfs).find? n = some (substG σ t) := by
            rw [find?_substGFields, ht]; rfl
          obtain ⟨u, hu'⟩ := find?_of_isSome_eq (hsome n) h1
          exact ⟨u, hu', hrel n _ u h1 hu'⟩) (by omega)).bind
        fun (fs, m1) ⟨hle1, hm1⟩ => .pure ⟨hle1, hm1, rfl⟩
  | fn name ps r =>
    simp only [substG] at hse
    cases hse with
    | fn h1 h2 =>
      rename_i name' qs s
      simp only [slotFree, Bool.and_eq_true] at hg
      simp only [Ty.wf, Bool.and_eq_true] at hw
      simp only [Ty.fn.sizeOf_spec] at hs
      have hl : ps.length = qs.length := by
        rw [← length_substGList σ ps]; exact StructEqList.length_eq _ _ h1
      simp only [unifyComposite, hl, bne_self_eq_false, Bool.false_eq_true, if_false]
      refine (ucomplete_params hu ps qs m σ hg.1 hw.1 hm hle h1 (by omega)).bind
        fun (ps', m1) ⟨hle1, hm1⟩ => ?_
      exact (hu r s m1 σ hg.2 hw.2 hm1 hle1 h2 (by omega)).bind
        fun (r', m2) ⟨hle2, hm2, _⟩ => .pure ⟨hle2, hm2, rfl⟩
  | _ => simp [Ty.isComposite, Ty.kind, Kind.isComposite] at hcomp

theorem ucomplete : ∀ f, UComplete f
  | 0 => ucomplete_zero
  | f+1 => ucomplete_succ (ucomplete_comp (ucomplete f))

end Yae
