/- `Except ε` as the proofs use it.  `UM`, `CR` and the other error monads of the model are abbreviations of
`Except ε`, so everything here applies to their terms as they stand.

`Sat E P r`: `r` ends in a value with `P` or in an error with `E`.  It is closed under `pure`, `throw` and `>>=`,
so a function is walked ONCE with its whole invariant as `P`; "a successful run satisfies the invariant" (`of_ok`)
and "this error does not occur" (`ne_error`) are both read off that walk.  `Post fuel z r Q` is the instance for
functions that carry fuel: every error is allowed, the error `fuel` only under `z`. -/
namespace Yae
variable {ε α β : Type}

theorem Except.bind_eq_ok {a : Except ε α} {f : α → Except ε β} {v : β} :
    (a >>= f) = .ok v ↔ ∃ x, a = .ok x ∧ f x = .ok v := by
  cases a <;> simp [bind, Except.bind]

@[simp] theorem Except.ok_bind (x : α) (f : α → Except ε β) : ((Except.ok x : Except ε α) >>= f) = f x := rfl

@[simp] theorem Except.error_bind (e : ε) (f : α → Except ε β) :
    ((Except.error e : Except ε α) >>= f) = .error e := rfl

@[simp] theorem Except.pure_eq_ok {x v : α} : (pure x : Except ε α) = .ok v ↔ x = v := by
  simp [pure, Except.pure]

@[simp] theorem Except.throw_ne_ok {e : ε} {v : α} : (throw e : Except ε α) ≠ .ok v := by
  simp [throw, throwThe, MonadExceptOf.throw]

theorem Except.throw_eq (e : ε) : (throw e : Except ε α) = .error e := rfl
theorem Except.pure_eq (x : α) : (pure x : Except ε α) = .ok x := rfl

def Except.Sat (E : ε → Prop) (P : α → Prop) : Except ε α → Prop
  | .ok a => P a
  | .error e => E e

namespace Except.Sat
variable {E E' : ε → Prop} {P P' : α → Prop} {Q : β → Prop} {a : Except ε α}

theorem bind {f : α → Except ε β} (ha : Sat E P a) (hf : ∀ x, P x → Sat E Q (f x)) : Sat E Q (a >>= f) := by
  cases a with
  | ok x => exact hf x ha
  | error e => exact ha

theorem bind_ok {f : α → Except ε β} {x : α} (h : a = .ok x) (hf : Sat E Q (f x)) : Sat E Q (a >>= f) :=
  h ▸ hf

/-- `if b then throw e` in a `do` block: the rest runs only when `b` is false -/
theorem guard {b : Bool} {e : ε} {f : β → Except ε α} {k : Except ε α} (he : b = true → E e)
    (hk : b = false → Sat E P k) : Sat E P (if b = true then (throw e : Except ε β) >>= f else k) := by
  cases b
  · exact hk rfl
  · exact he rfl

theorem mono (h : Sat E P a) (hE : ∀ e, E e → E' e) (hP : ∀ x, P x → P' x) : Sat E' P' a := by
  cases a with
  | ok x => exact hP x h
  | error e => exact hE e h

theorem intro (h : ∀ e, a = .error e → E e) : Sat E (fun x => a = .ok x) a := by
  cases a with
  | ok x => rfl
  | error e => exact h e rfl

theorem of_ok {x : α} (h : Sat E P a) (ha : a = .ok x) : P x := by
  subst ha; exact h

theorem ne_error {e : ε} (h : Sat E P a) (he : ¬E e) : a ≠ .error e := by
  rintro rfl; exact he h

theorem error_or_ok {e : ε} (h : Sat (· = e) P a) : a = .error e ∨ ∃ x, a = .ok x ∧ P x := by
  cases a with
  | ok x => exact .inr ⟨x, rfl, h⟩
  | error e' => exact .inl (congrArg _ h)

theorem exists_ok (h : Sat E P a) (hE : ∀ e, ¬E e) : ∃ x, a = .ok x ∧ P x := by
  cases a with
  | ok x => exact ⟨x, rfl, h⟩
  | error e => exact (hE e h).elim

theorem pure {x : α} (h : P x) : Sat E P (pure x : Except ε α) := h

theorem throw {e : ε} (h : E e) : Sat E P (throw e : Except ε α) := h

end Except.Sat

abbrev Except.Post (fuel : ε) (z : Prop) (r : Except ε α) (Q : α → Prop) : Prop :=
  Except.Sat (fun e => e = fuel → z) Q r

namespace Except.Post
variable {fuel : ε} {z z' : Prop} {Q Q' : α → Prop} {R : β → Prop} {r : Except ε α}

theorem mono (h : Post fuel z r Q) (hz : z → z') (hq : ∀ v, Q v → Q' v) : Post fuel z' r Q' :=
  Sat.mono h (fun _ he hf => hz (he hf)) hq

/-- `z` may be weakened on the way: a callee is given part of the bound -/
theorem bind {k : α → Except ε β} (ha : Post fuel z r Q) (hz : z → z')
    (hk : ∀ x, Q x → Post fuel z' (k x) R) : Post fuel z' (r >>= k) R :=
  Sat.bind (ha.mono hz fun _ => id) hk

theorem intro (h : r ≠ .error fuel ∨ z) : Post fuel z r fun v => r = .ok v :=
  Sat.intro fun _ he hf => h.elim (fun hn => absurd (hf ▸ he) hn) id

theorem ne_fuel (h : Post fuel z r Q) (hz : ¬z) : r ≠ .error fuel :=
  Sat.ne_error h fun hf => hz (hf rfl)

end Except.Post

end Yae
