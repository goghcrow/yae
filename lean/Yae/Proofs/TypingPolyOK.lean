/-
  C05: discharging `PolyOK` from a decidable, syntactic condition on the registered signature
  (`Yae.PolyOK.sigOK_polyOK`).

  `sigOK (.fn name ps ret)`: parameters and result are well formed, their variables are not
  named `s…` / `t…` (the fresh names `inferFun` draws), they contain no function type, no
  variable occurs inside a map-key position of the result, and the parameter list is small
  enough for the unifier's fuel (`tySizeList ps + 4 ≤ defaultFuel = 100000`).

  For such a signature and argument types expressions can have (`TyOKList`), `inferFun` computes
  exactly what the specification's `instantiate` says (`sigOK_inferFun`; no fuel alternative:
  the unifier's fuel decreases along the *pattern*, whose size is bounded by `sigOK`).  The proof
  follows the four steps of `inferFun`:
    1. the first `unify` binds `s<i> ↦ param_i`, `t<n> ↦ ret` (`Sound.phase1`),
    2. `applySubst` of the fresh tuple gives the parameters back (`Sound.phase2`),
    3. the second `unify`, against the variable-free argument tuple, is simulated step by step by
       `pmatch` on the substitution restricted to signature variables (`usim`),
    4. `applySubst` of `t<n>` is `substG` of the result type (`applySubst_okG_ok`).

  `SigEnv Γ` asks `TyOK` of the variable types and `declOK` (`sigOK`, when the signature has
  variables) of the registered declarations; such an environment is `EnvOK` and the checker never
  answers `fuel` on it.  Every built-in signature is `sigOK` (`builtinFuns_sigOK`).

  Two names of this namespace also exist in `Yae.Sound`, which is open: `EnvOK Γ` here is
  `Yae.EnvOK` of `TypingCheck` (the checker's condition on `Γ` alone), not `Sound.EnvOK Γ ρ`;
  `declOK : Ty → Bool` below hides `Sound.declOK : FunDecl → Bool` of `Spec/WF`.
-/
import Yae.Proofs.TypingCheck
import Yae.Proofs.SoundnessInfer
import Yae.Proofs.TyUnify
namespace Yae.PolyOK
open Yae Yae.Sound

mutual
def keysClosed : Ty → Bool
  | .map k v => slotFree k && keysClosed v
  | .tuple ts => keysClosedList ts
  | .list el => keysClosed el
  | .obj fs => keysClosedFields fs
  | .fn _ ps r => keysClosedList ps && keysClosed r
  | .maybe el => keysClosed el
  | _ => true
def keysClosedList : TyList → Bool
  | .nil => true
  | .cons t ts => keysClosed t && keysClosedList ts
def keysClosedFields : FieldList → Bool
  | .nil => true
  | .cons _ t fs => keysClosed t && keysClosedFields fs
end

mutual
def tySize : Ty → Nat
  | .tuple ts => tySizeList ts + 1
  | .list el => tySize el + 1
  | .map k v => tySize k + tySize v + 1
  | .obj fs => tySizeFields fs + 1
  | .fn _ ps r => tySizeList ps + tySize r + 1
  | .maybe el => tySize el + 1
  | _ => 1
def tySizeList : TyList → Nat
  | .nil => 0
  | .cons t ts => tySize t + tySizeList ts + 1
def tySizeFields : FieldList → Nat
  | .nil => 0
  | .cons _ t fs => tySize t + tySizeFields fs + 1
end

def sigOK : Ty → Bool
  | .fn _ ps ret =>
    wfList ps && ret.wf && okVarsList ps && okVars ret && noFnList ps && noFn ret &&
      keysClosed ret && decide (tySizeList ps + 4 ≤ defaultFuel)
  | _ => false

theorem applySubstList_unbound_ok (f : Nat) (m : Subst) : ∀ ts,
    (∀ n, freeFromList n ts = false → m.get? n = none) → wfList ts = true →
    applySubstList f m ts = .ok ts :=
  applySubstList_unbound f m
theorem applySubstFields_unbound_ok (f : Nat) (m : Subst) : ∀ fs,
    (∀ n, freeFromFields n fs = false → m.get? n = none) → wfFields fs = true →
    applySubstFields f m fs = .ok fs :=
  applySubstFields_unbound f m

mutual
/-- with one unit of fuel `applySubst` is `substG` (no `types.Map` panic: the keys of the type
are variable free) -/
theorem applySubst_okG_ok {m : Subst} (hm : OkG m) (f : Nat) : ∀ t, okVars t = true →
    t.wf = true → keysClosed t = true → applySubst (f+1) m t = .ok (substG m t)
  | .var n, ho, _, _ => by
    simp only [okVars] at ho
    rw [applySubst.eq_1]
    simp only [substG]
    cases hn : m.get? n with
    | none => rfl
    | some r =>
      have hr := hm n r ho hn
      simp only []
      split
      · simp [slotFree] at hr
      · exact applySubst_ground_ok f m r hr.1 hr.2
  | .top, _, _, _ | .bot, _, _, _ | .num, _, _, _ | .str, _, _, _ | .bool, _, _, _
  | .time, _, _, _ => by
    simp [applySubst, substG]
  | .tuple ts, ho, hw, hk => by
    simp only [okVars] at ho; simp only [Ty.wf] at hw; simp only [keysClosed] at hk
    simp only [applySubst, applySubstList_okG_ok hm f ts ho hw hk, Except.ok_bind, substG]; rfl
  | .list a, ho, hw, hk | .maybe a, ho, hw, hk => by
    simp only [okVars] at ho; simp only [Ty.wf] at hw; simp only [keysClosed] at hk
    simp only [applySubst, applySubst_okG_ok hm f a ho hw hk, Except.ok_bind, substG]; rfl
  | .map k v, ho, hw, hk => by
    simp only [okVars, Bool.and_eq_true] at ho
    simp only [Ty.wf, Bool.and_eq_true] at hw
    simp only [keysClosed, Bool.and_eq_true] at hk
    simp only [applySubst, applySubst_ground_ok (f+1) m k hk.1 hw.1.2,
      applySubst_okG_ok hm f v ho.2 hw.2 hk.2, Except.ok_bind, substG, substG_ground m k hk.1, mkMap,
      hw.1.1, if_true]; rfl
  | .obj fs, ho, hw, hk => by
    simp only [okVars] at ho; simp only [Ty.wf] at hw; simp only [keysClosed] at hk
    simp only [applySubst, applySubstFields_okG_ok hm f fs ho hw hk, Except.ok_bind, substG]; rfl
  | .fn _ ps r, ho, hw, hk => by
    simp only [okVars, Bool.and_eq_true] at ho
    simp only [Ty.wf, Bool.and_eq_true] at hw
    simp only [keysClosed, Bool.and_eq_true] at hk
    simp only [applySubst, applySubstList_okG_ok hm f ps ho.1 hw.1 hk.1,
      applySubst_okG_ok hm f r ho.2 hw.2 hk.2, Except.ok_bind, substG]; rfl
theorem applySubstList_okG_ok {m : Subst} (hm : OkG m) (f : Nat) : ∀ ts, okVarsList ts = true →
    wfList ts = true → keysClosedList ts = true →
    applySubstList (f+1) m ts = .ok (substGList m ts)
  | .nil, _, _, _ => by simp [applySubstList, substGList]
  | .cons t ts, ho, hw, hk => by
    simp only [okVarsList, Bool.and_eq_true] at ho
    simp only [wfList, Bool.and_eq_true] at hw
    simp only [keysClosedList, Bool.and_eq_true] at hk
    simp only [applySubstList, applySubst_okG_ok hm f t ho.1 hw.1 hk.1,
      applySubstList_okG_ok hm f ts ho.2 hw.2 hk.2, Except.ok_bind, substGList]; rfl
theorem applySubstFields_okG_ok {m : Subst} (hm : OkG m) (f : Nat) : ∀ fs,
    okVarsFields fs = true → wfFields fs = true → keysClosedFields fs = true →
    applySubstFields (f+1) m fs = .ok (substGFields m fs)
  | .nil, _, _, _ => by simp [applySubstFields, substGFields]
  | .cons n t fs, ho, hw, hk => by
    simp only [okVarsFields, Bool.and_eq_true] at ho
    simp only [wfFields, Bool.and_eq_true] at hw
    simp only [keysClosedFields, Bool.and_eq_true] at hk
    simp only [applySubstFields, applySubst_okG_ok hm f t ho.1 hw.1.2 hk.1,
      applySubstFields_okG_ok hm f fs ho.2 hw.2 hk.2, Except.ok_bind, substGFields]; rfl
end

def OkN (m : Subst) : Prop :=
  ∀ n k, okVarName n = true → m.get? n = some k → noFn k = true

theorem OkN.set {m : Subst} {n : String} {t : Ty} (hm : OkN m) (h : noFn t = true) :
    OkN (m.set n t) := by
  intro n' k hok hk
  by_cases hn : n = n'
  · subst hn; rw [Subst.get?_set_self] at hk; cases hk; exact h
  · rw [Subst.get?_set_ne _ _ _ _ hn] at hk; exact hm n' k hok hk

mutual
theorem noFn_substG {m : Subst} (hm : OkN m) : ∀ t, okVars t = true → noFn t = true →
    noFn (substG m t) = true
  | .var n, ho, _ => by
    simp only [okVars] at ho
    simp only [substG]
    cases hn : m.get? n with
    | none => rfl
    | some r => exact hm n r ho hn
  | .top, _, _ | .bot, _, _ | .num, _, _ | .str, _, _ | .bool, _, _ | .time, _, _ => rfl
  | .tuple ts, ho, h => by
    simp only [okVars] at ho; simp only [noFn] at h
    simp only [substG, noFn]; exact noFnList_substG hm ts ho h
  | .list a, ho, h | .maybe a, ho, h => by
    simp only [okVars] at ho; simp only [noFn] at h
    simp only [substG, noFn]; exact noFn_substG hm a ho h
  | .map k v, ho, h => by
    simp only [okVars, Bool.and_eq_true] at ho; simp only [noFn, Bool.and_eq_true] at h
    simp only [substG, noFn, Bool.and_eq_true]
    exact ⟨noFn_substG hm k ho.1 h.1, noFn_substG hm v ho.2 h.2⟩
  | .obj fs, ho, h => by
    simp only [okVars] at ho; simp only [noFn] at h
    simp only [substG, noFn]; exact noFnFields_substG hm fs ho h
  | .fn _ _ _, _, h => by simp [noFn] at h
theorem noFnList_substG {m : Subst} (hm : OkN m) : ∀ ts, okVarsList ts = true →
    noFnList ts = true → noFnList (substGList m ts) = true
  | .nil, _, _ => rfl
  | .cons t ts, ho, h => by
    simp only [okVarsList, Bool.and_eq_true] at ho; simp only [noFnList, Bool.and_eq_true] at h
    simp only [substGList, noFnList, Bool.and_eq_true]
    exact ⟨noFn_substG hm t ho.1 h.1, noFnList_substG hm ts ho.2 h.2⟩
theorem noFnFields_substG {m : Subst} (hm : OkN m) : ∀ fs, okVarsFields fs = true →
    noFnFields fs = true → noFnFields (substGFields m fs) = true
  | .nil, _, _ => rfl
  | .cons n t fs, ho, h => by
    simp only [okVarsFields, Bool.and_eq_true] at ho; simp only [noFnFields, Bool.and_eq_true] at h
    simp only [substGFields, noFnFields, Bool.and_eq_true]
    exact ⟨noFn_substG hm t ho.1 h.1, noFnFields_substG hm fs ho.2 h.2⟩
end

theorem pmatch_keyable {k g t : Ty} {σ σ' : Subst} (h : pmatch k g σ = some (t, σ'))
    (hk : k.keyable = true) (hg : g.keyable = true) : t.keyable = true := by
  cases k <;> simp [Ty.keyable, Ty.isPrimitive, Ty.kind, Kind.isPrimitive] at hk
  case var n =>
    simp only [pmatch] at h
    split at h
    · split at h
      · cases h; exact hg
      · cases h
    · cases h; exact hg
  all_goals
    cases g <;> simp [pmatch] at h <;> (obtain ⟨rfl, _⟩ := h; rfl)

/-- the specification's instantiation is the signature-variable part of the unifier's -/
def Agree (σ m : Subst) : Prop := ∀ n, okVarName n = true → σ.get? n = m.get? n

structure Inv (σ m : Subst) : Prop where
  agree : Agree σ m
  okG : OkG m
  okN : OkN m

theorem Inv.set {σ m : Subst} (h : Inv σ m) {n : String} {g : Ty} (hg : TyOK g = true) :
    Inv (σ.set n g) (m.set n g) := by
  obtain ⟨hs, hw, hn⟩ := TyOK_iff.1 hg
  refine ⟨fun n' hok => ?_, Subst.GroundOn.set h.okG hs hw, h.okN.set hn⟩
  by_cases e : n = n'
  · subst e; rw [Subst.get?_set_self, Subst.get?_set_self]
  · rw [Subst.get?_set_ne _ _ _ _ e, Subst.get?_set_ne _ _ _ _ e]; exact h.agree n' hok

/-- `u` (a run of the unifier from `m`) does what `r` (the matcher) says -/
def SimR {α : Type} (u : UM (α × Subst)) (r : Option (α × Subst)) (m : Subst) : Prop :=
  match r with
  | some (t, σ') => ∃ m', u = .ok (t, m') ∧ Inv σ' m' ∧ JunkEq m m'
  | none => u = .error .fail

theorem SimR.ok {α : Type} {t : α} {σ m : Subst} (h : Inv σ m) :
    SimR (.ok (t, m)) (some (t, σ)) m := ⟨m, rfl, h, JunkEq.refl m⟩

/-- At fuel `f`, `unify f p g m` and the specification's `pmatch p g σ` agree (`SimR`) whenever `σ` and `m` agree on the
signature's variables (`Inv`); `g` is a type an expression can have (`TyOK`), `p` a parameter of a `sigOK` signature. -/
def USim (f : Nat) : Prop :=
  ∀ p g m σ, TyOK g = true → okVars p = true → p.wf = true → noFn p = true → Inv σ m →
    tySize p ≤ f → SimR (unify f p g m) (pmatch p g σ) m

theorem usim_var (f : Nat) (n : String) (g : Ty) (m σ : Subst) (hg : TyOK g = true)
    (ho : okVarName n = true) (hinv : Inv σ m) :
    SimR (unify (f+1) (.var n) g m) (pmatch (.var n) g σ) m := by
  obtain ⟨hs, hw, -⟩ := TyOK_iff.1 hg
  rw [unify_var_left f n g m (slotFree_kind hs), applySubst_ground_ok f m g hs hw]
  simp only [Except.ok_bind, slotFree_freeFrom n g hs, if_true]
  simp only [pmatch, hinv.agree n ho]
  have hj : JunkEq m (m.set n g) := fun n' hn' => Subst.get?_set_ne _ _ _ _ (ne_of_ok ho hn')
  cases hk : m.get? n with
  | none => exact ⟨_, rfl, hinv.set hg, hj⟩
  | some k =>
    simp only []
    by_cases he : tyEq k g = true
    · simp only [he, Bool.not_true, Bool.false_eq_true, if_false, if_true]
      exact ⟨_, rfl, hinv.set hg, hj⟩
    · simp only [he, Bool.not_false, if_true, if_false, Bool.false_eq_true]
      rfl

/-- Where `unify` does not descend (`p` is no variable and not a composite of the kind of `g`),
`pmatch` decides as the tail of `unify` does (`unify_nonvar`). -/
theorem pmatch_flat (p g : Ty) (σ : Subst) (hp : p.kind ≠ .tyvar)
    (hc : (p.isComposite && g.isComposite && p.kind == g.kind) = false) :
    pmatch p g σ =
      if p.isPrimitive && g.isPrimitive && p.kind == g.kind then some (p, σ)
      else if g.kind == .bot || p.kind == .top then some (p, σ)
      else none := by
  cases p <;> first
    | exact absurd rfl hp
    | (cases g <;> first | rfl | exact nomatch hc)

theorem usim_flat (f : Nat) (p g : Ty) (m σ : Subst) (hg : slotFree g = true) (hinv : Inv σ m)
    (hp : p.kind ≠ .tyvar)
    (hc : (p.isComposite && g.isComposite && p.kind == g.kind) = false) :
    SimR (unify (f+1) p g m) (pmatch p g σ) m := by
  rw [unify_nonvar f p g m hp (slotFree_kind hg), pmatch_flat p g σ hp hc, hc]
  split
  · exact SimR.ok hinv
  · rw [if_neg Bool.false_ne_true]
    split
    · exact SimR.ok hinv
    · rfl

/-- One simulated step followed by `k`: the matcher refuses and the run ends with `fail`, or both
go on from related substitutions. -/
theorem SimR.elim {α β : Type} {u : UM (α × Subst)} {r : Option (α × Subst)} {m : Subst}
    (h : SimR u r m) {k : α × Subst → UM (β × Subst)} {R : Prop}
    (hn : r = none → (u >>= k) = .error .fail → R)
    (hs : ∀ t σ' m', r = some (t, σ') → (u >>= k) = k (t, m') → Inv σ' m' → JunkEq m m' → R) :
    R := by
  cases r with
  | none => exact hn rfl (by rw [show u = .error .fail from h]; rfl)
  | some x =>
    obtain ⟨m', hu, hi, hj⟩ := h
    exact hs _ _ m' rfl (by rw [hu]; rfl) hi hj

section
variable {f : Nat}

theorem usim_list (hu : USim f) : ∀ (ps gs : TyList) (m σ : Subst), TyOKList gs = true →
    okVarsList ps = true → wfList ps = true → noFnList ps = true → Inv σ m → tySizeList ps ≤ f →
    SimR (unifyList f ps gs m) (pmatchList ps gs σ) m
  | .nil, gs, m, σ, _, _, _, _, hinv, _ => by
    cases gs <;> (simp only [unifyList, pmatchList]; exact SimR.ok hinv)
  | .cons p ps, .nil, m, σ, _, _, _, _, hinv, _ => by
    simp only [unifyList, pmatchList]; exact SimR.ok hinv
  | .cons p ps, .cons g gs, m, σ, hg, ho, hpw, hpn, hinv, hsz => by
    have hg := TyOKList_cons.1 hg
    simp only [wfList, Bool.and_eq_true] at hpw
    simp only [noFnList, Bool.and_eq_true] at hpn
    simp only [okVarsList, Bool.and_eq_true] at ho
    simp only [tySizeList] at hsz
    simp only [unifyList, pmatchList]
    refine (hu p g m σ hg.1 ho.1 hpw.1 hpn.1 hinv (by omega)).elim
      (fun hr e => by rw [hr, e]; rfl) fun t σ1 m1 hr e hi1 hj1 => ?_
    rw [hr, e]; simp only []
    refine (usim_list hu ps gs m1 σ1 hg.2 ho.2 hpw.2 hpn.2 hi1 (by omega)).elim
      (fun hr e => by rw [hr, e]; rfl) fun ts σ2 m2 hr e hi2 hj2 => ?_
    rw [hr, e]
    exact ⟨m2, rfl, hi2, JunkEq.trans hj1 hj2⟩

theorem usim_fields (hu : USim f) : ∀ (fs gs : FieldList) (m σ : Subst), TyOK (.obj gs) = true →
    okVarsFields fs = true → wfFields fs = true → noFnFields fs = true → Inv σ m →
    tySizeFields fs ≤ f → SimR (unifyFields f fs gs m) (pmatchFields fs gs σ) m
  | .nil, gs, m, σ, _, _, _, _, hinv, _ => by
    simp only [unifyFields, pmatchFields]; exact SimR.ok hinv
  | .cons n p fs, gs, m, σ, hg, ho, hpw, hpn, hinv, hsz => by
    simp only [wfFields, Bool.and_eq_true] at hpw
    simp only [noFnFields, Bool.and_eq_true] at hpn
    simp only [okVarsFields, Bool.and_eq_true] at ho
    simp only [tySizeFields] at hsz
    simp only [unifyFields, pmatchFields]
    cases hfind : gs.find? n with
    | none => rfl
    | some g =>
      simp only []
      refine (hu p g m σ (TyOK_find hg hfind) ho.1 hpw.1.2 hpn.1 hinv (by omega)).elim
        (fun hr e => by rw [hr, e]; rfl) fun t σ1 m1 hr e hi1 hj1 => ?_
      rw [hr, e]; simp only []
      refine (usim_fields hu fs gs m1 σ1 hg ho.2 hpw.2 hpn.2 hi1 (by omega)).elim
        (fun hr e => by rw [hr, e]; rfl) fun ts σ2 m2 hr e hi2 hj2 => ?_
      rw [hr, e]
      exact ⟨m2, rfl, hi2, JunkEq.trans hj1 hj2⟩

end

theorem usim_zero : USim 0 := by
  intro p g m σ _ _ _ _ _ hsz
  have : 0 < tySize p := by cases p <;> simp [tySize]
  omega

theorem usim_succ {f : Nat} (hu : USim f) : USim (f+1) := by
  intro p g m σ hg ho hpw hpn hinv hsz
  have hs := (TyOK_iff.1 hg).1
  cases p with
  | var n => exact usim_var f n g m σ hg ho hinv
  | top | bot | num | str | bool | time => exact usim_flat f _ g m σ hs hinv nofun rfl
  | fn _ _ _ => simp [noFn] at hpn
  | list a =>
    cases g with
    | list b =>
      rw [unify_comp f (.list a) (.list b) m rfl rfl]
      simp only [unifyComposite, pmatch]
      refine (hu a b m σ hg ho hpw hpn hinv (by simp only [tySize] at hsz; omega)).elim
        (fun hr e => by rw [hr, e]; rfl) fun t σ1 m1 hr e hi1 hj1 => ?_
      rw [hr, e]
      exact ⟨m1, rfl, hi1, hj1⟩
    | _ => exact usim_flat f _ _ m σ hs hinv nofun rfl
  | maybe a =>
    cases g with
    | maybe b =>
      rw [unify_comp f (.maybe a) (.maybe b) m rfl rfl]
      simp only [unifyComposite, pmatch]
      refine (hu a b m σ hg ho hpw hpn hinv (by simp only [tySize] at hsz; omega)).elim
        (fun hr e => by rw [hr, e]; rfl) fun t σ1 m1 hr e hi1 hj1 => ?_
      rw [hr, e]
      exact ⟨m1, rfl, hi1, hj1⟩
    | _ => exact usim_flat f _ _ m σ hs hinv nofun rfl
  | map k v =>
    cases g with
    | map k' v' =>
      rw [unify_comp f (.map k v) (.map k' v') m rfl rfl]
      obtain ⟨hgkey, hgk, hgv⟩ := TyOK_map.1 hg
      simp only [Ty.wf, Bool.and_eq_true] at hpw
      simp only [noFn, Bool.and_eq_true] at hpn
      simp only [okVars, Bool.and_eq_true] at ho
      simp only [tySize] at hsz
      simp only [unifyComposite, pmatch]
      refine (hu k k' m σ hgk ho.1 hpw.1.2 hpn.1 hinv (by omega)).elim
        (fun hr e => by rw [hr, e]; rfl) fun k1 σ1 m1 hr e hi1 hj1 => ?_
      have hkey := pmatch_keyable hr hpw.1.1 hgkey
      rw [hr, e]; simp only []
      refine (hu v v' m1 σ1 hgv ho.2 hpw.2 hpn.2 hi1 (by omega)).elim
        (fun hr e => by rw [hr, e]; rfl) fun v1 σ2 m2 hr e hi2 hj2 => ?_
      rw [hr, e]
      simp only [mkMap, hkey, if_true]
      exact ⟨m2, rfl, hi2, JunkEq.trans hj1 hj2⟩
    | _ => exact usim_flat f _ _ m σ hs hinv nofun rfl
  | tuple xs =>
    cases g with
    | tuple ys =>
      rw [unify_comp f (.tuple xs) (.tuple ys) m rfl rfl]
      simp only [unifyComposite, pmatch]
      by_cases hlen : (xs.length != ys.length) = true
      · simp only [hlen, if_true]; rfl
      · simp only [hlen, Bool.false_eq_true, if_false]
        refine (usim_list hu xs ys m σ hg ho hpw hpn hinv
          (by simp only [tySize] at hsz; omega)).elim
          (fun hr e => by rw [hr, e]; rfl) fun ts σ1 m1 hr e hi1 hj1 => ?_
        rw [hr, e]
        exact ⟨m1, rfl, hi1, hj1⟩
    | _ => exact usim_flat f _ _ m σ hs hinv nofun rfl
  | obj fs =>
    cases g with
    | obj gs =>
      rw [unify_comp f (.obj fs) (.obj gs) m rfl rfl]
      simp only [unifyComposite, pmatch]
      by_cases hlen : (fs.length != gs.length) = true
      · simp only [hlen, if_true]; rfl
      · simp only [hlen, Bool.false_eq_true, if_false]
        refine (usim_fields hu fs gs m σ hg ho hpw hpn hinv
          (by simp only [tySize] at hsz; omega)).elim
          (fun hr e => by rw [hr, e]; rfl) fun ts σ1 m1 hr e hi1 hj1 => ?_
        rw [hr, e]
        exact ⟨m1, rfl, hi1, hj1⟩
    | _ => exact usim_flat f _ _ m σ hs hinv nofun rfl

theorem usim : ∀ f, USim f
  | 0 => usim_zero
  | f+1 => usim_succ (usim f)

theorem inv_nil {m : Subst} (hm : NoOk m) : Inv [] m :=
  ⟨fun n hn => by rw [hm n hn]; rfl, hm.okG, fun n k hn hk => by rw [hm n hn] at hk; cases hk⟩

/-- `inferFun` calls with `defaultFuel = 100000`; `phase1` is stated at `f+3`, `phase2` / `applySubst_chase` at
`f+1`, then `applySubst_okG_ok` at `f+1` again: hence `99997`, `99999`, `99998` -/
theorem sigOK_inferFun {name : String} {ps : TyList} {ret : Ty}
    (h : sigOK (.fn name ps ret) = true) {As : TyList} (hA : TyOKList As = true) (ctr : Nat) :
    inferFun ctr name ps ret As = specInfer ps ret As := by
  simp only [sigOK, Bool.and_eq_true, decide_eq_true_eq] at h
  obtain ⟨⟨⟨⟨⟨⟨⟨hps, hret⟩, hokp⟩, hokr⟩, hnp⟩, _⟩, hkc⟩, hsz⟩ := h
  obtain ⟨hp1, hp2⟩ := phase1 99997 name (ctr+1) (ctr+As.length+1) ps As.length ret hokp hokr hps hret
  unfold specInfer instantiate inferFun
  by_cases hlen : As.length = ps.length
  · obtain ⟨x1, m1, h1, hm1, hb1, ht1⟩ := hp1 hlen
    change unify defaultFuel _ _ [] = _ at h1
    have h2 : applySubst defaultFuel m1 (.tuple (freshVars "s" (ctr+1) As.length)) = .ok (.tuple ps) := by
      rw [hlen]
      simp only [applySubst]
      show (applySubstList (99999+1) m1 _ >>= _) = _
      rw [phase2 99999 m1 hm1 ps (ctr+1) hokp hps hb1]; rfl
    have hlen' : (ps.length != As.length) = false := by simp [hlen]
    have h3 := usim defaultFuel (.tuple ps) (.tuple As) m1 [] hA (by simpa [okVars] using hokp)
      (by simpa [Ty.wf] using hps) (by simpa [noFn] using hnp) (inv_nil hm1)
      (by simp only [tySize]; omega)
    simp only [pmatch, hlen', Bool.false_eq_true, if_false] at h3
    simp only [h1, Except.ok_bind, h2, hlen', Bool.false_eq_true, if_false]
    cases hr : pmatchList ps As [] with
    | none =>
      rw [hr] at h3
      have hfail : unify defaultFuel (.tuple ps) (.tuple As) m1 = .error .fail := h3
      rw [hfail]
      rfl
    | some x =>
      obtain ⟨ps', σ'⟩ := x
      rw [hr] at h3
      obtain ⟨m2, hu2, hi2, hj2⟩ := h3
      simp only [hu2, Except.ok_bind]
      have ht2 : m2.get? (freshName "t" (ctr + As.length + 1)) = some ret := by
        rw [hj2 _ (okVarName_t _)]; exact ht1
      have h4 : applySubst defaultFuel m2 (.var (freshName "t" (ctr + As.length + 1))) =
          .ok (substG σ' ret) := by
        rw [substG_agree hi2.agree ret hokr]
        exact (applySubst_chase (f := 99999) ht2 (okVarName_t _) hokr).trans
          (applySubst_okG_ok hi2.okG 99998 ret hokr hret hkc)
      simp only [h4, Except.ok_bind]
      by_cases hsf : slotFree (substG σ' ret) = true
      · simp only [hsf, Bool.not_true, Bool.false_eq_true, if_false, if_true]; rfl
      · simp only [hsf, Bool.not_false, if_true, Bool.false_eq_true, if_false]; rfl
  · have h1 := hp2 hlen
    change unify defaultFuel _ _ [] = _ at h1
    have hlen' : (ps.length != As.length) = true := by
      simp only [bne_iff_ne, ne_eq]; exact fun e => hlen e.symm
    simp only [h1, hlen', if_true]
    rfl

theorem instantiate_tyOK {name : String} {ps : TyList} {ret : Ty} {As ps' : TyList} {T : Ty}
    (hs : sigOK (.fn name ps ret) = true) (hA : TyOKList As = true)
    (h : instantiate ps ret As = some (ps', T)) : TyOK T = true := by
  simp only [sigOK, Bool.and_eq_true, decide_eq_true_eq] at hs
  obtain ⟨⟨⟨⟨⟨⟨⟨hps, hret⟩, hokp⟩, hokr⟩, hnp⟩, hnr⟩, hkc⟩, _⟩ := hs
  obtain ⟨_, σ', hr, rfl, hsf⟩ := instantiate_some h
  -- what `pmatchList` bound is read off the run of the unifier that `usim_list` sets beside it
  have h3 := usim_list (usim (tySizeList ps)) ps As [] [] hA hokp hps hnp
    (inv_nil (fun _ _ => rfl)) (Nat.le_refl _)
  rw [hr] at h3
  obtain ⟨m2, _, hi2, _⟩ := h3
  rw [TyOK_iff, substG_agree hi2.agree ret hokr] at *
  exact ⟨hsf, applySubst_wf m2 hi2.okG 1 ret _ hokr hret (applySubst_okG_ok hi2.okG 0 ret hokr hret hkc),
    noFn_substG hi2.okN ret hokr hnr⟩

theorem sigOK_polyOK {name : String} {ps : TyList} {ret : Ty}
    (h : sigOK (.fn name ps ret) = true) : PolyOK name ps ret :=
  fun _ hA => ⟨fun ctr => Or.inr (sigOK_inferFun h hA ctr), fun _ _ hi => instantiate_tyOK h hA hi⟩

theorem builtins_sigOK : builtins.all (fun b => sigOK b.ty) = true := by decide

def declOK (t : Ty) : Bool :=
  match t with
  | .fn _ _ ret => if slotFree t then TyOK ret else sigOK t
  | _ => false

theorem sigOK_declOK {t : Ty} (h : sigOK t = true) : declOK t = true := by
  cases t <;> simp [sigOK] at h
  rename_i name ps ret
  simp only [declOK]
  split
  · next hs =>
    simp only [slotFree, Bool.and_eq_true] at hs
    rw [TyOK_iff]; exact ⟨hs.2, h.1.1.1.1.1.1.2, h.1.1.2⟩
  · simp [sigOK, h]

theorem envOK_of_declOK {Γ : TEnv} (hv : ∀ x T, Γ.lookupVar x = some T → TyOK T = true)
    (hf : ∀ d ∈ Γ.funs, declOK d.ty = true) : EnvOK Γ where
  vars := hv
  funs := by
    intro d hd
    have h := hf d hd
    cases hty : d.ty <;> rw [hty] at h <;> simp [declOK] at h
    rename_i name ps ret
    refine ⟨name, ps, ret, rfl, fun hs => ?_, fun hs => ?_⟩
    · rw [hs] at h; simpa using h
    · rw [hs] at h; exact sigOK_polyOK (by simpa using h)

def CandsSig (cands : List FunDecl) : Prop :=
  ∀ d ∈ cands, ∀ name ps ret, d.ty = .fn name ps ret → sigOK d.ty = true

/-- for `sigOK` candidates `inferFun` is `specInfer`, which has no fuel to run out of -/
theorem Tried.ne_fuel {As : TyList} (hAs : TyOKList As = true) {cands : List FunDecl} {i : Nat}
    {t : Except CheckErr (Option (Nat × TyList × Ty × String))} (h : Tried As cands i t) :
    CandsSig cands → t ≠ .error .fuel := by
  induction h with
  | nil | notFn | here => exact fun _ => nofun
  | err hd he =>
    intro hc ht
    cases ht
    rw [sigOK_inferFun (hd ▸ hc _ (List.mem_cons_self ..) _ _ _ hd) hAs] at he
    unfold specInfer at he
    split at he <;> cases he
  | later _ _ _ ih => exact fun hc => ih fun d' hd' => hc d' (List.mem_cons_of_mem _ hd')

structure SigEnv (Γ : TEnv) : Prop where
  vars : ∀ x T, Γ.lookupVar x = some T → TyOK T = true
  funs : ∀ d ∈ Γ.funs, declOK d.ty = true

theorem SigEnv.envOK {Γ : TEnv} (h : SigEnv Γ) : EnvOK Γ := envOK_of_declOK h.vars h.funs

theorem candsSig_of_env {Γ : TEnv} (hΓ : SigEnv Γ) (k : String) :
    CandsSig (lookupPoly Γ.funs k) := by
  intro d hd name ps ret hty
  obtain ⟨hm, hk⟩ := lookupPoly_mem hd
  have h := hΓ.funs d hm
  have hs := key_slotFree hty hk
  rw [hty] at h hs ⊢
  simpa [declOK, hs] using h

theorem resolve_ne_fuel {Γ : TEnv} (hΓ : SigEnv Γ) (f : String) (As : TyList)
    (hAs : TyOKList As = true) : ¬ Resolves Γ f As (.error .fuel)
  | .err _ ht => Tried.ne_fuel hAs ht (candsSig_of_env hΓ _) rfl

/-- under `SigEnv` the two calls of the unifier have fuel enough: overload resolution by `resolve_ne_fuel`, and
no expression has a function type to instantiate -/
theorem SigEnv.noFuel {Γ : TEnv} (hΓ : SigEnv Γ) : NoFuel Γ :=
  { resolve := fun ha f => resolve_ne_fuel hΓ f _ (typedArgs_tyOK hΓ.envOK _ _ (elab_sound hΓ.envOK ha))
    callee := fun hc => typed_not_fn hΓ.envOK (elab_sound hΓ.envOK hc) }

theorem check_ne_fuel {Γ : TEnv} (hΓ : SigEnv Γ) : ∀ (e : Expr) (c : Nat),
    check Γ c e ≠ .error .fuel :=
  fun e c => (check_post (.inl hΓ.noFuel) e c).ne_fuel id
theorem checkElems_ne_fuel {Γ : TEnv} (hΓ : SigEnv Γ) : ∀ (es : ExprList) (c : Nat) (T : Ty),
    checkElems Γ c T es ≠ .error .fuel :=
  fun es c T => (checkElems_post (.inl hΓ.noFuel) es c T).ne_fuel id
theorem checkPairs_ne_fuel {Γ : TEnv} (hΓ : SigEnv Γ) : ∀ (ps : PairList) (c : Nat) (K V : Ty),
    checkPairs Γ c K V ps ≠ .error .fuel :=
  fun ps c K V => (checkPairs_post (.inl hΓ.noFuel) ps c K V).ne_fuel id
theorem checkFields_ne_fuel {Γ : TEnv} (hΓ : SigEnv Γ) : ∀ (fs : FieldEList) (c : Nat),
    checkFields Γ c fs ≠ .error .fuel :=
  fun fs c => (checkFields_post (.inl hΓ.noFuel) fs c).ne_fuel id
theorem checkArgs_ne_fuel {Γ : TEnv} (hΓ : SigEnv Γ) : ∀ (es : ExprList) (c : Nat),
    checkArgs Γ c es ≠ .error .fuel :=
  fun es c => (checkArgs_post (.inl hΓ.noFuel) es c).ne_fuel id

theorem builtinFunsFrom_ty : ∀ i bs, (builtinFunsFrom i bs).map (·.ty) = bs.map (·.ty)
  | _, [] => rfl
  | i, _ :: bs => congrArg _ (builtinFunsFrom_ty (i+1) bs)

theorem builtinFuns_sigOK : builtinFuns.all (fun d => sigOK d.ty) = true := by
  have h : (builtins.map (·.ty)).all sigOK = true := by rw [List.all_map]; exact builtins_sigOK
  rw [← builtinFunsFrom_ty 0, List.all_map] at h
  exact h

end Yae.PolyOK
