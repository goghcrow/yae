/-
  The composed pipeline (`Yae/Model/Facade.lean`: lex, parse, desugar, type check, environment check, evaluate)
  ends, stage by stage, in a result or in a failure of the input, never in an outcome that stands for a fault of the
  implementation.  Each stage contributes the theorem that excludes its own fault: the lexer and the parser do not
  run out of fuel, lexed operator tokens carry their kind as lexeme, so every `?` the parser read has its `:` and
  the desugarer does not reach `Unreachable()`, the unifier does not run out of fuel; and for a run, what the
  environment check accepts is an environment type soundness starts from.
-/
import Yae.Proofs.LexOpLexemes
import Yae.Proofs.ParseTernaries
import Yae.Proofs.ParseFuel
import Yae.Proofs.TypingPolyOK
import Yae.Proofs.EngineCheck
import Yae.Proofs.SoundnessMain
namespace Yae.C12
open Yae Yae.Facade Yae.PolyOK

/-- what the three front-end theorems ask of an operator table: no kind is empty (`lex_no_fuel`), none is the
end-of-file kind (`parse_no_fuel`, `parse_ternariesOk`), none is a literal kind (`lexed_opLexemes`) -/
def OpsOK (ops : List Operator) : Prop :=
  ∀ o ∈ ops, o.kind ≠ "" ∧ o.kind ≠ "<END-OF-FILE>" ∧ o.kind ∉ literalKinds

instance (ops : List Operator) : Decidable (OpsOK ops) := by unfold OpsOK; infer_instance

/-- the outcomes of compilation that report a failure of the INPUT (as opposed to a fault of the
implementation) -/
def reported : CompileErr → Prop
  | .lex e => e = .syntax
  | .parse e => e = .syntax ∨ e = .externMiss
  | .desugar => False
  | .check e => e ≠ .fuel

end Yae.C12

namespace Yae.Facade
open Yae Yae.PolyOK Yae.C12

theorem compileSrc_total {ops : List Operator} (hops : OpsOK ops) {Γ : TEnv} (hΓ : SigEnv Γ)
    (times : List (String × Int)) (src : String) :
    (∃ T e', compileSrc ops times Γ src = .ok (T, e')) ∨
    (∃ err, compileSrc ops times Γ src = .error err ∧ reported err) := by
  unfold compileSrc
  cases hl : lex ops src.toList with
  | error e =>
    right; refine ⟨.lex e, rfl, ?_⟩
    cases e
    · rfl
    · exact absurd hl (lex_no_fuel (fun o ho => (hops o ho).1) _)
  | ok toks =>
    simp only
    have hL : OpLexemes ops toks := lexed_opLexemes (fun o ho => (hops o ho).2.2) hl
    cases hp : parse ops times toks with
    | error e =>
      right; refine ⟨.parse e, rfl, ?_⟩
      cases e
      · exact .inl rfl
      · exact .inr rfl
      · exact absurd hp (parse_no_fuel (fun o ho => (hops o ho).2.1) times toks)
    | ok parsed =>
      simp only
      have ht := parse_ternariesOk (fun o ho => (hops o ho).2.1) hL hp
      have hd : desugarGo parsed = some (desugar parsed) := by simp [desugarGo, ht]
      rw [hd]
      simp only
      cases hc : check Γ 0 (desugar parsed) with
      | error e =>
        right; refine ⟨.check e, rfl, ?_⟩
        intro he
        exact check_ne_fuel hΓ _ _ (he ▸ hc)
      | ok r =>
        obtain ⟨T, e', c'⟩ := r
        exact .inl ⟨T, e', rfl⟩

theorem evalSrc_total {ops : List Operator} {Γ : TEnv} {ρ : REnv} (hf : Sound.FunsOK Γ.funs)
    (hfun : ρ.funs = Γ.funs)
    (htys : ∀ p ∈ Γ.vars, p.2.wf = true ∧ slotFree p.2 = true)
    (hwf : ∀ p ∈ ρ.vars, Sound.WF p.2 = true)
    (times : List (String × Int)) (src : String) {T : Ty} {e' : Expr}
    (hc : compileSrc ops times Γ src = .ok (T, e')) :
    (∃ err, envCheck Γ.vars ρ.vars = .error err ∧ evalSrc ops times Γ ρ src = (.error (.env err), [])) ∨
    (∃ v evs, evalSrc ops times Γ ρ src = (.ok v, evs) ∧ Sound.HasTy v T) ∨
    (∃ f evs, evalSrc ops times Γ ρ src = (.error (.fail f), evs) ∧ Sound.Allowed f) := by
  unfold evalSrc
  rw [hc]
  simp only
  cases henv : envCheck Γ.vars ρ.vars with
  | error err => exact .inl ⟨err, rfl, rfl⟩
  | ok u =>
    right
    obtain ⟨d, c', hchk⟩ := EngineHistory.compileSrc_check hc
    have hE := EngineCheck.envOK_of_accept hfun henv hwf htys
    have hA := Sound.check_ann hf hE.tys _ _ _ _ _ hchk
    rcases Sound.progress_run hf hE hA false with ⟨v, evs, hr, hv⟩ | ⟨f, evs, hr, ha⟩
    · left; exact ⟨v, evs, by simp [hr], hv⟩
    · right; exact ⟨f, evs, by simp [hr], ha⟩

end Yae.Facade
