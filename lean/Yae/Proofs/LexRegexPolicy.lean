/-
  "When no loop body can match the empty word, nothing has to be agreed on" as a theorem.

  `Re.mP first later` is the reference matcher with the two decisions about iterations that
  consume nothing left open: if the FIRST iteration of `x+` / `x*` consumes nothing, either
  leave the loop (`first = true`, what `Re.m` does) or discard that path; the same choice
  (`later`) for an iteration entered from the loop (`Re.m` discards).  `(false, false)` is
  "every iteration must consume a rune", `(true, true)` is Perl's rule.

  `Yae.Re.mP_eq_m`: on an expression with `Re.starsProper` all four agree with `Re.m`, for every
  input and continuation (nine of the ten lexer patterns: `Yae.Pat.run_eq_policy`).  The
  string pattern has a loop whose body is nullable; for it `Yae.Re.str_uniquePrefix` says that
  every SOUND and COMPLETE matcher agrees (`mP` is not proved to be sound and complete).

  The idea: `r.m s k` calls `k` only on the rests of `s` after a word of `r` (`m_eq_rests`, `mem_rests`), which
  are shorter than `s` when `r` is not nullable (`m_consuming`); so with a body that is not nullable the tests
  that distinguish the policies never take their second branch.

  Go's engines are not of this form (they prune by visited (instruction, position) pairs); the
  argument that they too agree when no loop body is nullable is the usual one (a path can
  only re-enter a pair it is still exploring by going round a loop without consuming) and is
  not formalised.
-/
import Yae.Proofs.LexRegexBase
namespace Yae
namespace Re

variable {β : Type}

def loopP (later : Bool) (f : List Char → (List Char → Option β) → Option β)
    (k : List Char → Option β) : Nat → List Char → Option β
  | 0, _ => none
  | fuel + 1, s =>
    orElse (f s (fun s' => if s'.length < s.length then loopP later f k fuel s'
                           else if later then k s' else none))
      (fun _ => k s)

def plusMP (first later : Bool) (f : List Char → (List Char → Option β) → Option β)
    (s : List Char) (k : List Char → Option β) : Option β :=
  f s (fun s' => if s'.length < s.length then loopP later f k (s'.length + 1) s'
                 else if first then k s' else none)

def mP (first later : Bool) : Re → List Char → (List Char → Option β) → Option β
  | .eps, s, k => k s
  | .chr c, s, k =>
    match s with
    | x :: xs => if x = c then k xs else none
    | [] => none
  | .esc c, s, k =>
    match s with
    | x :: xs => if x = c then k xs else none
    | [] => none
  | .cls neg items, s, k =>
    match s with
    | x :: xs => if clsTest neg items x then k xs else none
    | [] => none
  | .cat a b, s, k => (mP first later a) s (fun s' => (mP first later b) s' k)
  | .alt a b, s, k => orElse ((mP first later a) s k) (fun _ => (mP first later b) s k)
  | .grp a, s, k => (mP first later a) s k
  | .star a, s, k => orElse (plusMP first later (mP first later a) s k) (fun _ => k s)
  | .plus a, s, k => plusMP first later (mP first later a) s k
  | .opt a, s, k => orElse ((mP first later a) s k) (fun _ => k s)
  | .rep n a, s, k => repM (mP first later a) k n s

def Consuming (f : List Char → (List Char → Option β) → Option β) : Prop :=
  ∀ s k k', (∀ t : List Char, t.length < s.length → k t = k' t) → f s k = f s k'

theorem m_consuming {r : Re} (hn : r.nullable = false) : Consuming (β := β) r.m := fun s k k' hk => by
  rw [m_eq_rests, m_eq_rests]
  refine findSome?_congr fun t ht => hk t ?_
  obtain ⟨u, rfl, hu⟩ := (mem_rests r s t).1 ht
  cases u with
  | nil => exact absurd hu (not_matches_nil hn)
  | cons c u => simp only [List.cons_append, List.length_cons, List.length_append]; omega

theorem loopP_eq_loop {later : Bool} {f : List Char → (List Char → Option β) → Option β}
    (hf : later = false ∨ Consuming f) (k : List Char → Option β) :
    ∀ n s, loopP later f k n s = loop f k n s := by
  intro n
  induction n with
  | zero => intro s; rfl
  | succ n ih =>
    intro s
    simp only [loopP, loop]
    congr 1
    rcases hf with rfl | hf
    · congr 1
      funext s'
      split
      · exact ih s'
      · rfl
    · apply hf
      intro t ht
      rw [if_pos ht, if_pos ht]
      exact ih t

theorem plusMP_eq_plusM {first later : Bool} {f : List Char → (List Char → Option β) → Option β}
    (hf : (first = true ∧ later = false) ∨ Consuming f) (s : List Char)
    (k : List Char → Option β) : plusMP first later f s k = plusM f s k := by
  simp only [plusMP, plusM]
  rcases hf with ⟨rfl, rfl⟩ | hf
  · congr 1; funext s'; split
    · exact loopP_eq_loop (.inl rfl) _ _ _
    · rfl
  · apply hf
    intro t ht
    rw [if_pos ht, if_pos ht]
    exact loopP_eq_loop (.inr hf) k _ t

theorem mP_eq_m_of (first later : Bool) (r : Re)
    (hr : (first = true ∧ later = false) ∨ r.starsProper = true) :
    mP (β := β) first later r = r.m := by
  induction r with
  | eps => funext s k; simp [mP, Re.m]
  | chr c | esc c | cls neg items => funext s k; cases s <;> simp [mP, Re.m]
  | cat a b iha ihb | alt a b iha ihb =>
    simp only [starsProper, Bool.and_eq_true] at hr
    funext s k; simp only [mP, Re.m, iha (hr.imp_right And.left), ihb (hr.imp_right And.right)]
  | grp a iha | opt a iha | rep n a iha =>
    simp only [starsProper] at hr
    funext s k; simp only [mP, Re.m, iha hr]
  | star a iha | plus a iha =>
    simp only [starsProper, Bool.and_eq_true, Bool.not_eq_true'] at hr
    funext s k
    simp only [mP, Re.m, iha (hr.imp_right And.right)]
    rw [plusMP_eq_plusM (hr.imp_right fun h => m_consuming h.1)]

theorem mP_true_false (r : Re) : mP (β := β) true false r = r.m :=
  mP_eq_m_of true false r (.inl ⟨rfl, rfl⟩)

theorem mP_eq_m (first later : Bool) (r : Re) (hr : r.starsProper = true) :
    mP (β := β) first later r = r.m :=
  mP_eq_m_of first later r (.inr hr)

/-- The policies do differ on loops with a nullable body: `(?:|a)*` on `aa` (the value is the
length of the REST: the match is `""` resp. `aa`). -/
example :
    mP true false (.star (.grp (.alt .eps (.chr 'a')))) "aa".toList (fun r => some r.length) = some 2 ∧
    mP false false (.star (.grp (.alt .eps (.chr 'a')))) "aa".toList (fun r => some r.length) = some 0 := by
  decide

end Re
end Yae

#print axioms Yae.Re.mP_eq_m
#print axioms Yae.Re.mP_true_false
