/- C15, "contents equal the original" (`Yae/Spec/ConvContent.lean`), by induction on `Conv`.
   `Content.norm` inserts the entries of every map one by one, as `valOfEntries` does with `EntryList.insert`:
   `EntryList.content_insert` is the step where the two meet. -/
import Yae.Spec.ConvContent
import Yae.Proofs.ConvVal
namespace Yae.ConvVal
open Yae

theorem key?_content (v : Val) : v.key? = v.content.key? := by
  cases v with
  | obj ty vs => cases ty <;> rfl
  | _ => rfl

theorem key?_norm (c : Content) : c.norm.key? = c.key? := by
  cases c <;> rfl

theorem EntryList.content_insert : ∀ (acc : EntryList) (t : Kind) (k : String) (v : Val),
    (acc.insert t k v).content = acc.content.insert t k v.content
  | .nil, _, _, _ => rfl
  | .cons t k v es, t', k', v' => by
    simp only [EntryList.insert, EntryList.content, ContentEntries.insert]
    split
    · rfl
    · simp only [EntryList.content, EntryList.content_insert es t' k' v']

def ConvJudgement.ContentOut : ConvJudgement → Prop
  | .val g _ _ v => ∃ c, g.content = some c ∧ v.content = c.norm
  | .rest _ vs _ _ xs => ∃ cs, GoValList.content vs = some cs ∧ xs.content = cs.norm
  | .entries _ _ es _ _ acc out =>
    ∃ ces, GoEntryList.content es = some ces ∧ out.content = ces.normInto acc.content
  | .fields fs vs _ _ ftys vals =>
    ∃ cf, GoFieldList.content fs vs = some cf ∧ ValList.fieldContent ftys vals = cf.norm

theorem key_content {v : Val} {c : Content} {tag : Kind} {txt : String} (hkq : v.key? = some (tag, txt))
    (e : v.content = c.norm) : c.key? = some (tag, txt) := by
  rw [← key?_norm, ← e, ← key?_content, hkq]

theorem Conv.content {J : ConvJudgement} (h : Conv J) : J.ContentOut := by
  induction h <;> simp only [ConvJudgement.ContentOut] at *
  case time | bool | int | uint | float | string => exact ⟨_, rfl, rfl⟩
  case ptr ih | iface ih => exact ih
  case emptySeq g _ _ _ _ hg _ | emptyMap g _ _ _ _ _ hg _ => cases g <;> cases hg <;> exact ⟨_, rfl, rfl⟩
  case seq g _ _ _ _ _ _ _ hg _ _ _ ih0 ihr =>
    obtain ⟨c0, hc0, e0⟩ := ih0
    obtain ⟨cs, hcs, er⟩ := ihr
    refine ⟨.seq (.cons c0 cs), ?_,
      by simp only [Val.content, ValList.content, Content.norm, ContentList.norm, e0, er]⟩
    cases g <;> cases hg <;> simp only [GoVal.content, GoValList.content, hc0, hcs, Option.map]
  case map tag txt _ _ _ _ _ _ _ hkq _ ihk ihe ihr =>
    obtain ⟨kc, hkc, ek⟩ := ihk
    obtain ⟨ec, hec, ee⟩ := ihe
    obtain ⟨cr, hcr, er⟩ := ihr
    refine ⟨.entries (.cons tag txt ec cr), ?_, ?_⟩
    · simp only [GoVal.content, GoEntryList.content, hkc, hec, hcr, Option.bind, key_content hkq ek,
        Option.map]
    · simp only [Val.content, Content.norm, ContentEntries.normInto, ContentEntries.insert, er,
        EntryList.content, ee]
  case struct ih =>
    obtain ⟨cf, hcf, ef⟩ := ih
    exact ⟨.fields cf, by simp only [GoVal.content, hcf, Option.map],
      by simp only [Val.content, Content.norm, ef]⟩
  case rnil | enil => exact ⟨.nil, rfl, rfl⟩
  case rcons ihx ihr =>
    obtain ⟨c, hc, ec⟩ := ihx
    obtain ⟨cs, hcs, er⟩ := ihr
    exact ⟨.cons c cs, by simp only [GoValList.content, hc, hcs],
      by simp only [ValList.content, ContentList.norm, ec, er]⟩
  case econs tag txt _ _ _ _ _ _ _ hkq _ ihk ihe ihr =>
    obtain ⟨kc, hkc, ek⟩ := ihk
    obtain ⟨ec, hec, ee⟩ := ihe
    obtain ⟨cr, hcr, er⟩ := ihr
    refine ⟨.cons tag txt ec cr, ?_, ?_⟩
    · simp only [GoEntryList.content, hkc, hec, hcr, Option.bind, key_content hkq ek]
    · rw [er, EntryList.content_insert, ee]; rfl
  case fnil hn => rcases hn with rfl | rfl <;> exact ⟨.nil, by simp only [GoFieldList.content], rfl⟩
  case absent hnil _ _ ih =>
    obtain ⟨cf, hcf, ef⟩ := ih
    exact ⟨.cons _ .absent cf, by simp only [GoFieldList.content, hnil, if_true, hcf]; rfl,
      by simp only [ValList.fieldContent, ContentFields.norm, ef]; rfl⟩
  case present hnil _ _ hvl _ ihw ih =>
    obtain ⟨c, hc, ec⟩ := ihw
    obtain ⟨cf, hcf, ef⟩ := ih
    subst hvl
    refine ⟨.cons _ (if _ then .present c else c) cf,
      by simp only [GoFieldList.content, hnil, Bool.false_eq_true, if_false, hc, Option.map, hcf]; rfl, ?_⟩
    simp only [ValList.fieldContent, ContentFields.norm, ef]
    split <;> simp only [Val.content, Content.norm, ec]

theorem valOfU_content : ∀ (g : GoVal) (lv : Nat) (ro : Bool) (v : Val),
    valOfU g lv ro = .ok v → ∃ c, g.content = some c ∧ v.content = c.norm :=
  fun _ _ _ _ h => (conv_val _ _ _ _ h).content
theorem valOfRest_content : ∀ (t0 : Ty) (vs : GoValList) (lv : Nat) (ro : Bool) (xs : ValList),
    valOfRest t0 vs lv ro = .ok xs →
    ∃ cs, GoValList.content vs = some cs ∧ xs.content = cs.norm :=
  fun _ _ _ _ _ h => (conv_rest _ _ _ _ _ h).content
theorem valOfEntries_content : ∀ (kt et : Ty) (es : GoEntryList) (lv : Nat) (ro : Bool)
    (acc out : EntryList), valOfEntries kt et es lv ro acc = .ok out →
    ∃ ces, GoEntryList.content es = some ces ∧ out.content = ces.normInto acc.content :=
  fun _ _ _ _ _ _ _ h => (conv_entries _ _ _ _ _ _ _ h).content
theorem valOfFields_content : ∀ (fs : GoFieldList) (vs : GoValList) (lv : Nat) (ro : Bool)
    (ftys : FieldList) (vals : ValList), valOfFields fs vs lv ro = .ok (ftys, vals) →
    ∃ cf, GoFieldList.content fs vs = some cf ∧ ValList.fieldContent ftys vals = cf.norm :=
  fun _ _ _ _ _ _ h => (conv_fields _ _ _ _ _ _ h).content

theorem valOf_content {g : GoVal} {lv : Nat} {ro : Bool} {v : Val} (h : valOf g lv ro = .ok v) :
    ∃ c, g.content = some c ∧ v.content = c.norm :=
  valOfU_content g lv ro v (valOf_ok h)

end Yae.ConvVal
