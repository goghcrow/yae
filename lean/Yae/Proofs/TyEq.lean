/-
  For C17: `tyEq` (the model of `types.Equals`) decides `StructEq` when its left argument is well formed
  (`tyEq_sound`, `tyEq_complete`), and `StructEq` is an equivalence relation, so `tyEq` is one on well-formed
  types (`tyEq_refl'`, `tyEq_symm'`, `tyEq_trans'`).  Objects are compared by field
  name, hence the facts about `FieldList.find?` first: with distinct names on the left and equal lengths,
  inclusion of the names is equality (`find?_isSome_eq_of_sub`).
-/
import Yae.Spec.TyRel
import Yae.Proofs.ListLemmas
namespace Yae

namespace FieldList

theorem length_names : ∀ fs : FieldList, fs.names.length = fs.length
  | .nil => rfl
  | .cons _ _ fs => by simp [names, length, length_names fs]

theorem find?_isSome_iff : ∀ (fs : FieldList) (n : String),
    (fs.find? n).isSome = true ↔ n ∈ fs.names
  | .nil, n => by simp [find?, names]
  | .cons m t fs, n => by
    simp only [find?, names, List.mem_cons]
    split
    · next h => simp [h]
    · next h =>
      rw [find?_isSome_iff fs n]
      exact (or_iff_right (Ne.symm h)).symm

theorem find?_isNone_iff {fs : FieldList} {n : String} :
    (fs.find? n).isNone = true ↔ n ∉ fs.names := by
  rw [← find?_isSome_iff, Option.not_isSome_iff_eq_none, Option.isNone_iff_eq_none]

theorem find?_cons_self (n : String) (t : Ty) (fs : FieldList) :
    (FieldList.cons n t fs).find? n = some t := by simp [find?]

theorem find?_cons_ne {m n : String} (t : Ty) (fs : FieldList) (h : m ≠ n) :
    (FieldList.cons m t fs).find? n = fs.find? n := by simp [find?, h]

theorem find?_cons_of_isNone {m n : String} {u : Ty} (t : Ty) {fs : FieldList}
    (hm : (fs.find? m).isNone = true) (h : fs.find? n = some u) :
    (FieldList.cons m t fs).find? n = some u := by
  rw [find?_cons_ne t fs (by rintro rfl; rw [h] at hm; cases hm)]; exact h

end FieldList

theorem wfFields_nodup : ∀ fs : FieldList, wfFields fs = true → fs.names.Nodup
  | .nil, _ => by simp [FieldList.names]
  | .cons n t fs, h => by
    simp only [wfFields, Bool.and_eq_true] at h
    simp only [FieldList.names, List.nodup_cons]
    exact ⟨FieldList.find?_isNone_iff.1 h.1.1, wfFields_nodup fs h.2⟩

theorem wfFields_find : ∀ (fs : FieldList) (n : String) (t : Ty),
    wfFields fs = true → fs.find? n = some t → t.wf = true
  | .nil, n, t, _, h => by simp [FieldList.find?] at h
  | .cons m t' fs, n, t, hw, h => by
    simp only [wfFields, Bool.and_eq_true] at hw
    simp only [FieldList.find?] at h
    split at h
    · cases h; exact hw.1.2
    · exact wfFields_find fs n t hw.2 h

theorem slotFreeFields_find : ∀ (fs : FieldList) (n : String) (t : Ty),
    slotFreeFields fs = true → fs.find? n = some t → slotFree t = true
  | .nil, n, t, _, h => by simp [FieldList.find?] at h
  | .cons m t' fs, n, t, hw, h => by
    simp only [slotFreeFields, Bool.and_eq_true] at hw
    simp only [FieldList.find?] at h
    split at h
    · cases h; exact hw.1
    · exact slotFreeFields_find fs n t hw.2 h

theorem find?_isSome_eq_of_sub {fs gs : FieldList} (hw : wfFields fs = true)
    (hl : fs.length = gs.length)
    (hsub : ∀ n, (fs.find? n).isSome = true → (gs.find? n).isSome = true) (n : String) :
    (fs.find? n).isSome = (gs.find? n).isSome := by
  rw [Bool.eq_iff_iff]
  refine ⟨hsub n, fun h => ?_⟩
  rw [FieldList.find?_isSome_iff] at h ⊢
  refine nodup_subset_of_length_le fs.names gs.names (wfFields_nodup fs hw) ?_ ?_ n h
  · intro a ha
    rw [← FieldList.find?_isSome_iff] at ha ⊢
    exact hsub a ha
  · rw [FieldList.length_names, FieldList.length_names, hl]; exact Nat.le_refl _

mutual
theorem StructEq.refl : ∀ a, StructEq a a
  | .top => .top | .bot => .bot | .var n => .var n | .num => .num | .str => .str
  | .bool => .bool | .time => .time
  | .tuple ts => .tuple (StructEqList.refl ts)
  | .list a => .list (StructEq.refl a)
  | .map k v => .map (StructEq.refl k) (StructEq.refl v)
  | .obj fs => .obj rfl (fun _ => rfl) (fun n t u h1 h2 => by
      cases h1.symm.trans h2
      exact StructEq.reflFields fs n t h1)
  | .fn _ ps r => .fn (StructEqList.refl ps) (StructEq.refl r)
  | .maybe a => .maybe (StructEq.refl a)
theorem StructEqList.refl : ∀ xs, StructEqList xs xs
  | .nil => .nil
  | .cons t ts => .cons (StructEq.refl t) (StructEqList.refl ts)
theorem StructEq.reflFields : ∀ (fs : FieldList) n t, fs.find? n = some t → StructEq t t
  | .nil, n, t, h => by simp [FieldList.find?] at h
  | .cons m t' fs, n, t, h => by
    simp only [FieldList.find?] at h
    split at h
    · cases h; exact StructEq.refl t'
    · exact StructEq.reflFields fs n t h
end

theorem StructEq.symm : ∀ a b, StructEq a b → StructEq b a := by
  intro a b h
  induction h using StructEq.rec (motive_2 := fun xs ys _ => StructEqList ys xs) with
  | top => exact .top | bot => exact .bot | var n => exact .var n | num => exact .num
  | str => exact .str | bool => exact .bool | time => exact .time
  | tuple _ ih => exact .tuple ih
  | list _ ih => exact .list ih
  | map _ _ ih1 ih2 => exact .map ih1 ih2
  | obj hl hs _ ih => exact .obj hl.symm (fun n => (hs n).symm) fun n u t hu ht => ih n t u ht hu
  | fn _ _ ih1 ih2 => exact .fn ih1 ih2
  | maybe _ ih => exact .maybe ih
  | nil => exact .nil
  | cons _ _ ih1 ih2 => exact .cons ih1 ih2

theorem StructEqList.symm : ∀ xs ys, StructEqList xs ys → StructEqList ys xs
  | _, _, .nil => .nil
  | _, _, .cons h1 h2 => .cons (StructEq.symm _ _ h1) (StructEqList.symm _ _ h2)

theorem StructEq.symmFields : ∀ (fs : FieldList) n t, fs.find? n = some t →
    ∀ u, StructEq t u → StructEq u t :=
  fun _ _ _ _ _ => StructEq.symm _ _

theorem find?_of_isSome_eq {fs gs : FieldList} {n : String} {t : Ty}
    (hs : (fs.find? n).isSome = (gs.find? n).isSome) (ht : fs.find? n = some t) :
    ∃ u, gs.find? n = some u :=
  Option.isSome_iff_exists.1 (by rw [← hs, ht]; rfl)

theorem StructEq.trans : ∀ a b c, StructEq a b → StructEq b c → StructEq a c := by
  intro a b c h
  revert c
  induction h using StructEq.rec
    (motive_2 := fun xs ys _ => ∀ zs, StructEqList ys zs → StructEqList xs zs) with
  | top | bot | var | num | str | bool | time => exact fun _ h' => h'
  | tuple _ ih => intro _ h'; cases h' with | tuple h' => exact .tuple (ih _ h')
  | list _ ih => intro _ h'; cases h' with | list h' => exact .list (ih _ h')
  | map _ _ ih1 ih2 =>
    intro _ h'; cases h' with | map h1' h2' => exact .map (ih1 _ h1') (ih2 _ h2')
  | obj hl hs hr ih =>
    intro _ h'
    cases h' with
    | obj hl' hs' hr' =>
      exact .obj (hl.trans hl') (fun n => (hs n).trans (hs' n)) fun n t v ht hv =>
        have ⟨u, hu⟩ := find?_of_isSome_eq (hs n) ht
        ih n t u ht hu _ (hr' n u v hu hv)
  | fn _ _ ih1 ih2 =>
    intro _ h'; cases h' with | fn h1' h2' => exact .fn (ih1 _ h1') (ih2 _ h2')
  | maybe _ ih => intro _ h'; cases h' with | maybe h' => exact .maybe (ih _ h')
  | nil => assumption
  | cons _ _ ih1 ih2 =>
    rename_i h'; cases h' with | cons h1' h2' => exact .cons (ih1 _ h1') (ih2 _ h2')

theorem StructEqList.trans : ∀ xs ys zs, StructEqList xs ys → StructEqList ys zs →
    StructEqList xs zs
  | _, _, _, .nil, h' => h'
  | _, _, _, .cons h1 h2, .cons h1' h2' =>
    .cons (StructEq.trans _ _ _ h1 h1') (StructEqList.trans _ _ _ h2 h2')

theorem StructEq.transFields : ∀ (fs : FieldList) n t, fs.find? n = some t →
    ∀ u v, StructEq t u → StructEq u v → StructEq t v :=
  fun _ _ _ _ _ _ => StructEq.trans _ _ _

mutual
theorem tyEq_sound : ∀ a b, a.wf = true → tyEq a b = true → StructEq a b
  | .top, b, _, h => by cases b <;> first | contradiction | exact .top
  | .bot, b, _, h => by cases b <;> first | contradiction | exact .bot
  | .var n, b, _, h => by
    cases b <;> first | contradiction | skip
    cases of_decide_eq_true h; exact .var _
  | .num, b, _, h => by cases b <;> first | contradiction | exact .num
  | .str, b, _, h => by cases b <;> first | contradiction | exact .str
  | .bool, b, _, h => by cases b <;> first | contradiction | exact .bool
  | .time, b, _, h => by cases b <;> first | contradiction | exact .time
  | .tuple xs, b, hw, h => by
    cases b with
    | tuple ys => exact .tuple (tyEqList_sound xs ys hw h)
    | _ => contradiction
  | .list a, b, hw, h => by
    cases b with
    | list b => exact .list (tyEq_sound a b hw h)
    | _ => contradiction
  | .map k v, b, hw, h => by
    cases b with
    | map k' v' =>
      simp only [Ty.wf, tyEq, Bool.and_eq_true] at hw h
      exact .map (tyEq_sound k k' hw.1.2 h.1) (tyEq_sound v v' hw.2 h.2)
    | _ => contradiction
  | .obj fs, b, hw, h => by
    cases b with
    | obj gs =>
      simp only [tyEq, Bool.and_eq_true, beq_iff_eq] at h
      have key := tyEqFields_sound fs gs hw h.2
      refine .obj h.1 (find?_isSome_eq_of_sub hw h.1 fun n hn => ?_) fun n t u ht hu => ?_
      · obtain ⟨t, ht⟩ := Option.isSome_iff_exists.1 hn
        obtain ⟨u, hu, _⟩ := key n t ht
        rw [hu]; rfl
      · obtain ⟨u', hu', hr⟩ := key n t ht
        cases hu.symm.trans hu'
        exact hr
    | _ => contradiction
  | .fn _ ps r, b, hw, h => by
    cases b with
    | fn _ qs s =>
      simp only [Ty.wf, tyEq, Bool.and_eq_true] at hw h
      exact .fn (tyEqList_sound ps qs hw.1 h.1) (tyEq_sound r s hw.2 h.2)
    | _ => contradiction
  | .maybe a, b, hw, h => by
    cases b with
    | maybe b => exact .maybe (tyEq_sound a b hw h)
    | _ => contradiction
termination_by structural a => a
theorem tyEqList_sound : ∀ xs ys, wfList xs = true → tyEqList xs ys = true → StructEqList xs ys
  | .nil, ys, _, h => by cases ys <;> simp [tyEqList] at h; exact .nil
  | .cons x xs, ys, hw, h => by
    cases ys with
    | nil => simp [tyEqList] at h
    | cons y ys =>
      simp only [wfList, Bool.and_eq_true] at hw
      simp only [tyEqList, Bool.and_eq_true] at h
      exact .cons (tyEq_sound x y hw.1 h.1) (tyEqList_sound xs ys hw.2 h.2)
termination_by structural xs => xs
theorem tyEqFields_sound : ∀ (fs gs : FieldList), wfFields fs = true → tyEqFields fs gs = true →
    ∀ n t, fs.find? n = some t → ∃ u, gs.find? n = some u ∧ StructEq t u
  | .nil, _, _, _, n, t, hf => by simp [FieldList.find?] at hf
  | .cons m t' fs, gs, hw, h, n, t, hf => by
    simp only [tyEqFields, Bool.and_eq_true] at h
    simp only [wfFields, Bool.and_eq_true] at hw
    simp only [FieldList.find?] at hf
    split at hf
    · next hmn =>
      cases hf; subst hmn
      obtain ⟨h1, _⟩ := h
      split at h1
      · next u hu => exact ⟨u, hu, tyEq_sound t' u hw.1.2 h1⟩
      · cases h1
    · exact tyEqFields_sound fs gs hw.2 h.2 n t hf
termination_by structural fs => fs
end

mutual
theorem tyEq_complete : ∀ a b, a.wf = true → StructEq a b → tyEq a b = true
  | .top, _, _, h | .bot, _, _, h | .num, _, _, h | .str, _, _, h | .bool, _, _, h
  | .time, _, _, h => by cases h; rfl
  | .var _, _, _, h => by cases h; simp [tyEq]
  | .tuple xs, _, hw, h => by
    cases h with | tuple h =>
      simpa [tyEq] using tyEqList_complete xs _ hw h
  | .list a, _, hw, h => by
    cases h with | list h =>
      simpa [tyEq] using tyEq_complete a _ hw h
  | .map k v, _, hw, h => by
    cases h with | map h1 h2 =>
      simp only [Ty.wf, Bool.and_eq_true] at hw
      simp only [tyEq, Bool.and_eq_true]
      exact ⟨tyEq_complete k _ hw.1.2 h1, tyEq_complete v _ hw.2 h2⟩
  | .obj fs, _, hw, h => by
    cases h with | obj hl hs hr =>
      rename_i gs
      simp only [Ty.wf] at hw
      simp only [tyEq, Bool.and_eq_true, beq_iff_eq]
      refine ⟨hl, tyEqFields_complete fs gs hw ?_⟩
      intro n t ht
      obtain ⟨u, hu⟩ := find?_of_isSome_eq (hs n) ht
      exact ⟨u, hu, hr n t u ht hu⟩
  | .fn _ ps r, _, hw, h => by
    cases h with | fn h1 h2 =>
      simp only [Ty.wf, Bool.and_eq_true] at hw
      simp only [tyEq, Bool.and_eq_true]
      exact ⟨tyEqList_complete ps _ hw.1 h1, tyEq_complete r _ hw.2 h2⟩
  | .maybe a, _, hw, h => by
    cases h with | maybe h =>
      simpa [tyEq] using tyEq_complete a _ hw h
theorem tyEqList_complete : ∀ xs ys, wfList xs = true → StructEqList xs ys →
    tyEqList xs ys = true
  | .nil, _, _, h => by cases h; rfl
  | .cons x xs, _, hw, h => by
    cases h with | cons h1 h2 =>
      simp only [wfList, Bool.and_eq_true] at hw
      simp only [tyEqList, Bool.and_eq_true]
      exact ⟨tyEq_complete x _ hw.1 h1, tyEqList_complete xs _ hw.2 h2⟩
theorem tyEqFields_complete : ∀ (fs gs : FieldList), wfFields fs = true →
    (∀ n t, fs.find? n = some t → ∃ u, gs.find? n = some u ∧ StructEq t u) →
    tyEqFields fs gs = true
  | .nil, _, _, _ => rfl
  | .cons m t fs, gs, hw, h => by
    simp only [wfFields, Bool.and_eq_true] at hw
    simp only [tyEqFields, Bool.and_eq_true]
    constructor
    · obtain ⟨u, hu, hr⟩ := h m t (FieldList.find?_cons_self m t fs)
      simp only [hu]
      exact tyEq_complete t u hw.1.2 hr
    · exact tyEqFields_complete fs gs hw.2 fun n t' ht' =>
        h n t' (FieldList.find?_cons_of_isNone t hw.1.1 ht')
end

theorem tyEq_iff_structEq' {a b : Ty} (ha : a.wf = true) : tyEq a b = true ↔ StructEq a b :=
  ⟨tyEq_sound a b ha, tyEq_complete a b ha⟩

theorem tyEq_refl' {t : Ty} (h : t.wf = true) : tyEq t t = true :=
  tyEq_complete t t h (StructEq.refl t)

theorem tyEq_symm' {a b : Ty} (ha : a.wf = true) (hb : b.wf = true) : tyEq a b = tyEq b a := by
  rw [Bool.eq_iff_iff, tyEq_iff_structEq' ha, tyEq_iff_structEq' hb]
  exact ⟨StructEq.symm a b, StructEq.symm b a⟩

theorem StructEq.kind_eq {a b : Ty} (h : StructEq a b) : a.kind = b.kind := by
  cases h <;> rfl

theorem tyEq_kind {a b : Ty} (h : tyEq a b = true) : a.kind = b.kind := by
  rw [tyEq.eq_def] at h
  split at h <;> first | rfl | cases h

theorem tyEqFields_find : ∀ (fs gs : FieldList) (n : String) (t : Ty),
    tyEqFields fs gs = true → fs.find? n = some t → ∃ u, gs.find? n = some u ∧ tyEq t u = true
  | .nil, _, n, t, _, h => by simp [FieldList.find?] at h
  | .cons m t0 fs, gs, n, t, he, h => by
    simp only [tyEqFields, Bool.and_eq_true] at he
    simp only [FieldList.find?] at h
    split at h
    · next hmn =>
      cases h; subst hmn
      cases hq : gs.find? m with
      | none => simp [hq] at he
      | some u => exact ⟨u, rfl, by simpa [hq] using he.1⟩
    · exact tyEqFields_find fs gs n t he.2 h

theorem keyable_of_kind_eq {a b : Ty} (h : a.kind = b.kind) : a.keyable = b.keyable := by
  simp [Ty.keyable, Ty.isPrimitive, h]

theorem wfFields_of_find : ∀ fs : FieldList, fs.names.Nodup →
    (∀ n t, fs.find? n = some t → t.wf = true) → wfFields fs = true
  | .nil, _, _ => rfl
  | .cons n t fs, hn, h => by
    simp only [FieldList.names, List.nodup_cons] at hn
    have hnone : ∀ u, fs.find? n ≠ some u := fun u hu =>
      hn.1 ((FieldList.find?_isSome_iff fs n).1 (by rw [hu]; rfl))
    simp only [wfFields, Bool.and_eq_true]
    refine ⟨⟨?_, h n t (FieldList.find?_cons_self n t fs)⟩,
      wfFields_of_find fs hn.2 fun m u hm => h m u ?_⟩
    · cases hq : fs.find? n with
      | none => rfl
      | some u => exact absurd hq (hnone u)
    · rw [FieldList.find?_cons_ne t fs (by rintro rfl; exact hnone u hm)]; exact hm

/-- Well-formedness is a property of the `StructEq` class: keyability depends on the kind only, and equally many
fields under the same names are duplicate free together. -/
theorem StructEq.wf_of {a b : Ty} (h : StructEq a b) : b.wf = true → a.wf = true := by
  induction h using StructEq.rec
    (motive_2 := fun xs ys _ => wfList ys = true → wfList xs = true) with
  | top | bot | var | num | str | bool | time => exact id
  | tuple _ ih => exact ih
  | list _ ih => exact ih
  | map h1 _ ih1 ih2 =>
    intro hw
    simp only [Ty.wf, Bool.and_eq_true] at hw ⊢
    exact ⟨⟨by rw [keyable_of_kind_eq h1.kind_eq]; exact hw.1.1, ih1 hw.1.2⟩, ih2 hw.2⟩
  | @obj fs gs hl hs _ ih =>
    intro hw
    simp only [Ty.wf] at hw ⊢
    refine wfFields_of_find fs (nodup_of_subset_length_le _ _ (wfFields_nodup gs hw) (fun n hn => ?_)
      (by rw [FieldList.length_names, FieldList.length_names, hl]; exact Nat.le_refl _)) fun n t ht => ?_
    · rw [← FieldList.find?_isSome_iff] at hn ⊢; rw [hs n]; exact hn
    · obtain ⟨u, hu⟩ := find?_of_isSome_eq (hs n) ht
      exact ih n t u ht hu (wfFields_find gs n u hw hu)
  | fn _ _ ih1 ih2 =>
    intro hw
    simp only [Ty.wf, Bool.and_eq_true] at hw ⊢
    exact ⟨ih1 hw.1, ih2 hw.2⟩
  | maybe _ ih => exact ih
  | nil => rfl
  | cons _ _ ih1 ih2 =>
    rename_i hw
    simp only [wfList, Bool.and_eq_true] at hw ⊢
    exact ⟨ih1 hw.1, ih2 hw.2⟩

/-- What a well-formed type is `tyEq` to is well formed.  Not the other way round: `{a: num, a: num}` is `tyEq` to the
well-formed `{a: num, b: num}` (the example below `C17.tyEq_symm`). -/
theorem tyEq_wf {a b : Ty} (ha : a.wf = true) (h : tyEq a b = true) : b.wf = true :=
  (StructEq.symm a b (tyEq_sound a b ha h)).wf_of ha

theorem tyEq_trans' {a b c : Ty} (ha : a.wf = true) (h1 : tyEq a b = true) (h2 : tyEq b c = true) :
    tyEq a c = true :=
  tyEq_complete a c ha
    (StructEq.trans a b c (tyEq_sound a b ha h1) (tyEq_sound b c (tyEq_wf ha h1) h2))

/-- two types `tyEq` to a common well-formed `T` are `tyEq` to each other (how two samples of one Go type are compared) -/
theorem tyEq_common {T A B : Ty} (wT : T.wf = true) (hA : tyEq T A = true) (hB : tyEq T B = true) :
    tyEq A B = true :=
  have wA := tyEq_wf wT hA
  tyEq_trans' wA ((tyEq_symm' wA wT).trans hA) hB

theorem StructEqList.wf_of {xs ys : TyList} (h : StructEqList xs ys) :
    wfList ys = true → wfList xs = true :=
  (StructEq.tuple h).wf_of

theorem StructEqList.length_eq : ∀ xs ys, StructEqList xs ys → xs.length = ys.length
  | .nil, _, h => by cases h; rfl
  | .cons _ xs, _, h => by
    cases h with | cons _ h2 => simp [TyList.length, StructEqList.length_eq xs _ h2]

namespace Sound

theorem FieldList.find?_indexOf? : ∀ (fs : FieldList) (n : String) (T : Ty),
    fs.find? n = some T → ∃ i, fs.indexOf? n = some i ∧ fs.get? i = some (n, T)
  | .nil, _, _, h => by simp [FieldList.find?] at h
  | .cons m t fs, n, T, h => by
    simp only [FieldList.find?] at h
    simp only [FieldList.indexOf?]
    split at h
    · next hmn => cases h; subst hmn; exact ⟨0, by simp, rfl⟩
    · next hmn =>
      obtain ⟨i, hi, hg⟩ := FieldList.find?_indexOf? fs n T h
      exact ⟨i+1, by simp [hmn, hi], by simpa [FieldList.get?] using hg⟩

theorem StructEqList.get? : ∀ {xs ys : TyList}, StructEqList xs ys → ∀ i x, xs.get? i = some x →
    ∃ y, ys.get? i = some y ∧ StructEq x y
  | _, _, .nil, i, x, h => by simp [TyList.get?] at h
  | _, _, .cons h1 h2, 0, x, h => by
    simp only [TyList.get?] at h ⊢
    cases h; exact ⟨_, rfl, h1⟩
  | _, _, .cons h1 h2, i+1, x, h => by
    simp only [TyList.get?] at h ⊢
    exact StructEqList.get? h2 i x h

theorem TyList.get?_lt : ∀ (ps : TyList) (i : Nat), i < ps.length → ∃ p, ps.get? i = some p
  | .nil, i, h => by simp [TyList.length] at h
  | .cons p ps, 0, _ => ⟨p, rfl⟩
  | .cons p ps, i+1, h => by
    simp only [TyList.length] at h
    simpa [TyList.get?] using TyList.get?_lt ps i (by omega)

theorem wfList_get? : ∀ (ps : TyList) (i : Nat) (p : Ty), wfList ps = true → ps.get? i = some p →
    p.wf = true
  | .nil, _, _, _, h => by simp [TyList.get?] at h
  | .cons q ps, 0, p, hw, h => by
    simp only [wfList, Bool.and_eq_true] at hw
    simp only [TyList.get?] at h; cases h; exact hw.1
  | .cons q ps, i+1, p, hw, h => by
    simp only [wfList, Bool.and_eq_true] at hw
    simp only [TyList.get?] at h
    exact wfList_get? ps i p hw.2 h

theorem slotFreeList_get? : ∀ (ps : TyList) (i : Nat) (p : Ty), slotFreeList ps = true →
    ps.get? i = some p → slotFree p = true
  | .nil, _, _, _, h => by simp [TyList.get?] at h
  | .cons q ps, 0, p, hw, h => by
    simp only [slotFreeList, Bool.and_eq_true] at hw
    simp only [TyList.get?] at h; cases h; exact hw.1
  | .cons q ps, i+1, p, hw, h => by
    simp only [slotFreeList, Bool.and_eq_true] at hw
    simp only [TyList.get?] at h
    exact slotFreeList_get? ps i p hw.2 h

theorem slotFreeFields_of_find : ∀ fs : FieldList, wfFields fs = true →
    (∀ n t, fs.find? n = some t → slotFree t = true) → slotFreeFields fs = true
  | .nil, _, _ => rfl
  | .cons n t fs, hw, h => by
    simp only [wfFields, Bool.and_eq_true] at hw
    simp only [slotFreeFields, Bool.and_eq_true]
    exact ⟨h n t (FieldList.find?_cons_self n t fs), slotFreeFields_of_find fs hw.2 fun m u hm =>
      h m u (FieldList.find?_cons_of_isNone t hw.1.1 hm)⟩

theorem slotFree_of_structEq : ∀ a b : Ty, a.wf = true → StructEq a b → slotFree b = true →
    slotFree a = true := by
  intro a b hw h
  revert hw
  induction h using StructEq.rec
    (motive_2 := fun xs ys _ => wfList xs = true → slotFreeList ys = true → slotFreeList xs = true) with
  | top | bot | var | num | str | bool | time => exact fun _ => id
  | tuple _ ih | list _ ih | maybe _ ih => exact ih
  | map _ _ ih1 ih2 =>
    intro hw hs
    simp only [Ty.wf, slotFree, Bool.and_eq_true] at hw hs ⊢
    exact ⟨ih1 hw.1.2 hs.1, ih2 hw.2 hs.2⟩
  | @obj fs gs _ hsome _ ih =>
    -- only the fields `find?` reaches are related: `fs` has no others because it is well formed
    intro hw hs
    have hw : wfFields fs = true := hw
    refine slotFreeFields_of_find fs hw fun n t hn => ?_
    obtain ⟨u, hu⟩ := find?_of_isSome_eq (hsome n) hn
    exact ih n t u hn hu (wfFields_find fs n t hw hn) (slotFreeFields_find gs n u hs hu)
  | fn _ _ ih1 ih2 =>
    intro hw hs
    simp only [Ty.wf, slotFree, Bool.and_eq_true] at hw hs ⊢
    exact ⟨ih1 hw.1 hs.1, ih2 hw.2 hs.2⟩
  | nil => rfl
  | cons _ _ ih1 ih2 =>
    rename_i hw hs
    simp only [wfList, slotFreeList, Bool.and_eq_true] at hw hs ⊢
    exact ⟨ih1 hw.1 hs.1, ih2 hw.2 hs.2⟩

theorem slotFreeList_of_structEq : ∀ xs ys : TyList, wfList xs = true → StructEqList xs ys →
    slotFreeList ys = true → slotFreeList xs = true :=
  fun xs ys hw h => slotFree_of_structEq (.tuple xs) (.tuple ys) hw (.tuple h)

theorem slotFree_of_structEq_fields : ∀ (fs : FieldList) (n : String) (t : Ty),
    fs.find? n = some t → ∀ u, t.wf = true → StructEq t u → slotFree u = true →
    slotFree t = true :=
  fun _ _ t _ u => slotFree_of_structEq t u


end Sound

end Yae
