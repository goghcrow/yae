/-
  Lemmas for C16 (optional types): which built-in parameters can receive an optional, and the
  parameter a matched or `tyEq`-asserted argument meets in the selected overload.  `noTop` (no `⊤` inside a
  type), defined first, also serves `TypingNatural`; `instantiate_some` and `FirstInst.selected` (what a successful
  `instantiate` did, which candidate `FirstInst` chose) serve `TypingCheck`, `TypingNatural` and `TypingPolyOK` as well.
-/
import Yae.Spec.Typing
namespace Yae

mutual
def noTop : Ty → Bool
  | .top => false
  | .tuple ts => noTopList ts
  | .list el => noTop el
  | .map k v => noTop k && noTop v
  | .obj fs => noTopFields fs
  | .fn _ ps r => noTopList ps && noTop r
  | .maybe el => noTop el
  | _ => true
def noTopList : TyList → Bool
  | .nil => true
  | .cons t ts => noTop t && noTopList ts
def noTopFields : FieldList → Bool
  | .nil => true
  | .cons _ t fs => noTop t && noTopFields fs
end

def isVarTy : Ty → Bool
  | .var _ => true
  | _ => false

def isMaybeTy : Ty → Bool
  | .maybe _ => true
  | _ => false

def TyList.indexed : TyList → Nat → List (Nat × Ty)
  | .nil, _ => []
  | .cons t ts, i => (i, t) :: TyList.indexed ts (i+1)

def FunParams : Ty → TyList
  | .fn _ ps _ => ps
  | _ => .nil

def builtinParamsWhere (pred : Ty → Bool) : List (BId × Nat) :=
  builtins.flatMap fun b =>
    ((FunParams b.ty).indexed 0).filterMap fun (i, t) => if pred t then some (b.id, i) else none

/-- the parameter patterns an argument of optional type can meet; there is no coercion into anything else
(C16, `no_coercion_spec`) -/
def AcceptsMaybe (p : Ty) : Prop := (∃ n, p = .var n) ∨ (∃ a, p = .maybe a) ∨ p = .top

theorem instantiate_some {ps : TyList} {ret : Ty} {As qs : TyList} {U : Ty}
    (h : instantiate ps ret As = some (qs, U)) :
    ps.length = As.length ∧
      ∃ σ, pmatchList ps As [] = some (qs, σ) ∧ U = substG σ ret ∧ slotFree U = true := by
  unfold instantiate at h
  split at h
  · cases h
  · next hl =>
    split at h
    · cases h
    · next σ hm =>
      split at h
      · next hs => cases h; exact ⟨by simpa using hl, σ, hm, rfl, hs⟩
      · cases h

theorem FirstInst.selected {cands : List FunDecl} {As ps' : TyList} {T : Ty} (h : FirstInst cands As ps' T) :
    ∃ d ∈ cands, ∃ name ps ret, d.ty = .fn name ps ret ∧ instantiate ps ret As = some (ps', T) := by
  induction h with
  | here hd hi => exact ⟨_, List.mem_cons_self .., _, _, _, hd, hi⟩
  | later _ _ _ ih =>
    obtain ⟨d, hm, r⟩ := ih
    exact ⟨d, List.mem_cons_of_mem _ hm, r⟩

theorem pmatchList_get : ∀ (ps As : TyList) (m : Subst) (r : TyList × Subst),
    ps.length = As.length → pmatchList ps As m = some r →
    ∀ i a, As.get? i = some a → ∃ p m1 r1, ps.get? i = some p ∧ pmatch p a m1 = some r1
  | .nil, .nil, _, _, _, _, i, a, ha => by simp [TyList.get?] at ha
  | .nil, .cons _ _, _, _, hl, _, _, _, _ => by simp [TyList.length] at hl
  | .cons _ _, .nil, _, _, hl, _, _, _, _ => by simp [TyList.length] at hl
  | .cons p ps, .cons a' As, m, r, hl, h, i, a, ha => by
    simp only [TyList.length, Nat.add_right_cancel_iff] at hl
    simp only [pmatchList] at h
    cases h1 : pmatch p a' m with
    | none => simp [h1] at h
    | some r1 =>
      obtain ⟨t, m1⟩ := r1
      simp only [h1] at h
      cases h2 : pmatchList ps As m1 with
      | none => simp [h2] at h
      | some r2 =>
        cases i with
        | zero =>
          simp only [TyList.get?, Option.some.injEq] at ha
          subst ha
          exact ⟨p, m, _, rfl, h1⟩
        | succ i =>
          exact pmatchList_get ps As m1 r2 hl h2 i a ha

theorem tyEqList_get : ∀ (ps As : TyList), tyEqList ps As = true →
    ∀ i a, As.get? i = some a → ∃ p, ps.get? i = some p ∧ tyEq p a = true
  | .nil, .nil, _, _, _, ha => by simp [TyList.get?] at ha
  | .nil, .cons _ _, h, _, _, _ => by simp [tyEqList] at h
  | .cons _ _, .nil, h, _, _, _ => by simp [tyEqList] at h
  | .cons p ps, .cons a' As, h, i, a, ha => by
    simp only [tyEqList, Bool.and_eq_true] at h
    cases i with
    | zero =>
      simp only [TyList.get?, Option.some.injEq] at ha
      subst ha
      exact ⟨p, rfl, h.1⟩
    | succ i =>
      exact tyEqList_get ps As h.2 i a ha

theorem tyEq_maybe_right {p t : Ty} (h : tyEq p (.maybe t) = true) : ∃ a, p = .maybe a := by
  cases p <;> simp [tyEq] at h
  exact ⟨_, rfl⟩

end Yae
