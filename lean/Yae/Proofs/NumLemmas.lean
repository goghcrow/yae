/-
  Digits and `strconv.FormatInt`, quoting and unquoting, fixed-width hex.
-/
import Yae.Model.Num
namespace Yae.Num

theorem digitVal_digitChar (d : Nat) (h : d < 10) : digitVal (digitChar d) = d := by
  have : ∀ d : Fin 10, digitVal (digitChar d.val) = d.val := by decide
  exact this ⟨d, h⟩

theorem isDigit_digitChar (d : Nat) (h : d < 10) : isDigit (digitChar d) = true := by
  have : ∀ d : Fin 10, isDigit (digitChar d.val) = true := by decide
  exact this ⟨d, h⟩

theorem digitsVal_append_singleton (xs : List Char) (c : Char) :
    digitsVal (xs ++ [c]) = digitsVal xs * 10 + digitVal c := by
  simp [digitsVal, List.foldl_append]

theorem digitsVal_natDigits (n : Nat) : digitsVal (natDigits n) = n := by
  induction n using natDigits.induct with
  | case1 n h =>
    rw [natDigits, dif_pos h]
    simp [digitsVal, digitVal_digitChar n h]
  | case2 n h ih =>
    rw [natDigits, dif_neg h, digitsVal_append_singleton, ih,
      digitVal_digitChar _ (Nat.mod_lt _ (by decide))]
    omega

theorem natDigits_injective {a b : Nat} (h : natDigits a = natDigits b) : a = b := by
  have := congrArg digitsVal h
  simpa [digitsVal_natDigits] using this

theorem natDigits_all_digits (n : Nat) : ∀ c ∈ natDigits n, isDigit c = true := by
  induction n using natDigits.induct with
  | case1 n h =>
    rw [natDigits, dif_pos h]
    exact List.forall_mem_singleton.2 (isDigit_digitChar n h)
  | case2 n h ih =>
    rw [natDigits, dif_neg h]
    exact List.forall_mem_append.2
      ⟨ih, List.forall_mem_singleton.2 (isDigit_digitChar _ (Nat.mod_lt _ (by decide)))⟩

theorem natDigits_ne_nil (n : Nat) : natDigits n ≠ [] := by
  induction n using natDigits.induct with
  | case1 n h => rw [natDigits, dif_pos h]; simp
  | case2 n h _ => rw [natDigits, dif_neg h]; simp

theorem natDigits_head (n : Nat) (hn : n ≠ 0) : (natDigits n).head? ≠ some '0' := by
  induction n using natDigits.induct with
  | case1 n h =>
    rw [natDigits, dif_pos h]
    have : ∀ d : Fin 10, d.val ≠ 0 → [digitChar d.val].head? ≠ some '0' := by decide
    exact this ⟨n, h⟩ hn
  | case2 n h ih =>
    rw [natDigits, dif_neg h]
    have hne := natDigits_ne_nil (n / 10)
    have : n / 10 ≠ 0 := by omega
    have ih := ih this
    cases hd : natDigits (n / 10) with
    | nil => exact absurd hd hne
    | cons x xs => simpa [hd] using ih

theorem natDigits_zero : natDigits 0 = ['0'] := by
  rw [natDigits]; rfl

theorem natDigits_ne_minus (n : Nat) (rest : List Char) : natDigits n ≠ '-' :: rest := by
  intro h
  have := natDigits_all_digits n '-' (by rw [h]; simp)
  exact absurd this (by decide)

theorem fmtInt_injective {a b : Int} (h : fmtInt a = fmtInt b) : a = b := by
  cases a <;> cases b <;> have h' := String.ofList_injective h
  · rw [natDigits_injective h']
  · exact absurd h' (natDigits_ne_minus _ _)
  · exact absurd h'.symm (natDigits_ne_minus _ _)
  · have := natDigits_injective (List.cons.inj h').2
    rw [Nat.add_right_cancel this]

theorem fmtInt_nonneg_chars (n : Nat) : ∀ c ∈ (fmtInt (Int.ofNat n)).toList, isDigit c = true := by
  simp only [fmtInt, fmtNat, String.toList_ofList]
  exact natDigits_all_digits n

theorem isPrint_ge (c : Char) (h : isPrint c = true) : 32 ≤ c.toNat := by
  obtain ⟨rest, hr⟩ : ∃ rest, Yae.Gen.printRanges = (0x20, 0x7E) :: rest := ⟨_, rfl⟩
  unfold isPrint at h
  rw [hr] at h
  unfold inRanges at h
  by_cases hlt : c.toNat < 0x20
  · simp [hlt] at h
  · omega

theorem isPrint_ne_newline {c : Char} (h : isPrint c = true) : c ≠ '\n' := by
  intro e
  subst e
  exact absurd (isPrint_ge _ h) (by decide)

/-- `\e` is the escape for the character with code `k`: Go's single-letter escapes, and the two
characters that are escaped by themselves. -/
def escapes : List (Char × Nat) :=
  [('"', 34), ('\\', 92), ('a', 7), ('b', 8), ('f', 12), ('n', 10), ('r', 13), ('t', 9), ('v', 11)]

theorem escapes_lt {e : Char} {k : Nat} (h : (e, k) ∈ escapes) : k < 128 := by
  simp only [escapes, List.mem_cons, Prod.mk.injEq, List.not_mem_nil, or_false] at h
  omega

/-- The forms `quoteChar c` takes. -/
inductive QuoteShape (c : Char) : List Char → Prop
  | verbatim : isPrint c = true → c ≠ '"' → c ≠ '\\' → QuoteShape c [c]
  | named (e : Char) : (e, c.toNat) ∈ escapes → QuoteShape c ['\\', e]
  | hex2 : c.toNat < 128 → QuoteShape c ('\\' :: 'x' :: hexFixed 2 c.toNat)
  | hex4 : c.toNat < 0x10000 → QuoteShape c ('\\' :: 'u' :: hexFixed 4 c.toNat)
  | hex8 : QuoteShape c ('\\' :: 'U' :: hexFixed 8 c.toNat)

theorem quoteChar_shape (c : Char) : QuoteShape c (quoteChar c) := by
  have named : ∀ (k : Nat) (e : Char) (l : List Char), (e, k) ∈ escapes →
      QuoteShape c l → QuoteShape c (if (c.toNat == k) = true then ['\\', e] else l) := by
    intro k e l hm hl
    by_cases h : (c.toNat == k) = true
    · rw [if_pos h]; cases eq_of_beq h; exact .named e hm
    · rw [if_neg h]; exact hl
  unfold quoteChar
  by_cases h1 : (c == '"' || c == '\\') = true
  · rw [if_pos h1]
    rcases Bool.or_eq_true_iff.1 h1 with h | h <;> rw [eq_of_beq h] <;> exact .named _ (by decide)
  rw [if_neg h1]
  by_cases hp : isPrint c = true
  · rw [if_pos hp]
    exact .verbatim hp (fun h => h1 (by rw [h]; rfl)) (fun h => h1 (by rw [h]; rfl))
  rw [if_neg hp]
  refine named 7 'a' _ (by decide) <| named 8 'b' _ (by decide) <| named 12 'f' _ (by decide) <|
    named 10 'n' _ (by decide) <| named 13 'r' _ (by decide) <| named 9 't' _ (by decide) <|
    named 11 'v' _ (by decide) ?_
  by_cases hx : (c.toNat < 32 || c.toNat == 127) = true
  · rw [if_pos hx]; exact .hex2 (by simp at hx; omega)
  rw [if_neg hx]
  by_cases hu : c.toNat < 0x10000
  · rw [if_pos hu]; exact .hex4 hu
  · rw [if_neg hu]; exact .hex8

theorem hexDigitVal_hexLower (d : Nat) (h : d < 16) : hexDigitVal (hexLower d) = some d := by
  have : ∀ d : Fin 16, hexDigitVal (hexLower d.val) = some d.val := by decide
  exact this ⟨d, h⟩

/-- one more hex digit at the low end of a `w`-digit reading -/
theorem hex_snoc (acc w m : Nat) :
    (acc * 16 ^ w + m / 16 % 16 ^ w) * 16 + m % 16 = acc * 16 ^ (w + 1) + m % 16 ^ (w + 1) := by
  rw [Nat.pow_succ, Nat.mul_comm (16 ^ w) 16, Nat.mod_mul]
  generalize 16 ^ w = P
  generalize m / 16 % P = Q
  rw [Nat.add_mul, Nat.mul_assoc, Nat.mul_comm P 16, ← Nat.mul_assoc]
  omega

theorem takeHex_hexFixed (w : Nat) : ∀ (k m acc : Nat) (rest : List Char),
    takeHex (k + w) acc (hexFixed w m ++ rest) = takeHex k (acc * 16 ^ w + m % 16 ^ w) rest := by
  induction w with
  | zero => intro k m acc rest; simp [hexFixed, Nat.mod_one]
  | succ w ih =>
    intro k m acc rest
    have e1 : k + (w + 1) = (k + 1) + w := by omega
    rw [e1]
    simp only [hexFixed, List.append_assoc, List.singleton_append]
    rw [ih (k + 1) (m / 16) acc]
    simp only [takeHex, hexDigitVal_hexLower (m % 16) (Nat.mod_lt _ (by decide))]
    rw [hex_snoc]

theorem takeHex_hexFixed_all (w n : Nat) (rest : List Char) (h : n < 16 ^ w) :
    takeHex w 0 (hexFixed w n ++ rest) = some (n, rest) := by
  have := takeHex_hexFixed w 0 n 0 rest
  rwa [Nat.zero_add, Nat.zero_mul, Nat.zero_add, Nat.mod_eq_of_lt h] at this

theorem char_toNat_lt (c : Char) : c.toNat < 0x110000 := by
  have hv : c.toNat < 0xD800 ∨ (0xDFFF < c.toNat ∧ c.toNat < 0x110000) := c.valid
  omega

theorem validRune_toNat (c : Char) : validRune c.toNat = true := by
  have hv : c.toNat < 0xD800 ∨ (0xDFFF < c.toNat ∧ c.toNat < 0x110000) := c.valid
  simp only [validRune, Bool.or_eq_true, Bool.and_eq_true, decide_eq_true_eq]
  omega

theorem unescape_named {e : Char} {k : Nat} (h : (e, k) ∈ escapes) (t : List Char) :
    unescape '"' (e :: t) = some (Char.ofNat k, t) := by
  simp only [escapes, List.mem_cons, Prod.mk.injEq, List.not_mem_nil, or_false] at h
  rcases h with ⟨rfl, rfl⟩ | ⟨rfl, rfl⟩ | ⟨rfl, rfl⟩ | ⟨rfl, rfl⟩ | ⟨rfl, rfl⟩ | ⟨rfl, rfl⟩ |
    ⟨rfl, rfl⟩ | ⟨rfl, rfl⟩ | ⟨rfl, rfl⟩ <;> rfl

theorem unquoteBody_shape {c : Char} {l : List Char} (h : QuoteShape c l) (fuel : Nat)
    (acc tail : List Char) :
    unquoteBody '"' false (fuel + 1) acc (l ++ tail) = unquoteBody '"' false fuel (c :: acc) tail := by
  have hlt := char_toNat_lt c
  have hv := validRune_toNat c
  -- an escape that `unescape` reads as `c`
  have esc : ∀ l, unescape '"' (l ++ tail) = some (Char.ofNat c.toNat, tail) →
      unquoteBody '"' false (fuel + 1) acc ('\\' :: l ++ tail)
        = unquoteBody '"' false fuel (c :: acc) tail := by
    intro l h; simp [unquoteBody, h]
  cases h with
  | verbatim hp h1 h2 => simp [unquoteBody, h1, isPrint_ne_newline hp, h2]
  | named e hm => exact esc [e] (unescape_named hm tail)
  | hex2 hx => exact esc _ (by simp [unescape, takeHex_hexFixed_all 2 c.toNat tail (by omega), hx])
  | hex4 hu => exact esc _ (by simp [unescape, takeHex_hexFixed_all 4 c.toNat tail (by omega), hv])
  | hex8 => exact esc _ (by simp [unescape, takeHex_hexFixed_all 8 c.toNat tail (by omega), hv])

theorem QuoteShape.length_pos {c : Char} {l : List Char} (h : QuoteShape c l) : 1 ≤ l.length := by
  cases h <;> exact Nat.succ_le_succ (Nat.zero_le _)

theorem length_le_flatMap_quoteChar (l : List Char) : l.length ≤ (l.flatMap quoteChar).length := by
  induction l with
  | nil => simp
  | cons c l ih =>
    have := (quoteChar_shape c).length_pos
    simp only [List.flatMap_cons, List.length_append, List.length_cons]
    omega

/-- Scanning the quoted form of `l` followed by ANY text `tail` stops exactly at the closing quote
`quote` wrote: the decoded content is `l`, the remaining input is `tail`, untouched. -/
theorem unquoteBody_quoted (l tail : List Char) : ∀ (fuel : Nat) (acc : List Char), l.length + 1 ≤ fuel →
    unquoteBody '"' false fuel acc (l.flatMap quoteChar ++ '"' :: tail)
      = some (acc.reverse ++ l, tail) := by
  induction l with
  | nil =>
    intro fuel acc h
    obtain ⟨f, rfl⟩ : ∃ f, fuel = f + 1 := ⟨fuel - 1, by omega⟩
    simp [unquoteBody]
  | cons c l ih =>
    intro fuel acc h
    obtain ⟨f, rfl⟩ : ∃ f, fuel = f + 1 := ⟨fuel - 1, by omega⟩
    simp only [List.flatMap_cons, List.append_assoc]
    rw [unquoteBody_shape (quoteChar_shape c), ih f (c :: acc) (by simpa using h)]
    simp

theorem quote_toList (s : String) :
    (quote s).toList = '"' :: (s.toList.flatMap quoteChar ++ ['"']) := by
  rw [quote, String.toList_ofList]

/-- `unquote` on a text in double quotes: the body is scanned up to the first closing quote, which
must be the last character -/
theorem unquote_dq (body : List Char) :
    unquote (String.ofList ('"' :: body ++ ['"'])) =
      match unquoteBody '"' false ((body ++ ['"']).length + 1) [] (body ++ ['"']) with
      | some (out, []) => some (String.ofList out)
      | _ => none := by
  unfold unquote
  rw [String.toList_ofList, List.cons_append]
  cases hx : body ++ ['"'] with
  | nil => simp at hx
  | cons y ys => rfl

/-- `strconv.Unquote(strconv.Quote(s)) == s` -/
theorem unquote_quote (s : String) : unquote (quote s) = some s := by
  have hlen := length_le_flatMap_quoteChar s.toList
  rw [quote, ← List.cons_append, unquote_dq, unquoteBody_quoted s.toList [] _ []
    (by simp only [List.length_append, List.length_singleton]; omega)]
  simp [String.ofList_toList]

theorem quote_injective {a b : String} (h : quote a = quote b) : a = b := by
  have := congrArg unquote h
  simpa [unquote_quote] using this

end Yae.Num

#print axioms Yae.Num.fmtInt_injective
#print axioms Yae.Num.unquote_quote
