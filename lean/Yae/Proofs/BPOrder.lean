/- The order of binding powers (`Yae.BP`, a Go float32 as sign and magnitude bits): IEEE `<` is a strict order, total
   on the non-NaN values up to the identification of the two zeros, and `BP.pred` (= `BP.Prev` =
   `math.Nextafter32(·, -Inf)`) is the predecessor in that order.  The parser's completeness proof
   (`ParseCompleteBase`) works with the integer `key`; `lt_trans`, `lt_trichotomy`, `pred_lt`, `pred_max`,
   `lt_iff_not_pred_lt` say the same with `<` and have no user: they show that comparing keys is the order it is
   taken for. -/
import Yae.Model.Token
namespace Yae.BP

theorem lt_iff {a b : BP} : a < b ↔ a.isNaN = false ∧ b.isNaN = false ∧ a.key < b.key := by
  show lt a b = true ↔ _
  unfold lt
  cases a.isNaN <;> cases b.isNaN <;> simp

theorem lt_irrefl (a : BP) : ¬ a < a := by
  rw [lt_iff]; omega

theorem lt_trans {a b c : BP} (h1 : a < b) (h2 : b < c) : a < c := by
  rw [lt_iff] at h1 h2 ⊢; exact ⟨h1.1, h2.2.1, by omega⟩

theorem lt_asymm {a b : BP} (h : a < b) : ¬ b < a := by
  rw [lt_iff] at *; omega

theorem lt_trichotomy {a b : BP} (ha : a.isNaN = false) (hb : b.isNaN = false) :
    a < b ∨ a.key = b.key ∨ b < a := by
  simp only [lt_iff, ha, hb, true_and]; omega

theorem not_lt {a b : BP} (ha : a.isNaN = false) (hb : b.isNaN = false) :
    ¬ a < b ↔ b.key ≤ a.key := by
  simp only [lt_iff, ha, hb, true_and]; omega

theorem key_eq_iff {a b : BP} : a.key = b.key ↔ (a.mag = b.mag ∧ (a.neg = b.neg ∨ a.mag = 0)) := by
  unfold key
  cases a.neg <;> cases b.neg <;> simp <;> omega

theorem pred_isNaN (b : BP) : b.pred.isNaN = b.isNaN := by
  unfold pred
  by_cases h : b.isNaN = true
  · simp [h]
  · have h' : b.isNaN = false := by simpa using h
    simp only [h', Bool.false_eq_true, if_false]
    unfold isNaN infMag at *
    have hm : b.mag ≤ 0x7f800000 := by simpa using h'
    split
    · simp
    · split
      · split
        · exact h'
        · simp; omega
      · simp; omega

def isNegInf (b : BP) : Bool := b.neg && b.mag == infMag

theorem pred_key {b : BP} (hn : b.isNaN = false) (hi : b.isNegInf = false) :
    b.pred.key = b.key - 1 := by
  unfold pred key
  simp only [hn, Bool.false_eq_true, if_false]
  unfold isNegInf at hi
  by_cases h0 : b.mag = 0
  · simp [h0]
  · simp only [h0, if_false]
    cases hneg : b.neg
    · simp; omega
    · have : b.mag ≠ infMag := by simpa [hneg] using hi
      simp [this]; omega

theorem pred_lt {b : BP} (hn : b.isNaN = false) (hi : b.isNegInf = false) : b.pred < b := by
  rw [lt_iff, pred_isNaN, hn]
  exact ⟨rfl, rfl, by rw [pred_key hn hi]; omega⟩

theorem pred_max {b x : BP} (h : x < b) : ¬ b.pred < x := by
  rw [lt_iff] at h
  obtain ⟨hx, hb, hk⟩ := h
  by_cases hi : b.isNegInf = true
  · -- nothing is below -Inf
    exfalso
    unfold isNegInf at hi
    have h1 : b.neg = true := by simp at hi; exact hi.1
    have h2 : b.mag = infMag := by simp at hi; exact hi.2
    unfold isNaN at hx
    have : x.mag ≤ infMag := by simpa using hx
    unfold key at hk
    rw [h1, h2] at hk
    cases x.neg <;> simp at hk <;> omega
  · rw [lt_iff, pred_isNaN]
    intro ⟨_, _, hk'⟩
    rw [pred_key hb (by simpa using hi)] at hk'
    omega

/-- a right operand parsed at `Prev b` absorbs precisely the operators that bind at least as tightly as `b` -/
theorem lt_iff_not_pred_lt {b x : BP} (hx : x.isNaN = false) (hn : b.isNaN = false)
    (hi : b.isNegInf = false) : x < b ↔ ¬ b.pred < x := by
  constructor
  · exact pred_max
  · intro h
    have hp := pred_lt hn hi
    rw [not_lt (by rw [pred_isNaN, hn]) hx] at h
    rw [lt_iff] at hp ⊢
    exact ⟨hx, hn, by omega⟩

theorem ofNat_isNaN_small : (0 : BP).isNaN = false ∧ (2 : BP).isNaN = false ∧
    (12 : BP).isNaN = false ∧ (13 : BP).isNaN = false := by decide

example : (2 : BP) < 12 ∧ (12 : BP) < 13 ∧ ¬ (13 : BP) < 13 ∧ (0 : BP) < 2 := by decide
example : BP.pred 7 < 7 ∧ ¬ BP.pred 7 < BP.pred 7 := by decide

end Yae.BP
