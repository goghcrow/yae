/-
  The ten hand-written recognisers of `Yae.Model.Lexer` ARE the ten regular expressions of `newLexicon` under the
  reference semantics of `Yae.Spec.Regex` (Go/Perl leftmost-first, anchored at the cursor):

      Pat.run p s = (reOf p).matchLen s                       (`Pat.run_eq_matchLen`)
      (Matcher.regex p).run s = (reOf p).find s               (`regex_run`)

  None of the patterns can match the empty word, so the `found == ""` test of `lexer.regex` never fires.  Both this
  and "each literal form is read as ONE token" (`Pat.run_append`) are instances of `Pat.reads`.
-/
import Yae.Proofs.LexRegexNum
import Yae.Proofs.LexRegexWord
import Yae.Proofs.LexRegexStr
import Yae.Proofs.LexRegexPolicy
namespace Yae
open Re

namespace Re

theorem isBin_digit {c : Char} (h : isBin c = true) : isDigit c = true := by
  simp only [isBin, Bool.or_eq_true, beq_iff_eq] at h
  rcases h with rfl | rfl <;> decide

theorem isOct_digit {c : Char} (h : isOct c = true) : isDigit c = true := by
  simp only [isOct, isDigit, Bool.and_eq_true, decide_eq_true_eq] at h ⊢
  exact ⟨h.1, Char.le_trans h.2 (by decide)⟩

theorem isHex_identCont {c : Char} (h : isHex c = true) : isIdentCont c = true := by
  simp only [isHex, Bool.or_eq_true, Bool.and_eq_true, decide_eq_true_eq] at h
  rcases h with (h | h) | h
  · simp [isIdentCont, h]
  · have : isAsciiAlpha c = true := by
      simp only [isAsciiAlpha, Bool.or_eq_true, Bool.and_eq_true, decide_eq_true_eq]
      exact .inl ⟨h.1, Char.le_trans h.2 (by decide)⟩
    simp [isIdentCont, this]
  · have : isAsciiAlpha c = true := by
      simp only [isAsciiAlpha, Bool.or_eq_true, Bool.and_eq_true, decide_eq_true_eq]
      exact .inr ⟨h.1, Char.le_trans h.2 (by decide)⟩
    simp [isIdentCont, this]

end Re

def Pat.cont : Pat → Char → Bool
  | .str | .raw | .time => fun _ => false
  | .sym => isIdentCont
  | _ => numCont

theorem Pat.reads : ∀ p : Pat, Reads (reOf p) p.run p.cont
  | .floatA => floatA_reads
  | .floatB => floatB_reads
  | .bin => bin_reads.mono fun _ h => numCont_of (.inl (isBin_digit h))
  | .hex => hex_reads.mono fun c h => show numCont c = true by simp [numCont, isHex_identCont h]
  | .oct => oct_reads.mono fun _ h => numCont_of (.inl (isOct_digit h))
  | .int => int_reads.mono fun _ h => numCont_of (.inl h)
  | .str => str_reads
  | .raw => raw_reads
  | .time => time_reads
  | .sym => sym_reads

theorem Pat.run_eq_matchLen (p : Pat) (s : List Char) : p.run s = (reOf p).matchLen s :=
  ((Pat.reads p).matchLen s).symm

/-- Nine of the ten patterns have no loop with a nullable body: whatever is decided about iterations that consume
nothing (`Re.mP first later`), the match is the same. -/
theorem Pat.run_eq_policy (first later : Bool) (p : Pat) (hp : p ≠ .str) (s : List Char) :
    p.run s = mP first later (reOf p) s (fun rest => some (s.length - rest.length)) := by
  rw [Pat.run_eq_matchLen, mP_eq_m first later (reOf p) (by cases p <;> first | rfl | exact absurd rfl hp)]
  rfl

theorem reOf_not_nullable (p : Pat) : (reOf p).nullable = false := by
  cases p <;> decide

theorem Pat.run_pos {p : Pat} {s : List Char} {n : Nat} (h : p.run s = some n) : 0 < n := by
  rw [Pat.run_eq_matchLen] at h
  exact matchLen_pos (reOf_not_nullable p) h

/-- `lexer.regex(kind, pattern)`: `FindString` of `^(?:pattern)`, the empty match counting as
no match. -/
theorem regex_run (p : Pat) (s : List Char) : (Matcher.regex p).run s = (reOf p).find s := by
  rw [Re.find, ← Pat.run_eq_matchLen, Matcher.run]
  cases p.run s with
  | none => rfl
  | some n => cases n <;> rfl

/-- No pattern matches the empty word, so the `found == ""` test of `lexer.regex` never fires. -/
theorem regex_run_matchLen (p : Pat) (s : List Char) : (Matcher.regex p).run s = (reOf p).matchLen s :=
  (regex_run p s).trans (find_eq_matchLen (reOf_not_nullable p) s)

theorem regex_run_eq (p : Pat) (s : List Char) : (Matcher.regex p).run s = p.run s :=
  (regex_run_matchLen p s).trans (Pat.run_eq_matchLen p s).symm

theorem Pat.run_eq_find (p : Pat) (s : List Char) :
    p.run s = (match (reOf p).matchLen s with
      | some 0 => none
      | r => r) := by
  rw [Pat.run_eq_matchLen]
  exact (find_eq_matchLen (reOf_not_nullable p) s).symm

theorem regex_run_some {p : Pat} {s : List Char} {n : Nat} (h : (Matcher.regex p).run s = some n) :
    0 < n ∧ n ≤ s.length ∧ (reOf p).Matches (s.take n) := by
  rw [regex_run_matchLen] at h
  exact ⟨matchLen_pos (reOf_not_nullable p) h, matchLen_take h⟩

theorem regex_run_isSome_iff {p : Pat} {s : List Char} :
    ((Matcher.regex p).run s).isSome = true ↔ ∃ u v, s = u ++ v ∧ (reOf p).Matches u := by
  rw [regex_run_matchLen]
  exact matchLen_isSome_iff

theorem regex_run_none {p : Pat} {s : List Char} :
    (Matcher.regex p).run s = none ↔ ∀ u v, s = u ++ v → ¬ (reOf p).Matches u := by
  rw [← Option.not_isSome_iff_eq_none, regex_run_isSome_iff]
  exact ⟨fun h u v hs hu => h ⟨u, v, hs, hu⟩, fun h ⟨u, v, hs, hu⟩ => h u v hs hu⟩

namespace Re

/-- Spelled out rather than defined as `NoHead numCont` (which it is) because it is a hypothesis of the C09
statements. -/
def NumEnd (post : List Char) : Prop :=
  ∀ c t, post = c :: t → isIdentCont c = false ∧ c ≠ '.'

theorem NumEnd.numCont {post : List Char} (h : NumEnd post) : NoHead numCont post := by
  intro c t e
  simp [Re.numCont, h c t e]

end Re

/-- What may follow a literal of pattern `p` for the literal to be read as a whole. -/
def LitEnd : Pat → List Char → Prop
  | .str, _ | .raw, _ | .time, _ => True
  | .sym, post => Re.NoHead isIdentCont post
  | _, post => Re.NumEnd post

theorem LitEnd.nil : ∀ p : Pat, LitEnd p []
  | .str | .raw | .time => trivial
  | .sym => Re.NoHead.nil _
  | .floatA | .floatB | .bin | .hex | .oct | .int => fun _ _ e => nomatch e

theorem LitEnd.noHead {p : Pat} {post : List Char} (h : LitEnd p post) : NoHead p.cont post := by
  cases p
  case str | raw | time => exact fun _ _ _ => rfl
  case sym => exact h
  all_goals exact NumEnd.numCont h

theorem Pat.run_append (p : Pat) {d : List Char} (h : (reOf p).Matches d) {post : List Char}
    (hp : LitEnd p post) : p.run (d ++ post) = some d.length :=
  (Pat.reads p).append h hp.noHead

namespace Re

theorem raw_uniquePrefix : UniquePrefix (reOf .raw) :=
  uniquePrefix_of (f := reRaw) (fun _ v h => Pat.run_append .raw h (post := v) trivial)

theorem time_uniquePrefix : UniquePrefix (reOf .time) :=
  uniquePrefix_of (f := reTime) (fun _ v h => Pat.run_append .time h (post := v) trivial)

theorem intPart_digits {u : List Char} (h : Matches intPart u) : u.all isDigit = true := by
  rcases h.grp_inv.alt_inv with h | h
  · obtain rfl := h.chr_inv; rfl
  · obtain ⟨u1, w, rfl, h1, h2⟩ := h.cat_inv
    obtain ⟨c, rfl, hc⟩ := h1.cls_inv
    have hc' : '1' ≤ c ∧ c ≤ '9' := by simpa [clsTest, CItem.test] using hc
    simp [isDigit, isChar_digit.star_word h2, hc'.2, Char.le_trans (by decide : '0' ≤ '1') hc'.1]

end Re

end Yae

#print axioms Yae.Pat.run_eq_matchLen
#print axioms Yae.regex_run
#print axioms Yae.Pat.run_eq_find
#print axioms Yae.Pat.run_eq_policy
#print axioms Yae.Re.str_uniquePrefix
