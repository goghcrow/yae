/-
  For C05: the checker `check` against the declarative relation `Typed`.  The hypotheses C05 is stated with are
  DEFINED here, between the lemmas that use them: `TyOK` / `TyOKList`, `specInfer` and `PolyOK`, `Yae.EnvOK` (the
  static condition on the environment; `Yae.Sound.EnvOK` of `Spec/WF` is the run-time one), `CandsOK`.
-/
import Yae.Proofs.TypedInd
import Yae.Proofs.TypingOpt
import Yae.Proofs.TyEq
import Yae.Proofs.CheckElab
namespace Yae

theorem wfFieldsShallow_iff : ∀ fs : FieldList,
    mkObj.wfFieldsShallow fs = true ↔ fs.names.Nodup
  | .nil => by simp [mkObj.wfFieldsShallow, FieldList.names]
  | .cons n t fs => by
    simp only [mkObj.wfFieldsShallow, FieldList.names, Bool.and_eq_true, List.nodup_cons,
      wfFieldsShallow_iff fs, FieldList.find?_isNone_iff]

/-! ### the types expressions can have: variable free, well formed, no function type inside -/

mutual
def noFn : Ty → Bool
  | .fn _ _ _ => false
  | .tuple ts => noFnList ts
  | .list el => noFn el
  | .map k v => noFn k && noFn v
  | .obj fs => noFnFields fs
  | .maybe el => noFn el
  | _ => true
def noFnList : TyList → Bool
  | .nil => true
  | .cons t ts => noFn t && noFnList ts
def noFnFields : FieldList → Bool
  | .nil => true
  | .cons _ t fs => noFn t && noFnFields fs
end

def TyOK (T : Ty) : Bool := slotFree T && T.wf && noFn T
def TyOKList (Ts : TyList) : Bool := slotFreeList Ts && wfList Ts && noFnList Ts

theorem TyOK_iff {T : Ty} : TyOK T = true ↔ slotFree T = true ∧ T.wf = true ∧ noFn T = true := by
  simp [TyOK, and_assoc]

theorem TyOKList_iff {Ts : TyList} :
    TyOKList Ts = true ↔ slotFreeList Ts = true ∧ wfList Ts = true ∧ noFnList Ts = true := by
  simp [TyOKList, and_assoc]

theorem TyOKList_cons {T : Ty} {Ts : TyList} :
    TyOKList (.cons T Ts) = true ↔ TyOK T = true ∧ TyOKList Ts = true := by
  simp only [TyOKList, TyOK, slotFreeList, wfList, noFnList, Bool.and_eq_true]
  constructor <;> (intro h; simp only [h, and_self])

theorem TyOK_map {K V : Ty} :
    TyOK (.map K V) = true ↔ K.keyable = true ∧ TyOK K = true ∧ TyOK V = true := by
  simp only [TyOK, slotFree, Ty.wf, noFn, Bool.and_eq_true]
  constructor <;> (intro h; simp only [h, and_self])

theorem noFnFields_find : ∀ (fs : FieldList) (n : String) (t : Ty),
    noFnFields fs = true → fs.find? n = some t → noFn t = true
  | .nil, _, _, _, h => by simp [FieldList.find?] at h
  | .cons m u fs, n, t, hs, h => by
    simp only [noFnFields, Bool.and_eq_true] at hs
    simp only [FieldList.find?] at h
    split at h
    · cases h; exact hs.1
    · exact noFnFields_find fs n t hs.2 h

theorem TyOK_find {gs : FieldList} {n : String} {g : Ty} (h : TyOK (.obj gs) = true)
    (hf : gs.find? n = some g) : TyOK g = true :=
  have ⟨hs, hw, hn⟩ := TyOK_iff.1 h
  TyOK_iff.2 ⟨slotFreeFields_find gs n g hs hf, wfFields_find gs n g hw hf,
    noFnFields_find gs n g hn hf⟩

/-- what the specification says one overload attempt returns -/
def specInfer (ps : TyList) (ret : Ty) (As : TyList) : UM (TyList × Ty) :=
  match instantiate ps ret As with
  | some r => .ok r
  | none => .error .fail

/-- On argument types expressions can have, `inferFun` (for every value of the type-variable counter) either
runs out of fuel or returns what `instantiate` says, and the result is again a type expressions can have. -/
def PolyOK (name : String) (ps : TyList) (ret : Ty) : Prop :=
  ∀ As, TyOKList As = true →
    (∀ ctr, inferFun ctr name ps ret As = .error .fuel ∨
            inferFun ctr name ps ret As = specInfer ps ret As) ∧
    (∀ ps' T, instantiate ps ret As = some (ps', T) → TyOK T = true)

/-- The `PolyOK` of a polymorphic entry is a consequence of `PolyOK.sigOK` (`TypingPolyOK`). -/
structure EnvOK (Γ : TEnv) : Prop where
  vars : ∀ x T, Γ.lookupVar x = some T → TyOK T = true
  funs : ∀ d ∈ Γ.funs, ∃ name ps ret, d.ty = .fn name ps ret ∧
    (slotFree d.ty = true → TyOK ret = true) ∧
    (slotFree d.ty = false → PolyOK name ps ret)

theorem elab_erase {Γ : TEnv} {j : CheckJudgement} (h : Elab Γ j) :
    match j with
    | .expr e _ e' => erase e' = erase e
    | .elems _ es es' | .args es _ es' => eraseList es' = eraseList es
    | .pairs _ _ ps ps' => erasePairs ps' = erasePairs ps
    | .fields fs _ fs' => eraseFields fs' = eraseFields fs := by
  induction h with
  | str | num | time | bool | listNil | mapNil | ident
  | elemsNil | pairsNil | fieldsNil | argsNil => rfl
  | listCons _ _ ih ihs => simp only [erase, eraseList, ih, ihs]
  | mapCons _ _ _ _ ihk ihv ihps => simp only [erase, erasePairs, ihk, ihv, ihps]
  | obj _ _ ih => simp only [erase, ih]
  | callStatic _ _ _ iha => simp only [erase, iha]
  | callDyn _ _ _ _ iha ihc => simp only [erase, iha, ihc]
  | subList _ _ _ ihv ihi | subMap _ _ _ ihv ihi => simp only [erase, ihv, ihi]
  | member _ _ _ ih => simp only [erase, ih]
  | elemsCons _ _ _ ih ihs | argsCons _ _ ih ihs => simp only [eraseList, ih, ihs]
  | pairsCons _ _ _ _ _ ihk ihv ihps => simp only [erasePairs, ihk, ihv, ihps]
  | fieldsCons _ _ ih ihs => simp only [eraseFields, ih, ihs]

theorem check_erase (Γ : TEnv) : ∀ (e : Expr) (c : Nat) (T : Ty) (e' : Expr) (c' : Nat),
    check Γ c e = .ok (T, e', c') → erase e' = erase e :=
  fun e _ _ _ _ h => elab_erase (check_elab e h)
theorem checkElems_erase (Γ : TEnv) : ∀ (es : ExprList) (c : Nat) (T : Ty) (es' : ExprList)
    (c' : Nat), checkElems Γ c T es = .ok (es', c') → eraseList es' = eraseList es :=
  fun es _ _ _ _ h => elab_erase (checkElems_elab es h)
theorem checkPairs_erase (Γ : TEnv) : ∀ (ps : PairList) (c : Nat) (K V : Ty) (ps' : PairList)
    (c' : Nat), checkPairs Γ c K V ps = .ok (ps', c') → erasePairs ps' = erasePairs ps :=
  fun ps _ _ _ _ _ h => elab_erase (checkPairs_elab ps h)
theorem checkFields_erase (Γ : TEnv) : ∀ (fs : FieldEList) (c : Nat) (tys : FieldList)
    (fs' : FieldEList) (c' : Nat), checkFields Γ c fs = .ok (tys, fs', c') →
      eraseFields fs' = eraseFields fs :=
  fun fs _ _ _ _ h => elab_erase (checkFields_elab fs h)
theorem checkArgs_erase (Γ : TEnv) : ∀ (es : ExprList) (c : Nat) (tys : TyList)
    (es' : ExprList) (c' : Nat), checkArgs Γ c es = .ok (tys, es', c') →
      eraseList es' = eraseList es :=
  fun es _ _ _ _ h => elab_erase (checkArgs_elab es h)

theorem FirstInst.det {cands : List FunDecl} {As p1 T1 p2 T2} (h1 : FirstInst cands As p1 T1)
    (h2 : FirstInst cands As p2 T2) : p1 = p2 ∧ T1 = T2 := by
  induction h1 with
  | here hd hi =>
    cases h2 with
    | here hd' hi' => rw [hd] at hd'; cases hd'; rw [hi] at hi'; cases hi'; exact ⟨rfl, rfl⟩
    | later hd' hi' _ => rw [hd] at hd'; cases hd'; rw [hi] at hi'; cases hi'
  | later hd hi _ ih =>
    cases h2 with
    | here hd' hi' => rw [hd] at hd'; cases hd'; rw [hi] at hi'; cases hi'
    | later _ _ h' => exact ih h'

theorem liftU_ok {α} (a : α) : liftU (.ok a : UM α) = .ok (some a) := rfl
theorem liftU_fail {α} : liftU (.error .fail : UM α) = .ok none := rfl

def CandsOK (cands : List FunDecl) : Prop :=
  ∀ d ∈ cands, ∃ name ps ret, d.ty = .fn name ps ret ∧ PolyOK name ps ret

theorem CandsOK.inst_eq {d : FunDecl} {rest name ps ret As c x} (hc : CandsOK (d :: rest))
    (hd : d.ty = .fn name ps ret) (hAs : TyOKList As = true) (hi : liftU (inferFun c name ps ret As) = x) :
    x = .error .fuel ∨ x = .ok (instantiate ps ret As) := by
  obtain ⟨_, _, _, hd', hp⟩ := hc _ (List.mem_cons_self ..)
  cases hd.symm.trans hd'
  subst hi
  exact ((hp As hAs).1 c).imp (fun h => by rw [h]; rfl) fun h => by
    rw [h]; unfold specInfer; cases instantiate ps ret As <;> rfl

theorem Tried.firstInst {As : TyList} (hAs : TyOKList As = true) {cands : List FunDecl} {i : Nat}
    {t : Except CheckErr (Option (Nat × TyList × Ty × String))} (h : Tried As cands i t) (hc : CandsOK cands) :
    match t with
    | .ok (some (_, ps', T, _)) => FirstInst cands As ps' T
    | .ok none => ∀ ps' T, ¬ FirstInst cands As ps' T
    | .error e => e = .fuel := by
  induction h with
  | nil => exact fun _ _ h => nomatch h
  | notFn hnf =>
    obtain ⟨_, _, _, hd', _⟩ := hc _ (List.mem_cons_self ..)
    exact (hnf _ _ _ hd').elim
  | here hd hi =>
    rcases hc.inst_eq hd hAs hi with h | h
    · cases h
    · exact .here hd (Except.ok.inj h).symm
  | err hd hi =>
    rcases hc.inst_eq hd hAs hi with h | h
    · exact Except.error.inj h
    · cases h
  | later hd hi _ ih =>
    have hn := (hc.inst_eq hd hAs hi).resolve_left nofun
    have hn := (Except.ok.inj hn).symm
    have ih := ih fun d' hd' => hc d' (List.mem_cons_of_mem _ hd')
    split
    · exact .later hd hn ih
    · intro ps' T hfi
      cases hfi with
      | here hd' hi' => rw [hd] at hd'; cases hd'; rw [hn] at hi'; cases hi'
      | later _ _ h' => exact ih _ _ h'
    · exact ih

theorem firstInst_tyOK {As : TyList} (hAs : TyOKList As = true) {cands : List FunDecl} {ps' T}
    (hc : CandsOK cands) (h : FirstInst cands As ps' T) : TyOK T = true := by
  obtain ⟨d, hm, _, _, _, hd, hi⟩ := h.selected
  obtain ⟨_, _, _, hd', hp⟩ := hc d hm
  cases hd.symm.trans hd'
  exact (hp _ hAs).2 _ _ hi

theorem candsOK_of_env {Γ : TEnv} (hΓ : EnvOK Γ) (k : String) : CandsOK (lookupPoly Γ.funs k) := by
  intro d hd
  obtain ⟨hm, hk⟩ := lookupPoly_mem hd
  obtain ⟨name, ps, ret, hty, _, h2⟩ := hΓ.funs d hm
  exact ⟨name, ps, ret, hty, h2 (key_slotFree hty hk)⟩

def TypedKind.TypesOK : TypedKind → Prop
  | .expr _ T => TyOK T = true
  | .elems .. | .pairs .. => True
  | .fields _ Fs =>
      slotFreeFields Fs = true ∧ noFnFields Fs = true ∧ (Fs.names.Nodup → wfFields Fs = true)
  | .args _ Ts => TyOKList Ts = true

theorem TypedKind.Holds.typesOK {Γ : TEnv} (hΓ : EnvOK Γ) {K : TypedKind} (h : K.Holds Γ) : K.TypesOK := by
  induction h using TypedKind.Holds.induct with simp only [TypedKind.TypesOK] at *
  | str | num | time | bool | listNil | mapNil | anil => decide
  -- `TyOK (.list T)` unfolds to `TyOK T`
  | listCons _ _ ih | subList _ _ _ ih => exact ih
  | mapCons _ hp _ _ ihk ihv => exact TyOK_map.2 ⟨by simp [Ty.keyable, hp], ihk, ihv⟩
  | obj _ hn ih =>
    simp only [TyOK_iff, slotFree, Ty.wf, noFn]
    exact ⟨ih.1, ih.2.2 hn, ih.2.1⟩
  | ident _ h2 => exact hΓ.vars _ _ h2
  | subMap _ _ _ ih => exact (TyOK_map.1 ih).2.2
  | member _ h2 ih => exact TyOK_find ih h2
  | callMono _ h2 h3 =>
    obtain ⟨hm, hk⟩ := lookupMono_mem h2
    obtain ⟨name, ps, ret, hty, g1, _⟩ := hΓ.funs _ hm
    have := g1 (key_slotFree hty hk)
    rw [h3] at hty; cases hty; exact this
  | callPoly _ _ h3 _ ih => exact firstInst_tyOK ih (candsOK_of_env hΓ _) h3
  | callFn _ _ _ _ _ _ ih =>
    have := TyOK_iff.1 ih
    simp [noFn] at this
  | fnil => simp [slotFreeFields, noFnFields, wfFields]
  | fcons _ _ a b =>
    have a := TyOK_iff.1 a
    refine ⟨by simp [slotFreeFields, a.1, b.1], by simp [noFnFields, a.2.2, b.2.1], ?_⟩
    intro hn
    simp only [FieldList.names, List.nodup_cons] at hn
    simp only [wfFields, Bool.and_eq_true]
    exact ⟨⟨FieldList.find?_isNone_iff.2 hn.1, a.2.1⟩, b.2.2 hn.2⟩
  | acons _ _ ih ihs => exact TyOKList_cons.2 ⟨ih, ihs⟩

theorem typed_tyOK {Γ : TEnv} (hΓ : EnvOK Γ) : ∀ (e : Expr) (T : Ty), Typed Γ e T → TyOK T = true :=
  fun _ _ h => TypedKind.Holds.typesOK hΓ (K := .expr _ _) h
theorem typed_not_fn {Γ : TEnv} (hΓ : EnvOK Γ) {e : Expr} {name : String} {ps : TyList} {ret : Ty}
    (h : Typed Γ e (.fn name ps ret)) : False := by
  have := typed_tyOK hΓ _ _ h
  simp [TyOK, noFn] at this
theorem typedFields_tyOK {Γ : TEnv} (hΓ : EnvOK Γ) : ∀ (fs : FieldEList) (Fs : FieldList),
    TypedFields Γ fs Fs →
      slotFreeFields Fs = true ∧ noFnFields Fs = true ∧ (Fs.names.Nodup → wfFields Fs = true) :=
  fun _ _ h => TypedKind.Holds.typesOK hΓ (K := .fields _ _) h
theorem typedArgs_tyOK {Γ : TEnv} (hΓ : EnvOK Γ) : ∀ (es : ExprList) (Ts : TyList),
    TypedArgs Γ es Ts → TyOKList Ts = true :=
  fun _ _ h => TypedKind.Holds.typesOK hΓ (K := .args _ _) h

theorem tyEqList_length : ∀ (xs ys : TyList), tyEqList xs ys = true → xs.length = ys.length
  | .nil, .nil, _ => rfl
  | .nil, .cons _ _, h => by simp [tyEqList] at h
  | .cons _ _, .nil, h => by simp [tyEqList] at h
  | .cons _ xs, .cons _ ys, h => by
    simp only [tyEqList, Bool.and_eq_true] at h
    simp [TyList.length, tyEqList_length xs ys h.2]

/-- The signature the declarative rules choose for `f(As)`: the entry under the monomorphic key (`callMono`) or,
with none there, the first polymorphic candidate that can be instantiated (`callPoly`). -/
def Chosen (Γ : TEnv) (f : String) (As ps : TyList) (T : Ty) : Prop :=
  (∃ d name, lookupMono Γ.funs (monoKey f As) = some d ∧ d.ty = .fn name ps T) ∨
    (lookupMono Γ.funs (monoKey f As) = none ∧
      FirstInst (lookupPoly Γ.funs (polyKey f As.length)) As ps T)

/-- the look-up of the monomorphic key decides between the two alternatives -/
theorem Chosen.det {Γ f As p1 T1 p2 T2} (h1 : Chosen Γ f As p1 T1) (h2 : Chosen Γ f As p2 T2) :
    p1 = p2 ∧ T1 = T2 := by
  rcases h1 with ⟨_, _, hm, hty⟩ | ⟨hm, hfi⟩ <;> rcases h2 with ⟨_, _, hm', hty'⟩ | ⟨hm', hfi'⟩
  · cases hm.symm.trans hm'; cases hty.symm.trans hty'; exact ⟨rfl, rfl⟩
  · cases hm.symm.trans hm'
  · cases hm.symm.trans hm'
  · exact hfi.det hfi'

/-- The two rules for a call of an identifier, read as one (`callFn` is for other callees). -/
theorem typed_static_iff {Γ : TEnv} {p col cp f args cty res idx T} :
    Typed Γ (.call p col (.ident cp f) args cty res idx) T ↔
      ∃ As ps, TypedArgs Γ args As ∧ Chosen Γ f As ps T ∧ tyEqList ps As = true := by
  constructor
  · intro h
    cases h with
    | callMono ha hm hty _ hte => exact ⟨_, _, ha, .inl ⟨_, _, hm, hty⟩, hte⟩
    | callPoly ha hm hfi hte => exact ⟨_, _, ha, .inr ⟨hm, hfi⟩, hte⟩
    | callFn hni => cases hni
  · rintro ⟨_, _, ha, ⟨_, _, hm, hty⟩ | ⟨hm, hfi⟩, hte⟩
    · exact .callMono ha hm hty (tyEqList_length _ _ hte) hte
    · exact .callPoly ha hm hfi hte

theorem Resolves.chosen {Γ : TEnv} (hΓ : EnvOK Γ) {f As r} (hAs : TyOKList As = true)
    (h : Resolves Γ f As (.ok r)) : Chosen Γ f As r.params r.ret := by
  cases h with
  | mono hm hty => exact .inl ⟨_, _, hm, hty⟩
  | poly hm ht => exact .inr ⟨hm, ht.firstInst hAs (candsOK_of_env hΓ _)⟩

theorem resolve_runs {Γ : TEnv} (hΓ : EnvOK Γ) {f As ps T} (hAs : TyOKList As = true) (c : Nat)
    (h : Chosen Γ f As ps T) :
    Except.Sat (· = .fuel) (fun r => r.1.params = ps ∧ r.1.ret = T) (resolveOverloadedFun Γ c f As) := by
  have hc := candsOK_of_env hΓ (polyKey f As.length)
  refine (resolve_sat Γ c f As).mono (fun e he => ?_) fun _ hr => (hr.chosen hΓ hAs).det h
  cases he with
  | monoNotFn hm hnf =>
    obtain ⟨_, _, _, hty, _⟩ := hΓ.funs _ (lookupMono_mem hm).1
    exact (hnf _ _ _ hty).elim
  | none hm ht =>
    rcases h with ⟨_, _, hm', _⟩ | ⟨_, hfi⟩
    · cases hm.symm.trans hm'
    · exact absurd hfi (ht.firstInst hAs hc _ _)
  | err _ ht => exact ht.firstInst hAs hc

theorem elab_sound {Γ : TEnv} (hΓ : EnvOK Γ) {j : CheckJudgement} (h : Elab Γ j) :
    match j with
    | .expr e T _ => Typed Γ e T
    | .elems T es _ => TypedElems Γ es T
    | .pairs K V ps _ => TypedPairs Γ ps K V
    | .fields fs Fs _ => TypedFields Γ fs Fs
    | .args es Ts _ => TypedArgs Γ es Ts := by
  induction h with
  | str | num | time | bool | listNil | mapNil => constructor
  | listCons _ _ ih ihs => exact .listCons ih ihs
  | mapCons _ hp _ _ ihk ihv ihps => exact .mapCons ihk hp ihv ihps
  | obj _ hs ih => exact .obj ih ((wfFieldsShallow_iff _).1 hs)
  | ident hr hl => exact .ident hr hl
  | callStatic _ h hte iha =>
    exact typed_static_iff.2 ⟨_, _, iha, h.chosen hΓ (typedArgs_tyOK hΓ _ _ iha), hte⟩
  | callDyn _ _ _ _ _ ihc => exact (typed_not_fn hΓ ihc).elim
  | subList _ _ hte ihv ihi => exact .subList ihv ihi hte
  | subMap _ _ hte ihv ihi => exact .subMap ihv ihi hte
  | member _ hf _ ih => exact .member ih hf
  | elemsNil | pairsNil | fieldsNil | argsNil => exact .nil
  | elemsCons _ hte _ ih ihs => exact .cons ih hte ihs
  | pairsCons _ hk _ hv _ ihk ihv ihps => exact .cons ihk hk ihv hv ihps
  | fieldsCons _ _ ih ihs | argsCons _ _ ih ihs => exact .cons ih ihs

theorem check_sound {Γ : TEnv} (hΓ : EnvOK Γ) : ∀ (e : Expr) (c : Nat) (T : Ty) (e' : Expr)
    (c' : Nat), check Γ c e = .ok (T, e', c') → Typed Γ e T :=
  fun e _ _ _ _ h => elab_sound hΓ (check_elab e h)
theorem checkElems_sound {Γ : TEnv} (hΓ : EnvOK Γ) : ∀ (es : ExprList) (c : Nat) (T : Ty)
    (es' : ExprList) (c' : Nat), checkElems Γ c T es = .ok (es', c') → TypedElems Γ es T :=
  fun es _ _ _ _ h => elab_sound hΓ (checkElems_elab es h)
theorem checkPairs_sound {Γ : TEnv} (hΓ : EnvOK Γ) : ∀ (ps : PairList) (c : Nat) (K V : Ty)
    (ps' : PairList) (c' : Nat), checkPairs Γ c K V ps = .ok (ps', c') → TypedPairs Γ ps K V :=
  fun ps _ _ _ _ _ h => elab_sound hΓ (checkPairs_elab ps h)
theorem checkFields_sound {Γ : TEnv} (hΓ : EnvOK Γ) : ∀ (fs : FieldEList) (c : Nat)
    (tys : FieldList) (fs' : FieldEList) (c' : Nat),
    checkFields Γ c fs = .ok (tys, fs', c') → TypedFields Γ fs tys :=
  fun fs _ _ _ _ h => elab_sound hΓ (checkFields_elab fs h)
theorem checkArgs_sound {Γ : TEnv} (hΓ : EnvOK Γ) : ∀ (es : ExprList) (c : Nat) (tys : TyList)
    (es' : ExprList) (c' : Nat), checkArgs Γ c es = .ok (tys, es', c') → TypedArgs Γ es tys :=
  fun es _ _ _ _ h => elab_sound hΓ (checkArgs_elab es h)

/-- a step of the checker whose type component is known; tree and counter are whatever they are -/
theorem Except.Sat.bind_fst {ε α β γ : Type} {E : ε → Prop} {Q : β → Prop} {a : Except ε (α × γ)}
    {f : α × γ → Except ε β} {t : α} (ha : Sat E (·.1 = t) a) (hf : ∀ y, Sat E Q (f (t, y))) :
    Sat E Q (a >>= f) :=
  ha.bind fun (_, y) h => by cases h; exact hf y

def TypedKind.Runs (Γ : TEnv) : TypedKind → Prop
  | .expr e T => ∀ c, Except.Sat (· = .fuel) (·.1 = T) (check Γ c e)
  | .elems es T => ∀ c, Except.Sat (· = .fuel) (fun _ => True) (checkElems Γ c T es)
  | .pairs ps K V => ∀ c, Except.Sat (· = .fuel) (fun _ => True) (checkPairs Γ c K V ps)
  | .fields fs Fs => ∀ c, Except.Sat (· = .fuel) (·.1 = Fs) (checkFields Γ c fs)
  | .args es Ts => ∀ c, Except.Sat (· = .fuel) (·.1 = Ts) (checkArgs Γ c es)

theorem static_runs {Γ : TEnv} (hΓ : EnvOK Γ) {p col cp f args cty res idx As ps T} (ha : TypedArgs Γ args As)
    (iha : ∀ c, Except.Sat (· = .fuel) (·.1 = As) (checkArgs Γ c args)) (h : Chosen Γ f As ps T)
    (hte : tyEqList ps As = true) (c : Nat) :
    Except.Sat (· = .fuel) (·.1 = T) (check Γ c (.call p col (.ident cp f) args cty res idx)) := by
  simp only [check]
  refine (iha c).bind_fst fun (_, c1) => ?_
  refine (resolve_runs hΓ (typedArgs_tyOK hΓ _ _ ha) c1 h).bind fun (⟨_, _, _, _, _⟩, _) ⟨hp, hr⟩ => ?_
  cases hp; cases hr
  have hlen := tyEqList_length _ _ hte
  exact .guard (by simp [hlen]) fun _ => .bind_ok ((assertParams_ok _ _ hlen).2 hte) (.pure rfl)

theorem TypedKind.Holds.runs {Γ : TEnv} (hΓ : EnvOK Γ) {K : TypedKind} (h : K.Holds Γ) : K.Runs Γ := by
  induction h using TypedKind.Holds.induct with simp only [TypedKind.Runs] at *
  | str | num | time | bool | listNil | mapNil | fnil | anil => exact fun _ => .pure rfl
  | enil | pnil => exact fun _ => .pure trivial
  | listCons _ _ ih ihs =>
    intro c
    simp only [check]
    exact (ih c).bind_fst fun _ => (ihs _).bind fun _ _ => .pure rfl
  | mapCons _ hp _ _ ihk ihv ihps =>
    intro c
    simp only [check]
    exact (ihk c).bind_fst fun _ => .guard (by simp [hp]) fun _ =>
      (ihv _).bind_fst fun _ => (ihps _).bind fun _ _ => .pure rfl
  | obj _ hn ih =>
    intro c
    simp only [check]
    exact (ih c).bind_fst fun _ =>
      .bind_ok (mkObj_ok.2 ⟨(wfFieldsShallow_iff _).2 hn, rfl⟩) (.pure rfl)
  | ident hr hl =>
    intro c
    simp only [check, hl]
    exact .guard (by rw [hr]; nofun) fun _ => .pure rfl
  | callMono ha hm hty _ hte ih =>
    exact static_runs hΓ ha ih (.inl ⟨_, _, hm, hty⟩) hte
  | callPoly ha hm hfi hte ih =>
    exact static_runs hΓ ha ih (.inr ⟨hm, hfi⟩) hte
  | callFn _ _ hc => exact (typed_not_fn hΓ hc).elim
  | subList _ _ h3 ihv ihi | subMap _ _ h3 ihv ihi =>
    intro c
    simp only [check]
    exact (ihv c).bind_fst fun _ => (ihi _).bind_fst fun _ =>
      .bind_ok (typeAssert_ok.2 h3) (.pure rfl)
  | member _ h2 ih =>
    obtain ⟨i, hi, -⟩ := Sound.FieldList.find?_indexOf? _ _ _ h2
    intro c
    simp only [check]
    refine (ih c).bind_fst fun _ => ?_
    simp only [h2, hi]
    exact .pure rfl
  | econs _ h2 _ ih ihs =>
    intro c
    simp only [checkElems]
    exact (ih c).bind_fst fun _ => .bind_ok (typeAssert_ok.2 h2) <|
      (ihs _).bind fun _ _ => .pure trivial
  | pcons _ h2 _ h4 _ ihk ihv ihps =>
    intro c
    simp only [checkPairs]
    exact (ihk c).bind_fst fun _ => .bind_ok (typeAssert_ok.2 h2) <|
      (ihv _).bind_fst fun _ => .bind_ok (typeAssert_ok.2 h4) <|
      (ihps _).bind fun _ _ => .pure trivial
  | fcons _ _ ih ihs =>
    intro c
    simp only [checkFields]
    exact (ih c).bind_fst fun _ => (ihs _).bind_fst fun _ => .pure rfl
  | acons _ _ ih ihs =>
    intro c
    simp only [checkArgs]
    exact (ih c).bind_fst fun _ => (ihs _).bind_fst fun _ => .pure rfl

theorem check_runs {Γ : TEnv} (hΓ : EnvOK Γ) : ∀ (e : Expr) (T : Ty), Typed Γ e T →
    ∀ c, Except.Sat (· = .fuel) (·.1 = T) (check Γ c e) :=
  fun _ _ h => TypedKind.Holds.runs hΓ (K := .expr _ _) h

theorem check_complete {Γ : TEnv} (hΓ : EnvOK Γ) : ∀ (e : Expr) (T : Ty), Typed Γ e T →
    ∀ c, check Γ c e = .error .fuel ∨ ∃ e' c', check Γ c e = .ok (T, e', c') :=
  fun e _ h c => (check_runs hΓ e _ h c).error_or_ok.imp id fun ⟨(_, e', c'), hx, hT⟩ =>
    ⟨e', c', hT ▸ hx⟩
theorem checkElems_complete {Γ : TEnv} (hΓ : EnvOK Γ) : ∀ (es : ExprList) (T : Ty),
    TypedElems Γ es T → ∀ c, checkElems Γ c T es = .error .fuel ∨
      ∃ es' c', checkElems Γ c T es = .ok (es', c') :=
  fun _ _ h c => (TypedKind.Holds.runs hΓ (K := .elems _ _) h c).error_or_ok.imp id
    fun ⟨(es', c'), hx, _⟩ => ⟨es', c', hx⟩
theorem checkPairs_complete {Γ : TEnv} (hΓ : EnvOK Γ) : ∀ (ps : PairList) (K V : Ty),
    TypedPairs Γ ps K V → ∀ c, checkPairs Γ c K V ps = .error .fuel ∨
      ∃ ps' c', checkPairs Γ c K V ps = .ok (ps', c') :=
  fun _ _ _ h c => (TypedKind.Holds.runs hΓ (K := .pairs _ _ _) h c).error_or_ok.imp id
    fun ⟨(ps', c'), hx, _⟩ => ⟨ps', c', hx⟩
theorem checkFields_complete {Γ : TEnv} (hΓ : EnvOK Γ) : ∀ (fs : FieldEList) (Fs : FieldList),
    TypedFields Γ fs Fs → ∀ c, checkFields Γ c fs = .error .fuel ∨
      ∃ fs' c', checkFields Γ c fs = .ok (Fs, fs', c') :=
  fun _ _ h c => (TypedKind.Holds.runs hΓ (K := .fields _ _) h c).error_or_ok.imp id
    fun ⟨(_, fs', c'), hx, hF⟩ => ⟨fs', c', hF ▸ hx⟩
theorem checkArgs_complete {Γ : TEnv} (hΓ : EnvOK Γ) : ∀ (es : ExprList) (Ts : TyList),
    TypedArgs Γ es Ts → ∀ c, checkArgs Γ c es = .error .fuel ∨
      ∃ es' c', checkArgs Γ c es = .ok (Ts, es', c') :=
  fun _ _ h c => (TypedKind.Holds.runs hΓ (K := .args _ _) h c).error_or_ok.imp id
    fun ⟨(_, es', c'), hx, hA⟩ => ⟨es', c', hA ▸ hx⟩

theorem check_accepts_iff {Γ : TEnv} {e : Expr} (hΓ : EnvOK Γ) (c : Nat)
    (hfuel : check Γ c e ≠ .error .fuel) :
    (∃ T e' c', check Γ c e = .ok (T, e', c')) ↔ ∃ T, Typed Γ e T :=
  ⟨fun ⟨T, e', c', h⟩ => ⟨T, check_sound hΓ e c T e' c' h⟩,
    fun ⟨T, h⟩ => ⟨T, (check_complete hΓ e T h c).resolve_left hfuel⟩⟩

def TypedKind.Unique (Γ : TEnv) : TypedKind → Prop
  | .expr e T1 => ∀ T2, Typed Γ e T2 → T1 = T2
  | .elems .. | .pairs .. => True
  | .fields fs F1 => ∀ F2, TypedFields Γ fs F2 → F1 = F2
  | .args es A1 => ∀ A2, TypedArgs Γ es A2 → A1 = A2

theorem TypedKind.Holds.unique {Γ : TEnv} {K : TypedKind} (h : K.Holds Γ) : K.Unique Γ := by
  induction h using TypedKind.Holds.induct with simp only [TypedKind.Unique] at *
  | str | num | time | bool | listNil | mapNil | fnil | anil => intro _ h2; cases h2; rfl
  | listCons _ _ ih =>
    intro _ h2
    cases h2 with | listCons b _ => rw [ih _ b]
  | mapCons _ _ _ _ ihk ihv =>
    intro _ h2
    cases h2 with | mapCons b _ b' _ => rw [ihk _ b, ihv _ b']
  | obj _ _ ih =>
    intro _ h2
    cases h2 with | obj b _ => rw [ih _ b]
  | ident _ a =>
    intro _ h2
    cases h2 with | ident _ b => rw [a] at b; cases b; rfl
  | subList _ _ _ ih | subMap _ _ _ ih =>
    -- the operand has one type: both derivations end in the same rule, with the same result
    intro _ h2
    cases h2 with | subList b _ _ | subMap b _ _ => cases ih _ b <;> rfl
  | member _ a' ih =>
    intro _ h2
    cases h2 with | member b b' =>
      cases ih _ b
      rw [a'] at b'; cases b'; rfl
  | callMono _ am aty _ _ ih =>
    intro _ h2
    obtain ⟨_, _, b, hch, _⟩ := typed_static_iff.1 h2
    cases ih _ b
    exact (Chosen.det (.inl ⟨_, _, am, aty⟩) hch).2
  | callPoly _ am afi _ ih =>
    intro _ h2
    obtain ⟨_, _, b, hch, _⟩ := typed_static_iff.1 h2
    cases ih _ b
    exact (Chosen.det (.inr ⟨am, afi⟩) hch).2
  | callFn hni _ _ ai _ ih ihc =>
    intro _ h2
    cases h2 with
    | callMono | callPoly => simp [Expr.isIdent] at hni
    | callFn _ b bc bi _ =>
      cases ih _ b
      cases ihc _ bc
      rw [ai] at bi; cases bi; rfl
  | fcons _ _ ih ihs | acons _ _ ih ihs =>
    intro _ h2
    cases h2 with | cons b b' => rw [ih _ b, ihs _ b']

theorem typed_unique {Γ : TEnv} : ∀ (e : Expr) (T1 T2 : Ty), Typed Γ e T1 → Typed Γ e T2 → T1 = T2 :=
  fun _ _ _ h => TypedKind.Holds.unique (K := .expr _ _) h _
theorem typedFields_unique {Γ : TEnv} : ∀ (fs : FieldEList) (F1 F2 : FieldList),
    TypedFields Γ fs F1 → TypedFields Γ fs F2 → F1 = F2 :=
  fun _ _ _ h => TypedKind.Holds.unique (K := .fields _ _) h _
theorem typedArgs_unique {Γ : TEnv} : ∀ (es : ExprList) (A1 A2 : TyList),
    TypedArgs Γ es A1 → TypedArgs Γ es A2 → A1 = A2 :=
  fun _ _ _ h => TypedKind.Holds.unique (K := .args _ _) h _

end Yae
