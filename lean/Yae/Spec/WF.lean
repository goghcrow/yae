/-
  Definitions for C01 (type soundness of evaluation) and C02 (progress / failure discipline).

  * `WF v`        deep well-formedness of a run-time value (Bool): every composite carries a
                  well-formed type of the right shape, its components are `WF` and their own type
                  is `tyEq` to the component type the container declares, object arity = number of
                  fields, map entries carry the key kind of the map, no `.nil` anywhere, function
                  values refer to something that respects their type (`declOK`).
  * `HasTy v T`   `WF v ∧ tyEq T v.typeOf`.
  * `declOK d`    a registered function is what its type says: a `.builtin i` reference has the
                  type and laziness of `builtins[i]`; a host function `hostRespects` its type.
  * `FunsOK`, `EnvOK`   the environment check.
  * `Ann Γ e T`   what `check` guarantees about the annotated tree it returns (`Annotated`).
  * `Allowed f`   the failures an accepted expression may stop with.
-/
import Yae.Model.Eval
import Yae.Spec.TyRel
namespace Yae.Sound

/-! ### syntactic equality of types (Bool) -/

mutual
def tyBeq : Ty → Ty → Bool
  | .top, .top => true
  | .bot, .bot => true
  | .var a, .var b => a == b
  | .num, .num => true
  | .str, .str => true
  | .bool, .bool => true
  | .time, .time => true
  | .tuple xs, .tuple ys => tyListBeq xs ys
  | .list a, .list b => tyBeq a b
  | .map k v, .map k' v' => tyBeq k k' && tyBeq v v'
  | .obj fs, .obj gs => fieldListBeq fs gs
  | .fn n ps r, .fn n' qs s => n == n' && tyListBeq ps qs && tyBeq r s
  | .maybe a, .maybe b => tyBeq a b
  | _, _ => false
def tyListBeq : TyList → TyList → Bool
  | .nil, .nil => true
  | .cons x xs, .cons y ys => tyBeq x y && tyListBeq xs ys
  | _, _ => false
def fieldListBeq : FieldList → FieldList → Bool
  | .nil, .nil => true
  | .cons n t fs, .cons m u gs => n == m && tyBeq t u && fieldListBeq fs gs
  | _, _ => false
end

/-! ### type-variable names of registered signatures

`inferFun` draws the fresh names `s<n>` and `t<n>`; a registered signature must not use names
that could collide with them (the built-ins use `a`, `k`, `v`). -/

def okVarName (n : String) : Bool :=
  match n.toList with
  | c :: _ => c != 's' && c != 't'
  | [] => true

mutual
def okVars : Ty → Bool
  | .var n => okVarName n
  | .tuple ts => okVarsList ts
  | .list el => okVars el
  | .map k v => okVars k && okVars v
  | .obj fs => okVarsFields fs
  | .fn _ ps r => okVarsList ps && okVars r
  | .maybe el => okVars el
  | _ => true
def okVarsList : TyList → Bool
  | .nil => true
  | .cons t ts => okVars t && okVarsList ts
def okVarsFields : FieldList → Bool
  | .nil => true
  | .cons _ t fs => okVars t && okVarsFields fs
end

/-! ### registered functions -/

/-- A host behaviour respects the signature `ty` it is registered under (a syntactic condition:
for every ground instance of the parameter types and well-formed arguments of those types the
behaviour returns a well-formed value of the instantiated return type, or fails on purpose). -/
def hostRespects (ty : Ty) (beh : HostBeh) (isLazy : Bool) : Bool :=
  match ty with
  | .fn _ ps ret =>
    match beh with
    | .retArg i => !isLazy && (match ps.get? i with
        | some p => tyBeq p ret
        | none => false)
    | .constNum _ => !isLazy && tyBeq ret .num
    | .constStr _ => !isLazy && tyBeq ret .str
    | .constBool _ => !isLazy && tyBeq ret .bool
    | .fail => !isLazy
    | .force order => isLazy && order.all (fun i => decide (i < ps.length)) &&
        (match order.getLast? with
         | some i => (match ps.get? i with
            | some p => tyBeq p ret
            | none => false)
         | none => false)
  | _ => false

/-- The signature is a well-formed function type without clashing variable names, and the
reference respects it. -/
def declOK (d : FunDecl) : Bool :=
  (match d.ty with
   | .fn _ ps ret => wfList ps && ret.wf && okVarsList ps && okVars ret
   | _ => false) &&
  (match d.ref with
   | .builtin i => (match builtins[i]? with
      | some b => tyBeq b.ty d.ty && (b.isLazy == d.isLazy)
      | none => false)
   | .host _ beh => hostRespects d.ty beh d.isLazy)

def FunsOK (funs : List FunDecl) : Prop := ∀ d ∈ funs, declOK d = true

/-! ### well-formed values -/

mutual
def WF : Val → Bool
  | .num _ => true
  | .str _ => true
  | .bool _ => true
  | .time _ => true
  | .list ty vs =>
    (match ty with
     | .list el => ty.wf && WFList el vs
     | _ => false)
  | .map ty es =>
    (match ty with
     | .map k v => ty.wf && WFEntries k v es
     | _ => false)
  | .obj ty vs =>
    (match ty with
     | .obj fs => ty.wf && WFObj fs vs
     | _ => false)
  | .fn ty ref isLazy => declOK ⟨ty, ref, isLazy⟩
  | .just el v => el.wf && WF v && tyEq el v.typeOf
  | .nothing el => el.wf
  | .nil => false
/-- every element is well formed and of (a type equal to) the element type -/
def WFList (el : Ty) : ValList → Bool
  | .nil => true
  | .cons v vs => WF v && tyEq el v.typeOf && WFList el vs
/-- every entry carries the key kind of the map and a well-formed value of the value type -/
def WFEntries (k v : Ty) : EntryList → Bool
  | .nil => true
  | .cons tag _ x es => (tag == k.kind) && WF x && tyEq v x.typeOf && WFEntries k v es
/-- positional: as many values as fields, the i-th value has the type of the i-th field -/
def WFObj : FieldList → ValList → Bool
  | .nil, .nil => true
  | .cons _ t fs, .cons v vs => WF v && tyEq t v.typeOf && WFObj fs vs
  | _, _ => false
end

/-- `v` is a well-formed value of type `T` (its own type is equal to `T`, fields by name). -/
def HasTy (v : Val) (T : Ty) : Prop := WF v = true ∧ tyEq T v.typeOf = true

instance (v : Val) (T : Ty) : Decidable (HasTy v T) := by unfold HasTy; infer_instance

def HasTyList : List Val → TyList → Prop
  | [], .nil => True
  | v :: vs, .cons t ts => HasTy v t ∧ HasTyList vs ts
  | _, _ => False

mutual
/-- no absent (Go `nil`) component anywhere inside the value -/
def noNil : Val → Bool
  | .nil => false
  | .list _ vs => noNilList vs
  | .map _ es => noNilEntries es
  | .obj _ vs => noNilList vs
  | .just _ v => noNil v
  | _ => true
def noNilList : ValList → Bool
  | .nil => true
  | .cons v vs => noNil v && noNilList vs
def noNilEntries : EntryList → Bool
  | .nil => true
  | .cons _ _ v es => noNil v && noNilEntries es
end

/-! ### environments -/

/-- The run-time environment passed the environment check against the typing environment. -/
structure EnvOK (Γ : TEnv) (ρ : REnv) : Prop where
  /-- every declared variable (first binding wins) is bound to a value of its type -/
  vars : ∀ x T, Γ.lookupVar x = some T → ∃ v, ρ.lookupVar x = some v ∧ HasTy v T
  /-- type table and value table are registered in lockstep -/
  funs : ρ.funs = Γ.funs
  /-- declared types are well formed and variable free -/
  tys : ∀ p ∈ Γ.vars, p.2.wf = true ∧ slotFree p.2 = true

/-! ### the annotated tree -/

/-- `T` is the instance of the signature `ps → ret` at argument types `As`. -/
def Inst (ps : TyList) (ret : Ty) (As : TyList) (T : Ty) : Prop :=
  ∃ σ : Subst, σ.Ground ∧ StructEqList (substGList σ ps) As ∧ T = substG σ ret ∧
    T.wf = true ∧ slotFree T = true

mutual
/-- `Ann Γ e T`: `e` is a tree as `check Γ` returns it, of type `T`. -/
inductive Ann (Γ : TEnv) : Expr → Ty → Prop
  | str {p v} : Ann Γ (.str p v) .str
  | num {p v} : Ann Γ (.num p v) .num
  | time {p v} : Ann Γ (.time p v) .time
  | bool {p v} : Ann Γ (.bool p v) .bool
  | listNil {p ty} : Ann Γ (.list p .nil ty) (.list .bot)
  | listCons {p e es el} : Ann Γ e el → AnnElems Γ es el →
      Ann Γ (.list p (.cons e es) (some (.list el))) (.list el)
  | mapNil {p ty} : Ann Γ (.map p .nil ty) (.map .bot .bot)
  | mapCons {p k v ps kT vT} : Ann Γ k kT → kT.isPrimitive = true → Ann Γ v vT →
      AnnPairs Γ ps kT vT →
      Ann Γ (.map p (.cons k v ps) (some (.map kT vT))) (.map kT vT)
  | obj {p fs tys} : AnnFields Γ fs tys → mkObj.wfFieldsShallow tys = true →
      Ann Γ (.obj p fs (some (.obj tys))) (.obj tys)
  | ident {p name T} : Γ.lookupVar name = some T → Ann Γ (.ident p name) T
  /-- statically dispatched call: the run-time lookup finds a registered function whose
  signature instantiates to the argument types, with result type `T` -/
  | callStatic {p col callee args cty resolved index As d n ps ret T} :
      AnnArgs Γ args As → (resolved == "") = false →
      resolveStatic Γ.funs resolved index = some d → d.ty = .fn n ps ret →
      Inst ps ret As T →
      Ann Γ (.call p col callee args cty resolved index) T
  /-- dynamically dispatched call: the callee is an expression of function type -/
  | callDyn {p col callee args cty index As n ps ret T} :
      Ann Γ callee (.fn n ps ret) → AnnArgs Γ args As → Inst ps ret As T →
      Ann Γ (.call p col callee args cty "" index) T
  | subList {p col var idx vty el iT} : Ann Γ var (.list el) → Ann Γ idx iT →
      tyEq iT .num = true → Ann Γ (.subscript p col var idx vty) el
  | subMap {p col var idx vty k v iT} : Ann Γ var (.map k v) → Ann Γ idx iT →
      tyEq iT k = true → Ann Γ (.subscript p col var idx vty) v
  | member {p col o field fp oty index fs T} : Ann Γ o (.obj fs) → fs.find? field = some T →
      Ann Γ (.member p col o field fp oty index) T
/-- list elements after the first: each has a type equal to the element type -/
inductive AnnElems (Γ : TEnv) : ExprList → Ty → Prop
  | nil {el} : AnnElems Γ .nil el
  | cons {e es el T} : Ann Γ e T → tyEq el T = true → AnnElems Γ es el →
      AnnElems Γ (.cons e es) el
inductive AnnPairs (Γ : TEnv) : PairList → Ty → Ty → Prop
  | nil {kT vT} : AnnPairs Γ .nil kT vT
  | cons {k v ps kT vT K V} : Ann Γ k K → tyEq kT K = true → Ann Γ v V → tyEq vT V = true →
      AnnPairs Γ ps kT vT → AnnPairs Γ (.cons k v ps) kT vT
inductive AnnFields (Γ : TEnv) : FieldEList → FieldList → Prop
  | nil : AnnFields Γ .nil .nil
  | cons {n e fs T tys} : Ann Γ e T → AnnFields Γ fs tys →
      AnnFields Γ (.cons n e fs) (.cons n T tys)
inductive AnnArgs (Γ : TEnv) : ExprList → TyList → Prop
  | nil : AnnArgs Γ .nil .nil
  | cons {e es T tys} : Ann Γ e T → AnnArgs Γ es tys → AnnArgs Γ (.cons e es) (.cons T tys)
end

/-! ### outcomes -/

/-- What an accepted expression may stop with: the four documented partial operations, a host
function that fails on purpose, and a miss of the harness' table of external functions
(`regexp.MatchString`, `strtotime`), which is a device of the model, not of the language. -/
def Allowed : Fail → Prop
  | .indexOutOfRange => True
  | .missingKey => True
  | .modZero => True
  | .badRegex => True
  | .hostFail _ => True
  | .stuck s => s = "extern-miss:regex" ∨ s = "extern-miss:strtotime"
  | .fuel => False

/-- The documented partial-operation failures. -/
def Documented : Fail → Prop
  | .indexOutOfRange => True
  | .missingKey => True
  | .modZero => True
  | .badRegex => True
  | _ => False

end Yae.Sound
