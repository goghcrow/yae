/-
  A formal semantics for the fragment of Go's `regexp` (RE2 syntax, Perl-style leftmost-first
  matching) used by `parser/lexer` and `parser/oper`, and the lexer's patterns as terms.

  * `Re` is the syntax tree; `Re.show` prints the Go pattern text (the ten patterns of
    `newLexicon`, `keywordPostfix` and `oper.idReg` are reproduced character for character: the
    `example`s at the end; `Re.wf` is a syntactic check, not a theorem, that the text needs
    no parentheses other than the `(?:…)` of `Re.grp`, i.e. parses back to the same tree).
  * `Re.Matches r u` is the DECLARATIVE semantics: the word `u` is in the language of `r`.
  * `Re.m` is the REFERENCE MATCHER: a backtracking matcher in continuation-passing style for
    a match anchored at the start of the input.  Alternation is ordered (the left alternative
    and everything that can follow it is tried before the right one), `*`, `+`, `?` are greedy
    (one more iteration is tried before leaving the loop) and every choice is undone on
    failure.  The first complete match found is THE leftmost-first match (`FindString` of
    `^(?:pattern)`; for loops whose body can match the empty word see below).
    `Re.matchLen` is its length in runes.

  Iterations that consume nothing.  When the body of `*` / `+` cannot match the empty word
  (`Re.starsProper`: true of nine of the lexer's ten patterns, of `keywordPostfix` and of
  `idReg`) every iteration consumes a rune, nothing has to be agreed on
  (`Yae.Re.mP_eq_m`: whatever is decided below, the matcher is the same
  function), and backtracking matchers (Perl, PCRE, this one) and automaton-based ones (RE2,
  Go) find the same match.
  When it can, engines differ and a convention is needed.  The one used here:
    - `x+` is `x` followed by the loop `L: try x and come back to L, otherwise leave`;
      `x*` is `(?:x+)?`  (as `regexp/syntax.(*compiler).star/plus` of Go >= 1.17);
    - an iteration entered from `L` that comes back to `L` without having consumed a rune is
      discarded;
    - if the FIRST `x` of `x+` consumes nothing, the loop is left at once.
  This reproduces Go on `(?:|a)*` (finds `""` in `aa`) and `(?:c||b)*` (finds `cb` in `cb`),
  see the `example`s at the end, but it is NOT Go's behaviour on every such expression: Go's
  engines explore every (instruction, position) pair at most once, which also prunes a path
  that re-enters the MIDDLE of an iteration it is still in; `^(?:(?:a|)(?:|b))*` finds `a` in
  `ab` with go1.23 and `ab` here.  (A comparison with go1.23, run by hand and not part of the
  build, over 10518 small expressions on `{a,b}` and all inputs up to length 4: no difference
  on the 214489 cases with `starsProper`, 268 differences, all of that kind, in 32 of the
  other expressions; and none on 30000 random inputs for each of the lexer's ten patterns.)
  Of the lexer's patterns only the string pattern has a loop body that can match the empty
  word (`[^"\\]*`); `Yae.Proofs.LexRegexStr` shows that at most one prefix of any input is in
  its language, so every matcher that finds a match whenever there is one in the language,
  and only such, returns the same answer: no convention enters.

  `Re.m` is total: structural in the expression; the loop of `*` / `+` takes the length of the
  remaining input plus one as fuel and every iteration from `L` must shorten the input
  (`Re.loop_fuel`: more fuel changes nothing; `Re.m_sound` / `Re.m_complete`: the matcher finds
  a match iff some prefix is in the language, so the fuel never runs out).

  Not modelled: `regexp/syntax`'s parser and simplifier, the three matching engines, UTF-8
  decoding (the input is a list of runes).  Core Lean only.
-/
import Yae.Model.Lexer
namespace Yae

/-! ## Syntax -/

/-- An item of a character class. -/
inductive CItem where
  /-- a character written as itself -/
  | ch (c : Char)
  /-- `\c` for a punctuation character `c`: the character `c` -/
  | esc (c : Char)
  /-- `lo-hi` -/
  | range (lo hi : Char)
  /-- `\p{L}`: a Unicode letter -/
  | letter
  /-- `\d`: an ASCII digit (Go's `\d` is ASCII only) -/
  | digit
  deriving DecidableEq, Repr, Inhabited

/-- The fragment of RE2 syntax used by the lexer. -/
inductive Re where
  /-- the empty expression (as in `(?:|a)`); not used by the lexer -/
  | eps
  /-- a literal character written as itself -/
  | chr (c : Char)
  /-- `\c` for a punctuation character `c`: the literal `c` -/
  | esc (c : Char)
  /-- `[items]` / `[^items]` (a negated class matches newlines too) -/
  | cls (neg : Bool) (items : List CItem)
  /-- `ab` -/
  | cat (a b : Re)
  /-- `a|b`, ordered -/
  | alt (a b : Re)
  /-- `(?:a)` -/
  | grp (a : Re)
  /-- `a*`, greedy -/
  | star (a : Re)
  /-- `a+`, greedy -/
  | plus (a : Re)
  /-- `a?`, greedy -/
  | opt (a : Re)
  /-- `a{n}` -/
  | rep (n : Nat) (a : Re)
  deriving DecidableEq, Repr, Inhabited

/-! ## Printing -/

def CItem.show : CItem → String
  | .ch c => String.singleton c
  | .esc c => "\\" ++ String.singleton c
  | .range lo hi => String.singleton lo ++ "-" ++ String.singleton hi
  | .letter => "\\p{L}"
  | .digit => "\\d"

/-- The Go pattern text. -/
def Re.show : Re → String
  | .eps => ""
  | .chr c => String.singleton c
  | .esc c => "\\" ++ String.singleton c
  | .cls neg items => "[" ++ (if neg then "^" else "") ++ String.join (items.map CItem.show) ++ "]"
  | .cat a b => a.show ++ b.show
  | .alt a b => a.show ++ "|" ++ b.show
  | .grp a => "(?:" ++ a.show ++ ")"
  | .star a => a.show ++ "*"
  | .plus a => a.show ++ "+"
  | .opt a => a.show ++ "?"
  | .rep n a => a.show ++ "{" ++ toString n ++ "}"

/-- ASCII punctuation: the characters that may follow a backslash to stand for themselves. -/
def isPunct (c : Char) : Bool :=
  ('!' ≤ c && c ≤ '/') || (':' ≤ c && c ≤ '@') || ('[' ≤ c && c ≤ '`') || ('{' ≤ c && c ≤ '~')

/-- Characters with a meaning of their own outside a class. -/
def reMeta : List Char := ['\\', '.', '+', '*', '?', '(', ')', '|', '[', ']', '{', '}', '^', '$']

/-- Characters with a meaning of their own inside a class. -/
def clsMeta : List Char := ['\\', ']', '[', '^', '-']

def CItem.wf : CItem → Bool
  | .ch c => !clsMeta.contains c
  | .esc c => isPunct c
  | .range lo hi => !clsMeta.contains lo && !clsMeta.contains hi && lo ≤ hi
  | .letter => true
  | .digit => true

/-- An expression that can take a quantifier without parentheses. -/
def Re.atom : Re → Bool
  | .chr _ | .esc _ | .cls _ _ | .grp _ => true
  | _ => false

/-- An expression that can be an operand of a concatenation without parentheses. -/
def Re.factor : Re → Bool
  | .alt _ _ | .eps => false
  | _ => true

/-- `Re.show` prints a text that parses back to this tree (each operand is of a shape that
    needs no parentheses; no literal is a metacharacter; a quantifier is not applied to a
    quantified expression). -/
def Re.wf : Re → Bool
  | .eps => true
  | .chr c => !reMeta.contains c
  | .esc c => isPunct c
  | .cls _ items =>
    match items with
    | [] => false
    | .ch '-' :: rest => rest.all CItem.wf      -- a leading `-` is literal
    | _ => items.all CItem.wf
  | .cat a b => a.factor && b.factor && a.wf && b.wf
  | .alt a b => a.wf && b.wf
  | .grp a => a.wf
  | .star a | .plus a | .opt a | .rep _ a => a.atom && a.wf

/-! ## Declarative semantics -/

def CItem.test : CItem → Char → Bool
  | .ch c, x => x == c
  | .esc c, x => x == c
  | .range lo hi, x => lo ≤ x && x ≤ hi
  | .letter, x => isLetter x
  | .digit, x => isDigit x

/-- Does the class `[items]` / `[^items]` contain `x`? -/
def clsTest (neg : Bool) (items : List CItem) (x : Char) : Bool :=
  if neg then !(items.any (·.test x)) else items.any (·.test x)

/-- `Re.Matches r u`: the word `u` is in the language of `r`. -/
inductive Re.Matches : Re → List Char → Prop where
  | eps : Matches .eps []
  | chr (c : Char) : Matches (.chr c) [c]
  | esc (c : Char) : Matches (.esc c) [c]
  | cls {neg items x} : clsTest neg items x = true → Matches (.cls neg items) [x]
  | cat {a b u v} : Matches a u → Matches b v → Matches (.cat a b) (u ++ v)
  | altL {a b u} : Matches a u → Matches (.alt a b) u
  | altR {a b u} : Matches b u → Matches (.alt a b) u
  | grp {a u} : Matches a u → Matches (.grp a) u
  | starNil {a} : Matches (.star a) []
  | starCons {a u v} : Matches a u → Matches (.star a) v → Matches (.star a) (u ++ v)
  | plus {a u v} : Matches a u → Matches (.star a) v → Matches (.plus a) (u ++ v)
  | optNone {a} : Matches (.opt a) []
  | optSome {a u} : Matches a u → Matches (.opt a) u
  | repZero {a} : Matches (.rep 0 a) []
  | repSucc {a n u v} : Matches a u → Matches (.rep n a) v → Matches (.rep (n + 1) a) (u ++ v)

/-! ## The reference matcher -/

/-- `x <|> y` on `Option`, lazy in `y`. -/
@[inline] def orElse {β : Type} (x : Option β) (y : Unit → Option β) : Option β :=
  match x with
  | some r => some r
  | none => y ()

/-- The loop `L` of `x*` / `x+` at input `s` (`f` = the matcher of `x`, `k` = what follows the
    loop): try one more `x`, which has to shorten the input, and come back to `L`; otherwise
    leave.  `fuel` > length of `s` (with less the answer is `none`; never the case below). -/
def Re.loop {β : Type} (f : List Char → (List Char → Option β) → Option β)
    (k : List Char → Option β) : Nat → List Char → Option β
  | 0, _ => none
  | fuel + 1, s =>
    orElse (f s (fun s' => if s'.length < s.length then Re.loop f k fuel s' else none))
      (fun _ => k s)

/-- `x+`: one `x`, then the loop; if this first `x` consumed nothing the loop is left at once. -/
def Re.plusM {β : Type} (f : List Char → (List Char → Option β) → Option β)
    (s : List Char) (k : List Char → Option β) : Option β :=
  f s (fun s' => if s'.length < s.length then Re.loop f k (s'.length + 1) s' else k s')

/-- `x{n}` = `n` copies of `x`. -/
def Re.repM {β : Type} (f : List Char → (List Char → Option β) → Option β)
    (k : List Char → Option β) : Nat → List Char → Option β
  | 0, s => k s
  | n + 1, s => f s (fun s' => Re.repM f k n s')

/-- `r.m s k`: match `r` at the start of `s`, then continue with `k` on the rest; the first
    success in priority order, `none` if every way fails. -/
def Re.m {β : Type} : Re → List Char → (List Char → Option β) → Option β
  | .eps, s, k => k s
  | .chr c, s, k =>
    match s with
    | x :: xs => if x = c then k xs else none
    | [] => none
  | .esc c, s, k =>
    match s with
    | x :: xs => if x = c then k xs else none
    | [] => none
  | .cls neg items, s, k =>
    match s with
    | x :: xs => if clsTest neg items x then k xs else none
    | [] => none
  | .cat a b, s, k => a.m s (fun s' => b.m s' k)
  | .alt a b, s, k => orElse (a.m s k) (fun _ => b.m s k)
  | .grp a, s, k => a.m s k
  | .star a, s, k => orElse (Re.plusM a.m s k) (fun _ => k s)
  | .plus a, s, k => Re.plusM a.m s k
  | .opt a, s, k => orElse (a.m s k) (fun _ => k s)
  | .rep n a, s, k => Re.repM a.m k n s

/-- Length in runes of the leftmost-first match of `^(?:r)` in `s`. -/
def Re.matchLen (r : Re) (s : List Char) : Option Nat :=
  r.m s (fun rest => some (s.length - rest.length))

/-- `regexp.MustCompile("^(?:" + r + ")").FindString(s)` as used by `lexer.regex`: the rune
    count of the match, the empty match counting as no match (`found == ""`). -/
def Re.find (r : Re) (s : List Char) : Option Nat :=
  match r.matchLen s with
  | some 0 => none
  | x => x

/-- `regexp.MustCompile("^" + r).MatchString(s)` -/
def Re.matchPrefix (r : Re) (s : List Char) : Bool := (r.matchLen s).isSome

/-- `regexp.MustCompile("^" + r + "$").MatchString(s)` (`$` without flag `m`: end of text) -/
def Re.matchWhole (r : Re) (s : List Char) : Bool :=
  (r.m s (fun rest => if rest.isEmpty then some () else none)).isSome

/-! ## Loops whose body cannot match the empty word -/

/-- Can the expression match the empty word? -/
def Re.nullable : Re → Bool
  | .eps => true
  | .chr _ | .esc _ | .cls _ _ => false
  | .cat a b => a.nullable && b.nullable
  | .alt a b => a.nullable || b.nullable
  | .grp a => a.nullable
  | .star _ | .opt _ => true
  | .plus a => a.nullable
  | .rep n a => n == 0 || a.nullable

/-- No body of a `*` or `+` can match the empty word: every iteration consumes a rune, the
question what an iteration that consumes nothing means does not arise, and backtracking
matchers (Perl, PCRE, this one) and automaton-based ones (RE2, Go) agree. -/
def Re.starsProper : Re → Bool
  | .eps | .chr _ | .esc _ | .cls _ _ => true
  | .cat a b | .alt a b => a.starsProper && b.starsProper
  | .grp a | .opt a | .rep _ a => a.starsProper
  | .star a | .plus a => !a.nullable && a.starsProper

/-! ## The patterns of the lexer -/

namespace Re
def digit09 : Re := cls false [.range '0' '9']
/-- `(?:0|[1-9][0-9]*)` -/
def intPart : Re := grp (alt (chr '0') (cat (cls false [.range '1' '9']) (star digit09)))
/-- `(?:[.][0-9]+)` -/
def fracG : Re := grp (cat (cls false [.ch '.']) (plus digit09))
/-- `(?:[eE][-+]?[0-9]+)` -/
def expG : Re :=
  grp (cat (cls false [.ch 'e', .ch 'E']) (cat (opt (cls false [.ch '-', .ch '+'])) (plus digit09)))
/-- `[a-zA-Z\p{L}_]` -/
def identStart : Re := cls false [.range 'a' 'z', .range 'A' 'Z', .letter, .ch '_']
/-- `[a-zA-Z0-9\p{L}_]` -/
def identCont : Re := cls false [.range 'a' 'z', .range 'A' 'Z', .range '0' '9', .letter, .ch '_']
def hexDigit : Re := cls false [.range '0' '9', .range 'a' 'f', .range 'A' 'F']
/-- `[^"\\]*` -/
def strPlain : Re := star (cls true [.ch '"', .esc '\\'])
/-- `\\["\\trnbf\/]` -/
def strEsc : Re :=
  cat (esc '\\') (cls false [.ch '"', .esc '\\', .ch 't', .ch 'r', .ch 'n', .ch 'b', .ch 'f', .esc '/'])
/-- `\\u[0-9a-fA-F]{4}` -/
def strUni : Re := cat (esc '\\') (cat (chr 'u') (rep 4 hexDigit))
/-- `(?:[^"\\]*|\\["\\trnbf\/]|\\u[0-9a-fA-F]{4})` -/
def strItem : Re := grp (alt strPlain (alt strEsc strUni))
end Re

open Re in
/-- The ten regular expressions of `newLexicon`. -/
def reOf : Pat → Re
  | .floatA => cat intPart (cat (plus fracG) (opt expG))
  | .floatB => cat intPart (cat (opt fracG) (plus expG))
  | .bin => cat (chr '0') (cat (chr 'b')
      (grp (alt (chr '0') (cat (chr '1') (star (cls false [.range '0' '1']))))))
  | .hex => cat (chr '0') (cat (chr 'x')
      (grp (alt (chr '0') (cat (cls false [.range '1' '9', .range 'a' 'f', .range 'A' 'F'])
        (star hexDigit)))))
  | .oct => cat (chr '0') (cat (chr 'o')
      (grp (alt (chr '0') (cat (cls false [.range '1' '7']) (star (cls false [.range '0' '7']))))))
  | .int => intPart
  | .str => cat (chr '"') (cat (star strItem) (chr '"'))
  | .raw => cat (chr '`') (cat (star (cls true [.ch '`'])) (chr '`'))
  | .time => cat (chr '\'') (cat (star (cls true [.ch '`', .ch '"', .ch '\''])) (chr '\''))
  | .sym => cat identStart (star identCont)

/-- `keywordPostfix` of `lexer/rule.go` without its `^`: `[a-zA-Z\d\p{L}_]+` -/
def reKeywordPostfix : Re :=
  .plus (.cls false [.range 'a' 'z', .range 'A' 'Z', .digit, .letter, .ch '_'])

/-- `idReg` of `oper/operator.go` without its `^` and `$` -/
def reIdent : Re := .cat Re.identStart (.star Re.identCont)

/-! ### The printed patterns are the texts in the Go source

(`factory.go` writes them as interpreted Go string literals, `rule.go` as a raw one; the
texts below are the VALUES of those literals.) -/

example : (reOf .floatA).show = "(?:0|[1-9][0-9]*)(?:[.][0-9]+)+(?:[eE][-+]?[0-9]+)?" := by decide
example : (reOf .floatB).show = "(?:0|[1-9][0-9]*)(?:[.][0-9]+)?(?:[eE][-+]?[0-9]+)+" := by decide
example : (reOf .bin).show = "0b(?:0|1[0-1]*)" := by decide
example : (reOf .hex).show = "0x(?:0|[1-9a-fA-F][0-9a-fA-F]*)" := by decide
example : (reOf .oct).show = "0o(?:0|[1-7][0-7]*)" := by decide
example : (reOf .int).show = "(?:0|[1-9][0-9]*)" := by decide
example : (reOf .str).show = "\"(?:[^\"\\\\]*|\\\\[\"\\\\trnbf\\/]|\\\\u[0-9a-fA-F]{4})*\"" := by decide
example : (reOf .raw).show = "`[^`]*`" := by decide
example : (reOf .time).show = "'[^`\"']*'" := by decide
example : (reOf .sym).show = "[a-zA-Z\\p{L}_][a-zA-Z0-9\\p{L}_]*" := by decide
example : "^" ++ reKeywordPostfix.show = "^[a-zA-Z\\d\\p{L}_]+" := by decide
example : "^" ++ reIdent.show ++ "$" = "^[a-zA-Z\\p{L}_][a-zA-Z0-9\\p{L}_]*$" := by decide

/-- All of them print unambiguously. -/
example : ∀ p ∈ [Pat.floatA, .floatB, .bin, .hex, .oct, .int, .str, .raw, .time, .sym],
    (reOf p).wf = true := by decide
example : reKeywordPostfix.wf = true ∧ reIdent.wf = true := by decide

/-- Every `*` / `+` of these has a body that cannot match the empty word ... -/
example : ∀ p ∈ [Pat.floatA, .floatB, .bin, .hex, .oct, .int, .raw, .time, .sym],
    (reOf p).starsProper = true := by decide
example : reKeywordPostfix.starsProper = true ∧ reIdent.starsProper = true := by decide
/-- ... except the string pattern (and none of the ten matches the empty word). -/
example : (reOf .str).starsProper = false := by decide
example : ∀ p ∈ [Pat.floatA, .floatB, .bin, .hex, .oct, .int, .str, .raw, .time, .sym],
    (reOf p).nullable = false := by decide

/-! ### Empty iterations: the convention at work (compared with go1.23 `FindString`) -/

/-- `^(?:(?:|a)*)` finds `""` in `"aa"`, and so does `(?:|a)+` (Go: the same). -/
example : (Re.star (.grp (.alt .eps (.chr 'a')))).matchLen "aa".toList = some 0 ∧
    (Re.plus (.grp (.alt .eps (.chr 'a')))).matchLen "aa".toList = some 0 := by decide
/-- `^(?:(?:c||b)*)` finds `"cb"` in `"cb"` (Go: the same). -/
example : (Re.star (.grp (.alt (.chr 'c') (.alt .eps (.chr 'b'))))).matchLen "cb".toList = some 2 := by
  decide
/-- `^(?:(?:a*|b)*)` finds `"aabab"` in `"aabab"`; `^(?:(?:|a)*b)` finds `"aab"` in `"aab"`
(Go: the same). -/
example : (Re.star (.grp (.alt (.star (.chr 'a')) (.chr 'b')))).matchLen "aabab".toList = some 5 ∧
    (Re.cat (.star (.grp (.alt .eps (.chr 'a')))) (.chr 'b')).matchLen "aab".toList = some 3 := by
  decide
/-- `^(?:(?:(?:a|)(?:|b))*)` finds `"ab"` in `"ab"` here; go1.23 finds `"a"` (see the header). -/
example : (Re.star (.grp (.cat (.grp (.alt (.chr 'a') .eps)) (.grp (.alt .eps (.chr 'b')))))).matchLen
    "ab".toList = some 2 := by decide

end Yae
