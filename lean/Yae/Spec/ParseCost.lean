/-
  A cost semantics for the parser model (C12: "compile time grows at most polynomially with the
  length of the source").

  The model (`Yae/Model/Parser.lean`) has no notion of work.  This file gives it one BY
  CONSTRUCTION: `pExprC`, `pInfixC`, `pCallC`, `pArgsC`, `pListC`, `pMapC`, `pObjC` are literal
  copies of the seven mutually recursive parser functions, same arguments, same case structure,
  same order of the tests, that return a pair: the result of the model function and a counter.

  COST UNIT: one call of any of the seven functions (`expr`, one round of `parseInfix`,
  `parseCall`, one round of each of the four loops).  A call counts `1` for itself (also a call
  that only finds its fuel exhausted, or fails at once) plus the counts of the calls it makes.
  Between two calls a function does a bounded amount of other work: at most two table lookups
  (`tableLookup`: linear in the size of the operator table), at most four token inspections
  (`peek` / `mustEat`), one `Pos.range`, one `infixNCheck` (looks at the roots of the two
  operands only), one literal conversion (`Num.parseNumLit`, `Num.unquote`, `timeLit`: one pass
  over the lexeme of the token just eaten), and the final `reverse` / `ofList` of an
  accumulator whose length is at most the number of rounds of the loop.  None of these is
  counted.

  What ties the copies to the model is ERASURE (`Yae/Proofs/ParseCostErase.lean`): the first
  component of `pXC env f …` is `pX env f …`, for all arguments; so the instrumented function
  is the model function plus a counter and nothing else.  The bound is in
  `Yae/Proofs/ParseFuel.lean` (`run_all`; read at `pExprC` in `ParseBounds.lean`), the statements in `Yae/Props/C12.lean`.
-/
import Yae.Model.Parser
namespace Yae

/-- a result of the model together with the number of calls made -/
abbrev PResC (α : Type) := PRes α × Nat

mutual

/-- `pExpr` with the call count. -/
def pExprC (env : PEnv) : Nat → BP → Nat → PResC Expr
  | 0, _, _ => (.error .fuel, 1)
  | f + 1, rbp, i =>
    let t := env.peek i
    let i := env.adv i
    match tableLookup t.kind env.g.prefixs with
    | none => (.error .syntax, 1)
    | some (bp, nud) =>
      let left : PResC Expr :=
        match nud with
        | .ident => (.ok (.ident t.pos t.lexeme, i), 0)
        | .true_ => (.ok (.bool t.pos true, i), 0)
        | .false_ => (.ok (.bool t.pos false, i), 0)
        | .num =>
          match Num.parseNumLit t.lexeme with
          | some v => (.ok (.num t.pos v, i), 0)
          | none => (.error .syntax, 0)
        | .str =>
          match Num.unquote t.lexeme with
          | some v => (.ok (.str t.pos v, i), 0)
          | none => (.error .syntax, 0)
        | .time =>
          match env.timeLit t with
          | .ok e => (.ok (e, i), 0)
          | .error e => (.error e, 0)
        | .group =>
          match pExprC env f 0 i with
          | (.error e, c) => (.error e, c)
          | (.ok (e, i), c) =>
            match env.mustEat ")" i with
            | .error e => (.error e, c)
            | .ok (rp, i) =>
              match Pos.range t.pos rp.pos with
              | .error e => (.error e, c)
              | .ok rg => (.ok (.group rg e, i), c)
        | .unaryPrefix =>
          match pExprC env f bp i with
          | (.error e, c) => (.error e, c)
          | (.ok (e, i), c) =>
            match Pos.range t.pos e.pos with
            | .error e => (.error e, c)
            | .ok rg => (.ok (.unary rg t.lexeme t.pos e true, i), c)
        | .listMap =>
          if (env.peek i).kind == ":" then
            match env.mustEat "]" (env.adv i) with
            | .error e => (.error e, 0)
            | .ok (rb, i) =>
              match Pos.range t.pos rb.pos with
              | .error e => (.error e, 0)
              | .ok rg => (.ok (.map rg .nil none, i), 0)
          else
            if (env.peek i).kind == "]" then
              match env.mustEat "]" i with
              | .error e => (.error e, 0)
              | .ok (rb, i) =>
                match Pos.range t.pos rb.pos with
                | .error e => (.error e, 0)
                | .ok rg => (.ok (.list rg .nil none, i), 0)
            else
              match pExprC env f 0 i with
              | (.error e, c) => (.error e, c)
              | (.ok (fst, i), c) =>
                if (env.peek i).kind == ":" then
                  match pExprC env f 0 (env.adv i) with
                  | (.error e, c₂) => (.error e, c + c₂)
                  | (.ok (v, i), c₂) =>
                    let rest : PResC (List (Expr × Expr)) :=
                      if (env.peek i).kind == "," then pMapC env f [(fst, v)] (env.adv i)
                      else (.ok ([(fst, v)], i), 0)
                    match rest with
                    | (.error e, c₃) => (.error e, c + c₂ + c₃)
                    | (.ok (ps, i), c₃) =>
                      match env.mustEat "]" i with
                      | .error e => (.error e, c + c₂ + c₃)
                      | .ok (rb, i) =>
                        match Pos.range t.pos rb.pos with
                        | .error e => (.error e, c + c₂ + c₃)
                        | .ok rg =>
                          (.ok (.map rg (PairList.ofList ps.reverse) none, i), c + c₂ + c₃)
                else
                  let rest : PResC (List Expr) :=
                    if (env.peek i).kind == "," then pListC env f [fst] (env.adv i)
                    else (.ok ([fst], i), 0)
                  match rest with
                  | (.error e, c₂) => (.error e, c + c₂)
                  | (.ok (els, i), c₂) =>
                    match env.mustEat "]" i with
                    | .error e => (.error e, c + c₂)
                    | .ok (rb, i) =>
                      match Pos.range t.pos rb.pos with
                      | .error e => (.error e, c + c₂)
                      | .ok rg => (.ok (.list rg (ExprList.ofList els.reverse) none, i), c + c₂)
        | .obj =>
          match pObjC env f [] i with
          | (.error e, c) => (.error e, c)
          | (.ok (fs, i), c) =>
            match env.mustEat "}" i with
            | .error e => (.error e, c)
            | .ok (rb, i) =>
              match Pos.range t.pos rb.pos with
              | .error e => (.error e, c)
              | .ok rg => (.ok (.obj rg (FieldEList.ofList fs.reverse) none, i), c)
      match left with
      | (.error e, c) => (.error e, c + 1)
      | (.ok (left, i), c) =>
        let r := pInfixC env f left rbp i
        (r.1, c + r.2 + 1)
termination_by structural fuel => fuel

/-- `pInfix` with the call count (one call per round of the `for`). -/
def pInfixC (env : PEnv) : Nat → Expr → BP → Nat → PResC Expr
  | 0, _, _, _ => (.error .fuel, 1)
  | f + 1, left, rbp, i =>
    let t := env.peek i
    if env.g.infixLbp t.kind > rbp then
      let i := env.adv i
      match tableLookup t.kind env.g.infixs with
      | none => (.error .syntax, 1)
      | some (bp, led) =>
        let res : PResC Expr :=
          match led with
          | .binaryL =>
            match pExprC env f bp i with
            | (.error e, c) => (.error e, c)
            | (.ok (rhs, i), c) =>
              match Pos.range left.pos rhs.pos with
              | .error e => (.error e, c)
              | .ok rg => (.ok (.binary rg t.lexeme t.pos fixInfixL left rhs, i), c)
          | .binaryR =>
            match pExprC env f (bpPred bp) i with
            | (.error e, c) => (.error e, c)
            | (.ok (rhs, i), c) =>
              match Pos.range left.pos rhs.pos with
              | .error e => (.error e, c)
              | .ok rg => (.ok (.binary rg t.lexeme t.pos fixInfixR left rhs, i), c)
          | .binaryN =>
            match pExprC env f bp i with
            | (.error e, c) => (.error e, c)
            | (.ok (rhs, i), c) =>
              match Pos.range left.pos rhs.pos with
              | .error e => (.error e, c)
              | .ok rg => (.ok (.binary rg t.lexeme t.pos fixInfixN left rhs, i), c)
          | .unaryPostfix =>
            match Pos.range left.pos t.pos with
            | .error e => (.error e, 0)
            | .ok rg => (.ok (.unary rg t.lexeme t.pos left false, i), 0)
          | .question =>
            match pExprC env f 0 i with
            | (.error e, c) => (.error e, c)
            | (.ok (m, i), c) =>
              match env.mustEat ":" i with
              | .error e => (.error e, c)
              | .ok (_, i) =>
                match pExprC env f (bpPred bp) i with
                | (.error e, c₂) => (.error e, c + c₂)
                | (.ok (r, i), c₂) =>
                  match Pos.range left.pos r.pos with
                  | .error e => (.error e, c + c₂)
                  | .ok rg => (.ok (.ternary rg t.lexeme t.pos left m r, i), c + c₂)
          | .call => pCallC env f left t i
          | .dot =>
            let name := env.peek i
            let i := env.adv i
            match Pos.range left.pos name.pos with
            | .error e => (.error e, 0)
            | .ok rg =>
              let mem := Expr.member rg t.pos.col left name.lexeme name.pos none (-1)
              let lp := env.peek i
              if lp.kind == "(" then pCallC env f mem lp (env.adv i)
              else (.ok (mem, i), 0)
          | .subscript =>
            match pExprC env f 0 i with
            | (.error e, c) => (.error e, c)
            | (.ok (ix, i), c) =>
              match env.mustEat "]" i with
              | .error e => (.error e, c)
              | .ok (rb, i) =>
                match Pos.range left.pos rb.pos with
                | .error e => (.error e, c)
                | .ok rg => (.ok (.subscript rg t.pos.col left ix none, i), c)
        match res with
        | (.error e, c) => (.error e, c + 1)
        | (.ok (e, i), c) =>
          match infixNCheck e with
          | .error e => (.error e, c + 1)
          | .ok e =>
            let r := pInfixC env f e rbp i
            (r.1, c + r.2 + 1)
    else
      match infixNCheck left with
      | .error e => (.error e, 1)
      | .ok e => (.ok (e, i), 1)
termination_by structural fuel => fuel

/-- `pCall` with the call count. -/
def pCallC (env : PEnv) : Nat → Expr → Token → Nat → PResC Expr
  | 0, _, _, _ => (.error .fuel, 1)
  | f + 1, callee, t, i =>
    let args : PResC (List Expr) :=
      if (env.peek i).kind == ")" then (.ok ([], i), 0)
      else pArgsC env f [] i
    match args with
    | (.error e, c) => (.error e, c + 1)
    | (.ok (as, i), c) =>
      match env.mustEat ")" i with
      | .error e => (.error e, c + 1)
      | .ok (rp, i) =>
        match Pos.range callee.pos rp.pos with
        | .error e => (.error e, c + 1)
        | .ok rg =>
          (.ok (.call rg t.pos.col callee (ExprList.ofList as.reverse) none "" (-1), i), c + 1)
termination_by structural fuel => fuel

/-- `pArgs` with the call count. -/
def pArgsC (env : PEnv) : Nat → List Expr → Nat → PResC (List Expr)
  | 0, _, _ => (.error .fuel, 1)
  | f + 1, acc, i =>
    match pExprC env f 0 i with
    | (.error e, c) => (.error e, c + 1)
    | (.ok (a, i), c) =>
      if (env.peek i).kind == "," then
        let r := pArgsC env f (a :: acc) (env.adv i)
        (r.1, c + r.2 + 1)
      else (.ok (a :: acc, i), c + 1)
termination_by structural fuel => fuel

/-- `pList` with the call count. -/
def pListC (env : PEnv) : Nat → List Expr → Nat → PResC (List Expr)
  | 0, _, _ => (.error .fuel, 1)
  | f + 1, acc, i =>
    if (env.peek i).kind == "]" then (.ok (acc, i), 1)
    else
      match pExprC env f 0 i with
      | (.error e, c) => (.error e, c + 1)
      | (.ok (el, i), c) =>
        if (env.peek i).kind == "," then
          let r := pListC env f (el :: acc) (env.adv i)
          (r.1, c + r.2 + 1)
        else (.ok (el :: acc, i), c + 1)
termination_by structural fuel => fuel

/-- `pMap` with the call count. -/
def pMapC (env : PEnv) : Nat → List (Expr × Expr) → Nat → PResC (List (Expr × Expr))
  | 0, _, _ => (.error .fuel, 1)
  | f + 1, acc, i =>
    if (env.peek i).kind == "]" then (.ok (acc, i), 1)
    else
      match pExprC env f 0 i with
      | (.error e, c) => (.error e, c + 1)
      | (.ok (k, i), c) =>
        match env.mustEat ":" i with
        | .error e => (.error e, c + 1)
        | .ok (_, i) =>
          match pExprC env f 0 i with
          | (.error e, c₂) => (.error e, c + c₂ + 1)
          | (.ok (v, i), c₂) =>
            if (env.peek i).kind == "," then
              let r := pMapC env f ((k, v) :: acc) (env.adv i)
              (r.1, c + c₂ + r.2 + 1)
            else (.ok ((k, v) :: acc, i), c + c₂ + 1)
termination_by structural fuel => fuel

/-- `pObj` with the call count. -/
def pObjC (env : PEnv) : Nat → List (String × Expr) → Nat → PResC (List (String × Expr))
  | 0, _, _ => (.error .fuel, 1)
  | f + 1, acc, i =>
    if (env.peek i).kind == "}" then (.ok (acc, i), 1)
    else
      match env.mustEat "<sym>" i with
      | .error e => (.error e, 1)
      | .ok (n, i) =>
        match env.mustEat ":" i with
        | .error e => (.error e, 1)
        | .ok (_, i) =>
          match pExprC env f 0 i with
          | (.error e, c) => (.error e, c + 1)
          | (.ok (v, i), c) =>
            if (env.peek i).kind == "," then
              let r := pObjC env f ((n.lexeme, v) :: acc) (env.adv i)
              (r.1, c + r.2 + 1)
            else (.ok ((n.lexeme, v) :: acc, i), c + 1)
termination_by structural fuel => fuel

end

/-- `parseWith` with the call count (the final `mustEat` is not a call). -/
def parseWithC (fuel : Nat) (ops : List Operator) (times : List (String × Int))
    (toks : List Token) : Except ParseErr Expr × Nat :=
  let env : PEnv := { g := newGrammar ops, toks := toks.toArray, times := times }
  match pExprC env fuel 0 0 with
  | (.error e, c) => (.error e, c)
  | (.ok (e, i), c) =>
    match env.mustEat tkEOF i with
    | .error e => (.error e, c)
    | .ok _ => (.ok e, c)

/-- `parse` with the call count. -/
def parseC (ops : List Operator) (times : List (String × Int)) (toks : List Token) :
    Except ParseErr Expr × Nat :=
  parseWithC (parseFuel toks.length) ops times toks

end Yae
