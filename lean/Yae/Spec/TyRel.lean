/-
  The relations on types that the specifications are stated with: `StructEq`, the relation that
  `tyEq` (the model of `types.Equals`) decides on well-formed types; ground substitutions; and `substG`,
  what `applySubst` computes under a ground substitution, as a total function without fuel.
-/
import Yae.Model.Ty
import Yae.Model.Unify
namespace Yae

mutual
/-- Objects: same number of fields, the same names present, equally named fields related (order is
irrelevant).  Function names are ignored (as `equalsFun` ignores `Name`). -/
inductive StructEq : Ty → Ty → Prop
  | top : StructEq .top .top
  | bot : StructEq .bot .bot
  | var (n : String) : StructEq (.var n) (.var n)
  | num : StructEq .num .num
  | str : StructEq .str .str
  | bool : StructEq .bool .bool
  | time : StructEq .time .time
  | tuple {xs ys} : StructEqList xs ys → StructEq (.tuple xs) (.tuple ys)
  | list {a b} : StructEq a b → StructEq (.list a) (.list b)
  | map {k v k' v'} : StructEq k k' → StructEq v v' → StructEq (.map k v) (.map k' v')
  | obj {fs gs : FieldList} :
      fs.length = gs.length →
      (∀ n, (fs.find? n).isSome = (gs.find? n).isSome) →
      (∀ n t u, fs.find? n = some t → gs.find? n = some u → StructEq t u) →
      StructEq (.obj fs) (.obj gs)
  | fn {f g ps qs r s} : StructEqList ps qs → StructEq r s → StructEq (.fn f ps r) (.fn g qs s)
  | maybe {a b} : StructEq a b → StructEq (.maybe a) (.maybe b)
inductive StructEqList : TyList → TyList → Prop
  | nil : StructEqList .nil .nil
  | cons {x y xs ys} : StructEq x y → StructEqList xs ys → StructEqList (.cons x xs) (.cons y ys)
end

/-- Range of the substitution: variable-free, well-formed types. -/
def Subst.Ground (m : Subst) : Prop :=
  ∀ n k, m.get? n = some k → slotFree k = true ∧ k.wf = true

mutual
/-- One-step substitution without the `types.Map` key assertion. -/
def substG (m : Subst) : Ty → Ty
  | .var n => match m.get? n with
    | some r => r
    | none => .var n
  | .list el => .list (substG m el)
  | .map k v => .map (substG m k) (substG m v)
  | .tuple ts => .tuple (substGList m ts)
  | .obj fs => .obj (substGFields m fs)
  | .fn name ps r => .fn name (substGList m ps) (substG m r)
  | .maybe el => .maybe (substG m el)
  | .top => .top | .bot => .bot | .num => .num | .str => .str | .bool => .bool | .time => .time
def substGList (m : Subst) : TyList → TyList
  | .nil => .nil
  | .cons t ts => .cons (substG m t) (substGList m ts)
def substGFields (m : Subst) : FieldList → FieldList
  | .nil => .nil
  | .cons n t fs => .cons n (substG m t) (substGFields m fs)
end

end Yae
