/-
  The typing rules of yae, stated declaratively (C05).

  `Typed Γ e T` : expression `e` has type `T` in the environment `Γ` (variables, the overload
  table in registration order, reserved words).  The rules mention neither the type-variable
  counter nor unification: the only auxiliary notion is `instantiate`, first-order matching of a
  parameter list against the (variable-free) argument types.

  `Typed'` is the same system with the *natural* overload rule (the first polymorphic overload
  that can be instantiated **and** whose instantiated parameters equal the argument types); `Typed`
  encodes what the checker really does (finding D22): it commits to the first overload that can
  be instantiated up to `⊥`/`⊤` absorption and then rejects the program if the instantiated
  parameters are not equal to the argument types.
-/
import Yae.Model.Check
import Yae.Model.Builtins
import Yae.Spec.TyRel
namespace Yae

/-- The engine's function table when only the built-ins are registered: `fun.BuiltIn()` in
registration order, each referring to its own position (what the harness sends as `builtins`). -/
def builtinFunsFrom : Nat → List BuiltinDecl → List FunDecl
  | _, [] => []
  | i, b :: bs => { ty := b.ty, ref := .builtin i, isLazy := b.isLazy } :: builtinFunsFrom (i+1) bs

def builtinFuns : List FunDecl := builtinFunsFrom 0 builtins

/-- the typing environment of the built-ins alone, with the reserved words of the lexer -/
def builtinEnv (vars : List (String × Ty)) : TEnv := ⟨vars, builtinFuns, reservedWords⟩

/-! ## instantiating a parameter list

`pmatch p g σ` matches the pattern `p` (a parameter type, possibly with type variables) against
the variable-free type `g` (an argument type), extending the instantiation `σ`:
* a variable is bound to `g`; if it is bound already the binding must equal `g` (`tyEq`);
* primitives match themselves, composites match component-wise (objects field by name, the
  same number of fields);
* `⊥` as argument type is matched by every non-variable pattern and `⊤` as pattern matches every
  argument (the two absorption cases), *binding nothing*;
* function-typed parameters are outside the fragment (no registered signature has one).
It returns the *instantiated pattern* (what the final acceptance test compares with the argument
type; under an absorption case this is the raw pattern) and the extended instantiation. -/
mutual
def pmatch : Ty → Ty → Subst → Option (Ty × Subst)
  | .var n, g, m =>
    match m.get? n with
    | some k => if tyEq k g then some (g, m.set n g) else none
    | none => some (g, m.set n g)
  | .num, .num, m => some (.num, m)
  | .str, .str, m => some (.str, m)
  | .bool, .bool, m => some (.bool, m)
  | .time, .time, m => some (.time, m)
  | .list a, .list b, m =>
    match pmatch a b m with
    | some (t, m) => some (.list t, m)
    | none => none
  | .maybe a, .maybe b, m =>
    match pmatch a b m with
    | some (t, m) => some (.maybe t, m)
    | none => none
  | .map k v, .map k' v', m =>
    match pmatch k k' m with
    | some (k1, m) =>
      match pmatch v v' m with
      | some (v1, m) => some (.map k1 v1, m)
      | none => none
    | none => none
  | .tuple xs, .tuple ys, m =>
    if xs.length != ys.length then none else
    match pmatchList xs ys m with
    | some (ts, m) => some (.tuple ts, m)
    | none => none
  | .obj fs, .obj gs, m =>
    if fs.length != gs.length then none else
    match pmatchFields fs gs m with
    | some (hs, m) => some (.obj hs, m)
    | none => none
  | .fn _ _ _, .fn _ _ _, _ => none
  | .top, _, m => some (.top, m)
  | p, .bot, m => some (p, m)
  | _, _, _ => none
def pmatchList : TyList → TyList → Subst → Option (TyList × Subst)
  | .cons x xs, .cons y ys, m =>
    match pmatch x y m with
    | some (t, m) =>
      match pmatchList xs ys m with
      | some (ts, m) => some (.cons t ts, m)
      | none => none
    | none => none
  | _, _, m => some (.nil, m)
def pmatchFields : FieldList → FieldList → Subst → Option (FieldList × Subst)
  | .nil, _, m => some (.nil, m)
  | .cons n t rest, gs, m =>
    match gs.find? n with
    | none => none
    | some u =>
      match pmatch t u m with
      | some (t', m) =>
        match pmatchFields rest gs m with
        | some (fs, m) => some (.cons n t' fs, m)
        | none => none
      | none => none
end

/-- `instantiate params ret args`: the parameters can be instantiated to the argument types
(same number, matched left to right under one instantiation) and the instantiated result type
is fully concrete (no variable left).  Result: instantiated parameters and result type. -/
def instantiate (ps : TyList) (ret : Ty) (args : TyList) : Option (TyList × Ty) :=
  if ps.length != args.length then none else
  match pmatchList ps args [] with
  | none => none
  | some (ps', σ) => if slotFree (substG σ ret) then some (ps', substG σ ret) else none

/-- keys of the overload table -/
def monoKey (f : String) (args : TyList) : String := (overloadKey f args .bot).1
def polyKey (f : String) (n : Nat) : String := "∀.λ " ++ f ++ " " ++ toString n

/-- `FirstInst cands args ps' T`: the *first* candidate in registration order that can be
instantiated to the argument types, with its instantiated parameters and result. -/
inductive FirstInst : List FunDecl → TyList → TyList → Ty → Prop
  | here {d : FunDecl} {rest name ps ret args ps' T} :
      d.ty = .fn name ps ret → instantiate ps ret args = some (ps', T) →
      FirstInst (d :: rest) args ps' T
  | later {d : FunDecl} {rest name ps ret args ps' T} :
      d.ty = .fn name ps ret → instantiate ps ret args = none →
      FirstInst rest args ps' T → FirstInst (d :: rest) args ps' T

/-- the natural rule: the first candidate that can be instantiated *and* is accepted -/
inductive FirstAccepted : List FunDecl → TyList → TyList → Ty → Prop
  | here {d : FunDecl} {rest name ps ret args ps' T} :
      d.ty = .fn name ps ret → instantiate ps ret args = some (ps', T) →
      tyEqList ps' args = true → FirstAccepted (d :: rest) args ps' T
  | later {d : FunDecl} {rest name ps ret args ps' T} :
      d.ty = .fn name ps ret →
      (∀ qs U, instantiate ps ret args = some (qs, U) → tyEqList qs args = false) →
      FirstAccepted rest args ps' T → FirstAccepted (d :: rest) args ps' T

def Expr.isIdent : Expr → Bool
  | .ident _ _ => true
  | _ => false

/-! ## the rules -/

mutual
inductive Typed (Γ : TEnv) : Expr → Ty → Prop
  | str (p v) : Typed Γ (.str p v) .str
  | num (p v) : Typed Γ (.num p v) .num
  | time (p v) : Typed Γ (.time p v) .time
  | bool (p v) : Typed Γ (.bool p v) .bool
  /-- the empty list has element type `⊥` -/
  | listNil (p ty) : Typed Γ (.list p .nil ty) (.list .bot)
  /-- a non-empty list takes the type of its first element, the others must equal it -/
  | listCons {p e es ty T} : Typed Γ e T → TypedElems Γ es T → Typed Γ (.list p (.cons e es) ty) (.list T)
  | mapNil (p ty) : Typed Γ (.map p .nil ty) (.map .bot .bot)
  /-- a non-empty map takes key and value type of its first entry; the key type is primitive -/
  | mapCons {p k v ps ty K V} : Typed Γ k K → K.isPrimitive = true → Typed Γ v V →
      TypedPairs Γ ps K V → Typed Γ (.map p (.cons k v ps) ty) (.map K V)
  /-- an object: the field types in order, field names pairwise distinct -/
  | obj {p fs ty Fs} : TypedFields Γ fs Fs → Fs.names.Nodup → Typed Γ (.obj p fs ty) (.obj Fs)
  /-- an identifier: not a reserved word, bound in the environment -/
  | ident {p x T} : Γ.reserved.contains x = false → Γ.lookupVar x = some T → Typed Γ (.ident p x) T
  /-- a list is indexed by a number -/
  | subList {p col v i vty El I} : Typed Γ v (.list El) → Typed Γ i I → tyEq I .num = true →
      Typed Γ (.subscript p col v i vty) El
  /-- a map is indexed by its key type -/
  | subMap {p col v i vty K V I} : Typed Γ v (.map K V) → Typed Γ i I → tyEq I K = true →
      Typed Γ (.subscript p col v i vty) V
  /-- field access on an object type that has the field -/
  | member {p col o f fp oty idx Fs T} : Typed Γ o (.obj Fs) → Fs.find? f = some T →
      Typed Γ (.member p col o f fp oty idx) T
  /-- `f(args)`, monomorphic: the (last registered) monomorphic overload whose key is the key of
  `(f, argument types)`; its parameters equal the argument types -/
  | callMono {p col cp f args cty res idx As d name ps ret} : TypedArgs Γ args As →
      lookupMono Γ.funs (monoKey f As) = some d → d.ty = .fn name ps ret →
      ps.length = As.length → tyEqList ps As = true →
      Typed Γ (.call p col (.ident cp f) args cty res idx) ret
  /-- `f(args)`, polymorphic: no monomorphic overload under the key; the first polymorphic
  overload of that name and arity that can be instantiated; its instantiated parameters equal
  the argument types (if they do not the call is ill-typed, later overloads are not tried) -/
  | callPoly {p col cp f args cty res idx As ps' T} : TypedArgs Γ args As →
      lookupMono Γ.funs (monoKey f As) = none →
      FirstInst (lookupPoly Γ.funs (polyKey f As.length)) As ps' T →
      tyEqList ps' As = true →
      Typed Γ (.call p col (.ident cp f) args cty res idx) T
  /-- a call of a function-typed expression -/
  | callFn {p col callee args cty res idx As name ps ret ps' T} : callee.isIdent = false →
      TypedArgs Γ args As → Typed Γ callee (.fn name ps ret) →
      instantiate ps ret As = some (ps', T) → tyEqList ps' As = true →
      Typed Γ (.call p col callee args cty res idx) T
/-- every element has a type equal to `T` -/
inductive TypedElems (Γ : TEnv) : ExprList → Ty → Prop
  | nil {T} : TypedElems Γ .nil T
  | cons {e es T U} : Typed Γ e U → tyEq T U = true → TypedElems Γ es T → TypedElems Γ (.cons e es) T
/-- every key has a type equal to `K`, every value a type equal to `V` -/
inductive TypedPairs (Γ : TEnv) : PairList → Ty → Ty → Prop
  | nil {K V} : TypedPairs Γ .nil K V
  | cons {k v ps K V K' V'} : Typed Γ k K' → tyEq K K' = true → Typed Γ v V' → tyEq V V' = true →
      TypedPairs Γ ps K V → TypedPairs Γ (.cons k v ps) K V
inductive TypedFields (Γ : TEnv) : FieldEList → FieldList → Prop
  | nil : TypedFields Γ .nil .nil
  | cons {n e fs T Fs} : Typed Γ e T → TypedFields Γ fs Fs → TypedFields Γ (.cons n e fs) (.cons n T Fs)
inductive TypedArgs (Γ : TEnv) : ExprList → TyList → Prop
  | nil : TypedArgs Γ .nil .nil
  | cons {e es T Ts} : Typed Γ e T → TypedArgs Γ es Ts → TypedArgs Γ (.cons e es) (.cons T Ts)
end

/-! ## the natural system: only the polymorphic call rule differs -/

mutual
inductive Typed' (Γ : TEnv) : Expr → Ty → Prop
  | str (p v) : Typed' Γ (.str p v) .str
  | num (p v) : Typed' Γ (.num p v) .num
  | time (p v) : Typed' Γ (.time p v) .time
  | bool (p v) : Typed' Γ (.bool p v) .bool
  | listNil (p ty) : Typed' Γ (.list p .nil ty) (.list .bot)
  | listCons {p e es ty T} : Typed' Γ e T → TypedElems' Γ es T → Typed' Γ (.list p (.cons e es) ty) (.list T)
  | mapNil (p ty) : Typed' Γ (.map p .nil ty) (.map .bot .bot)
  | mapCons {p k v ps ty K V} : Typed' Γ k K → K.isPrimitive = true → Typed' Γ v V →
      TypedPairs' Γ ps K V → Typed' Γ (.map p (.cons k v ps) ty) (.map K V)
  | obj {p fs ty Fs} : TypedFields' Γ fs Fs → Fs.names.Nodup → Typed' Γ (.obj p fs ty) (.obj Fs)
  | ident {p x T} : Γ.reserved.contains x = false → Γ.lookupVar x = some T → Typed' Γ (.ident p x) T
  | subList {p col v i vty El I} : Typed' Γ v (.list El) → Typed' Γ i I → tyEq I .num = true →
      Typed' Γ (.subscript p col v i vty) El
  | subMap {p col v i vty K V I} : Typed' Γ v (.map K V) → Typed' Γ i I → tyEq I K = true →
      Typed' Γ (.subscript p col v i vty) V
  | member {p col o f fp oty idx Fs T} : Typed' Γ o (.obj Fs) → Fs.find? f = some T →
      Typed' Γ (.member p col o f fp oty idx) T
  | callMono {p col cp f args cty res idx As d name ps ret} : TypedArgs' Γ args As →
      lookupMono Γ.funs (monoKey f As) = some d → d.ty = .fn name ps ret →
      ps.length = As.length → tyEqList ps As = true →
      Typed' Γ (.call p col (.ident cp f) args cty res idx) ret
  /-- the first polymorphic overload that can be instantiated to exactly the argument types -/
  | callPoly {p col cp f args cty res idx As ps' T} : TypedArgs' Γ args As →
      lookupMono Γ.funs (monoKey f As) = none →
      FirstAccepted (lookupPoly Γ.funs (polyKey f As.length)) As ps' T →
      Typed' Γ (.call p col (.ident cp f) args cty res idx) T
  | callFn {p col callee args cty res idx As name ps ret ps' T} : callee.isIdent = false →
      TypedArgs' Γ args As → Typed' Γ callee (.fn name ps ret) →
      instantiate ps ret As = some (ps', T) → tyEqList ps' As = true →
      Typed' Γ (.call p col callee args cty res idx) T
inductive TypedElems' (Γ : TEnv) : ExprList → Ty → Prop
  | nil {T} : TypedElems' Γ .nil T
  | cons {e es T U} : Typed' Γ e U → tyEq T U = true → TypedElems' Γ es T → TypedElems' Γ (.cons e es) T
inductive TypedPairs' (Γ : TEnv) : PairList → Ty → Ty → Prop
  | nil {K V} : TypedPairs' Γ .nil K V
  | cons {k v ps K V K' V'} : Typed' Γ k K' → tyEq K K' = true → Typed' Γ v V' → tyEq V V' = true →
      TypedPairs' Γ ps K V → TypedPairs' Γ (.cons k v ps) K V
inductive TypedFields' (Γ : TEnv) : FieldEList → FieldList → Prop
  | nil : TypedFields' Γ .nil .nil
  | cons {n e fs T Fs} : Typed' Γ e T → TypedFields' Γ fs Fs → TypedFields' Γ (.cons n e fs) (.cons n T Fs)
inductive TypedArgs' (Γ : TEnv) : ExprList → TyList → Prop
  | nil : TypedArgs' Γ .nil .nil
  | cons {e es T Ts} : Typed' Γ e T → TypedArgs' Γ es Ts → TypedArgs' Γ (.cons e es) (.cons T Ts)
end

/-! ## erasure of the attachments the checker writes -/

mutual
def erase : Expr → Expr
  | .list p es _ => .list p (eraseList es) none
  | .map p ps _ => .map p (erasePairs ps) none
  | .obj p fs _ => .obj p (eraseFields fs) none
  | .call p col c as _ _ _ => .call p col (erase c) (eraseList as) none "" 0
  | .subscript p col v i _ => .subscript p col (erase v) (erase i) none
  | .member p col o f fp _ _ => .member p col (erase o) f fp none 0
  | .unary p n np e pre => .unary p n np (erase e) pre
  | .binary p n np fx l r => .binary p n np fx (erase l) (erase r)
  | .ternary p n np l m r => .ternary p n np (erase l) (erase m) (erase r)
  | .group p e => .group p (erase e)
  | e => e
def eraseList : ExprList → ExprList
  | .nil => .nil
  | .cons e es => .cons (erase e) (eraseList es)
def erasePairs : PairList → PairList
  | .nil => .nil
  | .cons k v ps => .cons (erase k) (erase v) (erasePairs ps)
def eraseFields : FieldEList → FieldEList
  | .nil => .nil
  | .cons n e fs => .cons n (erase e) (eraseFields fs)
end

end Yae
