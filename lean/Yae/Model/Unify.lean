/-
  `types/unify.go`: substitutions, `applySubst`, `unify`, and `inferFun` of
  `types/typecheck.go`.  `applySubst` chases bindings and `unify` recurses into freshly built
  types, so both take fuel; `Yae.ufuel` (`Proofs/TyUnify`) and `Yae.PolyOK.sigOK_inferFun`
  (`Proofs/TypingPolyOK`) show the fuel used by the checker suffices.
-/
import Yae.Model.Ty
namespace Yae

abbrev Subst := List (String × Ty)

def Subst.get? (m : Subst) (n : String) : Option Ty :=
  match m with
  | [] => none
  | (k, v) :: rest => if k = n then some v else Subst.get? rest n

def Subst.set (m : Subst) (n : String) (t : Ty) : Subst :=
  match m with
  | [] => [(n, t)]
  | (k, v) :: rest => if k = n then (k, t) :: rest else (k, v) :: Subst.set rest n t

/-- Failure modes of the unifier: `fail` is Go's `nil` result, `panic` an assertion raised
inside (`types.Map` on a non-keyable key, `Unreachable`), `fuel` never happens for the fuel the
callers pass (theorem), it is kept distinct so that it cannot hide behind `fail`. -/
inductive UErr where
  | fail | panic (msg : String) | fuel
  deriving Repr, DecidableEq

abbrev UM := Except UErr

/-- `types.Map`: asserts the key is keyable. -/
def mkMap (k v : Ty) : UM Ty :=
  if k.keyable then pure (.map k v) else throw (.panic "invalid type of map's key")

mutual
def applySubst (fuel : Nat) (m : Subst) : Ty → UM Ty
  | .var n =>
    match m.get? n with
    | none => pure (.var n)
    | some r =>
      match r with
      | .var n' => if n' = n then pure (.var n) else
          match fuel with
          | 0 => throw .fuel
          | fuel+1 => applySubst fuel m (.var n')
      | r =>
          match fuel with
          | 0 => throw .fuel
          | fuel+1 => applySubst fuel m r
  | .list el => do pure (.list (← applySubst fuel m el))
  | .map k v => do
      let k' ← applySubst fuel m k
      let v' ← applySubst fuel m v
      mkMap k' v'
  | .tuple ts => do pure (.tuple (← applySubstList fuel m ts))
  | .obj fs => do pure (.obj (← applySubstFields fuel m fs))
  | .fn name ps r => do
      let ps' ← applySubstList fuel m ps
      let r' ← applySubst fuel m r
      pure (.fn name ps' r')
  | .maybe el => do pure (.maybe (← applySubst fuel m el))
  | t => pure t
termination_by t => (fuel, sizeOf t)
def applySubstList (fuel : Nat) (m : Subst) : TyList → UM TyList
  | .nil => pure .nil
  | .cons t ts => do
      let t' ← applySubst fuel m t
      let ts' ← applySubstList fuel m ts
      pure (.cons t' ts')
termination_by ts => (fuel, sizeOf ts)
def applySubstFields (fuel : Nat) (m : Subst) : FieldList → UM FieldList
  | .nil => pure .nil
  | .cons n t fs => do
      let t' ← applySubst fuel m t
      let fs' ← applySubstFields fuel m fs
      pure (.cons n t' fs')
termination_by fs => (fuel, sizeOf fs)
end

mutual
/-- `types.unify` (the pointer-pair set only guards against cyclic *Type graphs, which the
model's trees cannot be). Returns the unified type and the updated substitution. -/
def unify (fuel : Nat) (x y : Ty) (m : Subst) : UM (Ty × Subst) :=
  match fuel with
  | 0 => throw .fuel
  | fuel+1 => do
    -- case x.Kind == KTyVar && y.Kind == KTyVar && Equals(applySubst(x), applySubst(y))
    let both ← (match x, y with
      | .var _, .var _ => do
          let x1 ← applySubst fuel m x
          let y1 ← applySubst fuel m y
          pure (tyEq x1 y1)
      | _, _ => pure false : UM Bool)
    if both then pure (x, m)
    else if x.isPrimitive && y.isPrimitive && x.kind == y.kind then pure (x, m)
    else if x.isComposite && y.isComposite && x.kind == y.kind then unifyComposite fuel x y m
    else match x, y with
      | .var xn, _ => do
          let y1 ← applySubst fuel m y
          if freeFrom xn y1 then
            match m.get? xn with
            | some k => if !tyEq k y1 then throw .fail else pure (y1, m.set xn y1)
            | none => pure (y1, m.set xn y1)
          else throw .fail
      | _, .var yn => do
          let x1 ← applySubst fuel m x
          if freeFrom yn x1 then
            match m.get? yn with
            | some k => if !tyEq k x1 then throw .fail else pure (x1, m.set yn x1)
            | none => pure (x1, m.set yn x1)
          else throw .fail
      | _, .bot => pure (x, m)
      | .top, _ => pure (x, m)
      | _, _ => throw .fail
def unifyComposite (fuel : Nat) (x y : Ty) (m : Subst) : UM (Ty × Subst) :=
  match x, y with
  | .list a, .list b => do
      let (el, m) ← unify fuel a b m
      pure (.list el, m)
  | .map k v, .map k' v' => do
      let (k1, m) ← unify fuel k k' m
      let (v1, m) ← unify fuel v v' m
      let t ← mkMap k1 v1
      pure (t, m)
  | .tuple xs, .tuple ys =>
      if xs.length != ys.length then throw .fail else do
      let (ts, m) ← unifyList fuel xs ys m
      pure (.tuple ts, m)
  | .obj xfs, .obj yfs =>
      if xfs.length != yfs.length then throw .fail else do
      let (fs, m) ← unifyFields fuel xfs yfs m
      pure (.obj fs, m)
  | .fn name ps r, .fn _ qs s =>
      if ps.length != qs.length then throw .fail else do
      let (ps', m) ← unifyParams fuel ps qs m
      let (r', m) ← unify fuel r s m
      pure (.fn name ps' r', m)
  | .maybe a, .maybe b => do
      let (el, m) ← unify fuel a b m
      pure (.maybe el, m)
  | _, _ => throw (.panic "unreachable")
def unifyList (fuel : Nat) (xs ys : TyList) (m : Subst) : UM (TyList × Subst) :=
  match xs, ys with
  | .cons x xs, .cons y ys => do
      let (t, m) ← unify fuel x y m
      let (ts, m) ← unifyList fuel xs ys m
      pure (.cons t ts, m)
  | _, _ => pure (.nil, m)
/-- object fields: for each field of `x` in order, the field of the same name in `y`. -/
def unifyFields (fuel : Nat) (xfs yfs : FieldList) (m : Subst) : UM (FieldList × Subst) :=
  match xfs with
  | .nil => pure (.nil, m)
  | .cons n t rest =>
    match yfs.find? n with
    | none => throw .fail
    | some u => do
      let (t', m) ← unify fuel t u m
      let (fs, m) ← unifyFields fuel rest yfs m
      pure (.cons n t' fs, m)
/-- function parameters are substituted before they are unified. -/
def unifyParams (fuel : Nat) (ps qs : TyList) (m : Subst) : UM (TyList × Subst) :=
  match ps, qs with
  | .cons p ps, .cons q qs => do
      let p1 ← applySubst fuel m p
      let q1 ← applySubst fuel m q
      let (t, m) ← unify fuel p1 q1 m
      let (ts, m) ← unifyParams fuel ps qs m
      pure (.cons t ts, m)
  | _, _ => pure (.nil, m)
end

/-- Fresh variable names as `types.TyVar` makes them: prefix followed by the counter. -/
def freshName (pre : String) (n : Nat) : String := pre ++ toString n

def freshVars (pre : String) (start : Nat) : Nat → TyList
  | 0 => .nil
  | k+1 => .cons (.var (freshName pre start)) (freshVars pre (start+1) k)

def defaultFuel : Nat := 100000

/-- `inferFun f args`; `ctr` is the value of the global type-variable counter before the call
(`argc+1` names are drawn).  Result: instantiated parameter list and return type. -/
def inferFun (ctr : Nat) (fname : String) (params : TyList) (ret : Ty) (args : TyList) :
    UM (TyList × Ty) := do
  let argc := args.length
  let sx := freshVars "s" (ctr+1) argc
  let s : Ty := .tuple sx
  let t : Ty := .var (freshName "t" (ctr+argc+1))
  let pseudo : Ty := .fn fname (.cons s .nil) t
  let fn : Ty := .fn fname (.cons (.tuple params) .nil) ret
  let (_, m) ← unify defaultFuel pseudo fn []
  let targ : Ty := .tuple args
  let targ1 ← applySubst defaultFuel m s
  let (targ2, m) ← unify defaultFuel targ1 targ m
  match targ2 with
  | .tuple ps =>
    let tres ← applySubst defaultFuel m t
    if !slotFree tres then throw .fail
    pure (ps, tres)
  | _ => throw .fail

end Yae
