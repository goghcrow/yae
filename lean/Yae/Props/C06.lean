/-
  C06. "Conditionals and the short-circuit operators (and any function registered as lazy)
  evaluate the condition once and then only the operand that is selected, so a guarded partial
  operation such as if(isset(m,k), m[k], d) can never fail; all other operands - call arguments,
  list elements, map entries, object fields - are evaluated exactly once in source order. The
  sequence of host-function invocations observed during evaluation is therefore fully determined
  by the program and is the same on every back end."

  Model: `Yae.Model.Eval` (`eval`, the reference evaluator both back ends are tied to by their
  correspondence streams).  `EvalM α = List Event → Except Fail α × List Event` threads the log of
  observable events (most recent first).  `seq`: `Yae.Proofs.EvalMLemmas`; the shared steps:
  `Yae.Proofs.TypingEval`.

  Reading the statements: `seq r k` runs `k` from the result and the log of `r` when `r`
  succeeded and otherwise stops with `r`'s failure and log.  Each theorem is an *equation* for one
  evaluation step: the operands that occur on the right-hand side, in the order in which the log
  is threaded through them, are exactly the operands that are evaluated, each once.  An operand
  that does not occur on a branch of the right-hand side is not evaluated on that branch.
-/
import Yae.Proofs.TypingEval
import Yae.Proofs.BuiltinRows
namespace Yae.C06
open Yae

/-! ## lazy built-ins: the condition once, then only the selected operand -/

/-- `if(c, t, e)` (a call statically resolved to the lazy built-in `if`): `c` is evaluated from
the incoming log; on `true` only `t` is evaluated, from the log `c` left; on `false` only `e`; a
failure of `c` is the result and neither branch is touched; then the debug record. -/
theorem if_lazy (f : Nat) (dbg : Bool) (ρ : REnv) (p : Pos) (col : Int) (callee c t e : Expr)
    (cty : Option Ty) (resolved : String) (index : Int) (d : FunDecl) (idx : Nat)
    (b : BuiltinDecl) (log : List Event)
    (hres : resolved ≠ "") (hd : resolveStatic ρ.funs resolved index = some d)
    (href : d.ref = .builtin idx) (hlazy : d.isLazy = true)
    (hb : builtins[idx]? = some b) (hid : b.id = .IF_BOOL_ANY_ANY) :
    eval (f+1) dbg ρ (.call p col callee (.cons c (.cons t (.cons e .nil))) cty resolved index) log =
      seq (seq (eval f dbg ρ c log) fun cv l1 =>
            match cv with
            | .bool true => eval f dbg ρ t l1
            | .bool false => eval f dbg ρ e l1
            | _ => (.error (.stuck "cast:bool"), l1))
        fun v l => recDbg dbg v col l := by
  rw [eval_call_static' hres hd, href, hlazy]
  congr 1
  rw [callFun]
  simp only [hb, hid, ↓reduceIte]
  rw [EvalM.bind_apply]
  congr 1; funext cv l1
  cases cv <;> try rfl
  next v => cases v <;> rfl

/-- non-vacuity: in the built-in table `"∀.λ if 3"`, index 0 is the lazy built-in number 22, `if` -/
example : ∃ d idx b, resolveStatic builtinFuns "∀.λ if 3" 0 = some d ∧ d.ref = .builtin idx ∧
    d.isLazy = true ∧ builtins[idx]? = some b ∧ b.id = .IF_BOOL_ANY_ANY := by
  obtain ⟨ty, h⟩ := isBuiltinRef_elim guardFuns_builtin.1
  exact ⟨_, 22, _, h, rfl, rfl, rfl, rfl⟩

theorem if_true (f : Nat) (dbg : Bool) (ρ : REnv) (p : Pos) (col : Int) (callee c t e : Expr)
    (cty : Option Ty) (resolved : String) (index : Int) (d : FunDecl) (idx : Nat)
    (b : BuiltinDecl) (log l1 : List Event)
    (hres : resolved ≠ "") (hd : resolveStatic ρ.funs resolved index = some d)
    (href : d.ref = .builtin idx) (hlazy : d.isLazy = true)
    (hb : builtins[idx]? = some b) (hid : b.id = .IF_BOOL_ANY_ANY)
    (hc : eval f dbg ρ c log = (.ok (.bool true), l1)) :
    eval (f+1) dbg ρ (.call p col callee (.cons c (.cons t (.cons e .nil))) cty resolved index) log =
      seq (eval f dbg ρ t l1) fun v l => recDbg dbg v col l := by
  rw [if_lazy f dbg ρ p col callee c t e cty resolved index d idx b log hres hd href hlazy hb hid,
    hc, seq_ok]

theorem if_false (f : Nat) (dbg : Bool) (ρ : REnv) (p : Pos) (col : Int) (callee c t e : Expr)
    (cty : Option Ty) (resolved : String) (index : Int) (d : FunDecl) (idx : Nat)
    (b : BuiltinDecl) (log l1 : List Event)
    (hres : resolved ≠ "") (hd : resolveStatic ρ.funs resolved index = some d)
    (href : d.ref = .builtin idx) (hlazy : d.isLazy = true)
    (hb : builtins[idx]? = some b) (hid : b.id = .IF_BOOL_ANY_ANY)
    (hc : eval f dbg ρ c log = (.ok (.bool false), l1)) :
    eval (f+1) dbg ρ (.call p col callee (.cons c (.cons t (.cons e .nil))) cty resolved index) log =
      seq (eval f dbg ρ e l1) fun v l => recDbg dbg v col l := by
  rw [if_lazy f dbg ρ p col callee c t e cty resolved index d idx b log hres hd href hlazy hb hid,
    hc, seq_ok]

theorem if_cond_fails (f : Nat) (dbg : Bool) (ρ : REnv) (p : Pos) (col : Int)
    (callee c t e : Expr) (cty : Option Ty) (resolved : String) (index : Int) (d : FunDecl)
    (idx : Nat) (b : BuiltinDecl) (log l1 : List Event) (x : Fail)
    (hres : resolved ≠ "") (hd : resolveStatic ρ.funs resolved index = some d)
    (href : d.ref = .builtin idx) (hlazy : d.isLazy = true)
    (hb : builtins[idx]? = some b) (hid : b.id = .IF_BOOL_ANY_ANY)
    (hc : eval f dbg ρ c log = (.error x, l1)) :
    eval (f+1) dbg ρ (.call p col callee (.cons c (.cons t (.cons e .nil))) cty resolved index) log =
      (.error x, l1) := by
  rw [if_lazy f dbg ρ p col callee c t e cty resolved index d idx b log hres hd href hlazy hb hid,
    hc, seq_error, seq_error]

/-- non-vacuity of the three: conditions with each outcome exist -/
example : eval 1 false ⟨[], builtinFuns, {}⟩ (.bool Pos.unknown true) [] = (.ok (.bool true), []) ∧
    eval 1 false ⟨[], builtinFuns, {}⟩ (.bool Pos.unknown false) [] = (.ok (.bool false), []) ∧
    eval 1 false ⟨[], builtinFuns, {}⟩ (.ident Pos.unknown "x") [] =
      (.error (.stuck "missing-var"), []) := by
  refine ⟨by rw [eval]; rfl, by rw [eval]; rfl, by rw [eval_ident']; rfl⟩

/-- `x && y`: `x` once; `y` only when `x` is `true`, from the log `x` left. -/
theorem and_lazy (f : Nat) (dbg : Bool) (ρ : REnv) (p : Pos) (col : Int) (callee x y : Expr)
    (cty : Option Ty) (resolved : String) (index : Int) (d : FunDecl) (idx : Nat)
    (b : BuiltinDecl) (log : List Event)
    (hres : resolved ≠ "") (hd : resolveStatic ρ.funs resolved index = some d)
    (href : d.ref = .builtin idx) (hlazy : d.isLazy = true)
    (hb : builtins[idx]? = some b) (hid : b.id = .LOGIC_AND_BOOL_BOOL) :
    eval (f+1) dbg ρ (.call p col callee (.cons x (.cons y .nil)) cty resolved index) log =
      seq (seq (eval f dbg ρ x log) fun xv l1 =>
            match xv with
            | .bool true =>
              seq (eval f dbg ρ y l1) fun yv l2 =>
                match yv with
                | .bool r => (.ok (.bool r), l2)
                | _ => (.error (.stuck "cast:bool"), l2)
            | .bool false => (.ok (.bool false), l1)
            | _ => (.error (.stuck "cast:bool"), l1))
        fun v l => recDbg dbg v col l := by
  rw [eval_call_static' hres hd, href, hlazy]
  congr 1
  rw [callFun]
  simp only [hb, hid, ↓reduceIte]
  rw [EvalM.bind_apply]
  congr 1; funext xv l1
  cases xv <;> try rfl
  next v =>
    cases v
    · rfl
    · dsimp only
      rw [EvalM.bind_apply]; congr 1; funext yv l2
      cases yv <;> rfl

set_option maxRecDepth 100000 in
example : ∃ d idx b, resolveStatic builtinFuns "λ && (bool, bool)" (-1) = some d ∧
    d.ref = .builtin idx ∧ d.isLazy = true ∧ builtins[idx]? = some b ∧
    b.id = .LOGIC_AND_BOOL_BOOL := by
  obtain ⟨ty, h⟩ := isBuiltinRef_elim
    (show isBuiltinRef (resolveStatic builtinFuns "λ && (bool, bool)" (-1)) 30 true = true by decide)
  exact ⟨_, 30, _, h, rfl, rfl, rfl, rfl⟩

/-- `x || y`: `x` once; `y` only when `x` is `false`, from the log `x` left. -/
theorem or_lazy (f : Nat) (dbg : Bool) (ρ : REnv) (p : Pos) (col : Int) (callee x y : Expr)
    (cty : Option Ty) (resolved : String) (index : Int) (d : FunDecl) (idx : Nat)
    (b : BuiltinDecl) (log : List Event)
    (hres : resolved ≠ "") (hd : resolveStatic ρ.funs resolved index = some d)
    (href : d.ref = .builtin idx) (hlazy : d.isLazy = true)
    (hb : builtins[idx]? = some b) (hid : b.id = .LOGIC_OR_BOOL_BOOL) :
    eval (f+1) dbg ρ (.call p col callee (.cons x (.cons y .nil)) cty resolved index) log =
      seq (seq (eval f dbg ρ x log) fun xv l1 =>
            match xv with
            | .bool true => (.ok (.bool true), l1)
            | .bool false =>
              seq (eval f dbg ρ y l1) fun yv l2 =>
                match yv with
                | .bool r => (.ok (.bool r), l2)
                | _ => (.error (.stuck "cast:bool"), l2)
            | _ => (.error (.stuck "cast:bool"), l1))
        fun v l => recDbg dbg v col l := by
  rw [eval_call_static' hres hd, href, hlazy]
  congr 1
  rw [callFun]
  simp only [hb, hid, ↓reduceIte]
  rw [EvalM.bind_apply]
  congr 1; funext xv l1
  cases xv <;> try rfl
  next v =>
    cases v
    · dsimp only
      rw [EvalM.bind_apply]; congr 1; funext yv l2
      cases yv <;> rfl
    · rfl

set_option maxRecDepth 100000 in
example : ∃ d idx b, resolveStatic builtinFuns "λ || (bool, bool)" (-1) = some d ∧
    d.ref = .builtin idx ∧ d.isLazy = true ∧ builtins[idx]? = some b ∧
    b.id = .LOGIC_OR_BOOL_BOOL := by
  obtain ⟨ty, h⟩ := isBuiltinRef_elim
    (show isBuiltinRef (resolveStatic builtinFuns "λ || (bool, bool)" (-1)) 32 true = true by decide)
  exact ⟨_, 32, _, h, rfl, rfl, rfl, rfl⟩

/-- A host function registered as lazy: its invocation is recorded first, then it forces the
thunks it chooses (`order`) one after the other, each from the log the previous one left, and
no other operand. -/
theorem lazy_host (f : Nat) (dbg : Bool) (ρ : REnv) (name : String) (order : List Nat)
    (args : ExprList) (log : List Event) :
    callFun f dbg ρ (.host name (.force order)) true args log =
      forceSeq f dbg ρ args order none (Event.call name [] :: log) := by
  rw [callFun]
  simp only [↓reduceIte]
  rw [EvalM.bind_apply]
  rfl

theorem lazy_host_step (f : Nat) (dbg : Bool) (ρ : REnv) (args : ExprList) (i : Nat)
    (rest : List Nat) (last : Option Val) (a : Expr) (ha : args.get? i = some a)
    (log : List Event) :
    forceSeq f dbg ρ args (i :: rest) last log =
      seq (eval f dbg ρ a log) fun v l => forceSeq f dbg ρ args rest (some v) l := by
  rw [forceSeq]
  simp only [ha]
  rw [EvalM.bind_apply]

example : (ExprList.cons (.bool Pos.unknown true) .nil).get? 0 = some (.bool Pos.unknown true) := rfl

/-! ## strict operands: every one exactly once, in source order -/

/-- operand lists (call arguments, list elements): the head from the incoming log, the tail from
the log the head left -/
theorem operands_in_order (f : Nat) (dbg : Bool) (ρ : REnv) (a : Expr) (as : ExprList)
    (log : List Event) :
    evalList f dbg ρ (.cons a as) log =
      seq (eval f dbg ρ a log) fun v l1 =>
      seq (evalList f dbg ρ as l1) fun vs l2 => (.ok (.cons v vs), l2) := by
  rw [evalList, EvalM.bind_apply]
  rfl

theorem operands_nil (f : Nat) (dbg : Bool) (ρ : REnv) (log : List Event) :
    evalList f dbg ρ .nil log = (.ok .nil, log) := by
  rw [evalList]; rfl

/-- a strict built-in: the arguments in order, then the function, then what it printed -/
theorem strict_order_builtin (f : Nat) (dbg : Bool) (ρ : REnv) (p : Pos) (col : Int)
    (callee : Expr) (args : ExprList) (cty : Option Ty) (resolved : String) (index : Int)
    (d : FunDecl) (idx : Nat) (b : BuiltinDecl) (log : List Event)
    (hres : resolved ≠ "") (hd : resolveStatic ρ.funs resolved index = some d)
    (href : d.ref = .builtin idx) (hlazy : d.isLazy = false) (hb : builtins[idx]? = some b) :
    eval (f+1) dbg ρ (.call p col callee args cty resolved index) log =
      seq (seq (evalList f dbg ρ args log) fun vs l =>
            match applyBuiltin ρ.ext b.id vs.toList with
            | .ok (v, evs) => (.ok v, evs.reverse ++ l)
            | .error x => (.error x, l))
        fun v l => recDbg dbg v col l := by
  rw [eval_call_static' hres hd, href, hlazy]
  congr 1
  rw [callFun]
  simp only [hb, Bool.false_eq_true, ↓reduceIte]
  rw [EvalM.bind_apply]
  congr 1; funext vs l
  rw [EvalM.bind_apply]
  unfold EvalM.lift
  cases applyBuiltin ρ.ext b.id vs.toList with
  | error x => rfl
  | ok r => rcases r with ⟨v, evs⟩; rfl

example : ∃ d idx b, resolveStatic builtinFuns "∀.λ isset 2" 0 = some d ∧
    d.ref = .builtin idx ∧ d.isLazy = false ∧ builtins[idx]? = some b := by
  obtain ⟨ty, h⟩ := isBuiltinRef_elim guardFuns_builtin.2
  exact ⟨_, 24, _, h, rfl, rfl, rfl⟩

/-- a strict host function: the arguments in order, then exactly one invocation event carrying
the rendered argument values -/
theorem strict_order_host (f : Nat) (dbg : Bool) (ρ : REnv) (p : Pos) (col : Int)
    (callee : Expr) (args : ExprList) (cty : Option Ty) (resolved : String) (index : Int)
    (d : FunDecl) (name : String) (beh : HostBeh) (log : List Event)
    (hres : resolved ≠ "") (hd : resolveStatic ρ.funs resolved index = some d)
    (href : d.ref = .host name beh) (hlazy : d.isLazy = false) :
    eval (f+1) dbg ρ (.call p col callee args cty resolved index) log =
      seq (seq (evalList f dbg ρ args log) fun vs l => hostStrict name beh vs.toList l)
        fun v l => recDbg dbg v col l := by
  rw [eval_call_static' hres hd, href, hlazy]
  congr 1
  unfold callFun
  simp only [Bool.false_eq_true, ↓reduceIte]
  rw [EvalM.bind_apply]

example : resolveStatic [⟨.fn "h" (.cons .num .nil) .num, .host "h" (.retArg 0), false⟩]
    "λ h (num)" (-1) = some ⟨.fn "h" (.cons .num .nil) .num, .host "h" (.retArg 0), false⟩ := by
  rfl

theorem host_invocation_event (name : String) (beh : HostBeh) (vs : List Val) (l : List Event) :
    (hostStrict name beh vs l).2 = Event.call name (vs.map Val.render) :: l := by
  unfold hostStrict
  rw [EvalM.bind_apply]
  show (seq (Except.ok (), Event.call name (vs.map Val.render) :: l) _).2 = _
  rw [seq_ok]
  cases beh <;> try rfl
  next i => dsimp only; cases vs[i]? <;> rfl

/-- a dynamically dispatched call: the callee expression first, then the call as above -/
theorem dynamic_call_order (f : Nat) (dbg : Bool) (ρ : REnv) (p : Pos) (col : Int)
    (callee : Expr) (args : ExprList) (cty : Option Ty) (index : Int) (log : List Event) :
    eval (f+1) dbg ρ (.call p col callee args cty "" index) log =
      seq (seq (eval f dbg ρ callee log) fun fv l1 =>
            match fv with
            | .fn (.fn _ _ _) ref isLazy => callFun f dbg ρ ref isLazy args l1
            | _ => (.error (.stuck "cast:fun"), l1))
        fun v l => recDbg dbg v col l := by
  rw [eval, EvalM.bind_apply]
  congr 1
  simp only [beq_self_eq_true, ↓reduceIte]
  rw [EvalM.bind_apply]
  congr 1; funext fv l1
  cases fv <;> try rfl
  next ty ref isLazy => cases ty <;> rfl

/-- list literal: the elements in order -/
theorem list_order (f : Nat) (dbg : Bool) (ρ : REnv) (p : Pos) (a : Expr) (as : ExprList)
    (ty : Option Ty) (log : List Event) :
    eval (f+1) dbg ρ (.list p (.cons a as) ty) log =
      seq (evalList f dbg ρ (.cons a as) log) fun vs l =>
        match ty with
        | some t => (.ok (.list t vs), l)
        | none => (.error (.stuck "list-untyped"), l) := by
  rw [eval]
  · rw [EvalM.bind_apply]
    congr 1; funext vs l
    cases ty <;> rfl
  · intro h; cases h

/-- map literal: entry by entry, the key before its value -/
theorem map_order (f : Nat) (dbg : Bool) (ρ : REnv) (p : Pos) (k v : Expr) (ps : PairList)
    (t : Ty) (log : List Event) :
    eval (f+1) dbg ρ (.map p (.cons k v ps) (some t)) log =
      seq (evalPairs f dbg ρ (.cons k v ps) .nil log) fun es l => (.ok (.map t es), l) := by
  rw [eval]
  · rw [EvalM.bind_apply]
    rfl
  · intro h; cases h

theorem map_entries_order (f : Nat) (dbg : Bool) (ρ : REnv) (k v : Expr) (ps : PairList)
    (acc : EntryList) (log : List Event) :
    evalPairs f dbg ρ (.cons k v ps) acc log =
      seq (eval f dbg ρ k log) fun kv l1 =>
        match kv.key? with
        | some (t, ks) =>
          seq (eval f dbg ρ v l1) fun vv l2 => evalPairs f dbg ρ ps (acc.insert t ks vv) l2
        | none => (.error (.stuck "invalid map key type"), l1) := by
  rw [evalPairs, EvalM.bind_apply]
  congr 1; funext kv l1
  split
  · next t ks h => simp only [h]; rw [EvalM.bind_apply]
  · next h => simp only [h]; rfl

/-- object literal: the field values in order -/
theorem obj_order (f : Nat) (dbg : Bool) (ρ : REnv) (p : Pos) (n : String) (a : Expr)
    (fs : FieldEList) (ty : Option Ty) (log : List Event) :
    eval (f+1) dbg ρ (.obj p (.cons n a fs) ty) log =
      seq (evalFields f dbg ρ (.cons n a fs) log) fun vs l =>
        match ty with
        | some t => (.ok (.obj t vs), l)
        | none => (.error (.stuck "obj-untyped"), l) := by
  rw [eval]
  · rw [EvalM.bind_apply]
    congr 1; funext vs l
    cases ty <;> rfl
  · intro h; cases h

theorem obj_fields_order (f : Nat) (dbg : Bool) (ρ : REnv) (n : String) (a : Expr)
    (fs : FieldEList) (log : List Event) :
    evalFields f dbg ρ (.cons n a fs) log =
      seq (eval f dbg ρ a log) fun v l1 =>
      seq (evalFields f dbg ρ fs l1) fun vs l2 => (.ok (.cons v vs), l2) := by
  rw [evalFields, EvalM.bind_apply]
  rfl

/-- subscript: the container, then the index (`subscriptStep` evaluates `idx` once, for a list
or a map container, and not at all otherwise), then the lookup -/
theorem subscript_order (f : Nat) (dbg : Bool) (ρ : REnv) (p : Pos) (col : Int)
    (var idx : Expr) (vty : Option Ty) (log : List Event) :
    eval (f+1) dbg ρ (.subscript p col var idx vty) log =
      seq (eval f dbg ρ var log) fun x l1 =>
      seq (subscriptStep f dbg ρ idx x l1) fun v l2 => recDbg dbg v col l2 := by
  rw [eval, EvalM.bind_apply]
  congr 1; funext x l1
  rw [EvalM.bind_apply]
  congr 1
  unfold subscriptStep
  cases x <;> try rfl
  · dsimp only
    rw [EvalM.bind_apply]
    congr 1; funext i l2
    cases i <;> try rfl
    dsimp only
    split
    · rfl
    · generalize ValList.get? _ _ = o
      cases o <;> rfl
  · dsimp only
    rw [EvalM.bind_apply]
    congr 1; funext k l2
    generalize k.key? = o
    cases o with
    | none => rfl
    | some tk =>
      rcases tk with ⟨t, ks⟩
      dsimp only
      generalize EntryList.find? _ t ks = o2
      cases o2 <;> rfl

/-- `if(isset(m,k), m[k], d)` over a map value `m`, a primitive key value `k` and any `d`
evaluates to the entry when the key is present and to `d` otherwise. -/
theorem guard_value (fuel : Nat) (dbg : Bool) (ρ : REnv) (pos : Pos) (col : Int)
    (m k d : String) (a1 a2 a3 : Option Ty) (ty : Ty) (es : EntryList) (kv dv : Val)
    (t : Kind) (ks : String) (log : List Event)
    (hf : GuardFuns ρ.funs)
    (hm : ρ.lookupVar m = some (.map ty es)) (hk : ρ.lookupVar k = some kv)
    (hkey : kv.key? = some (t, ks)) (hd : ρ.lookupVar d = some dv) :
    (eval (fuel+3) dbg ρ (guardTree pos col m k d a1 a2 a3) log).1 =
      .ok (match es.find? t ks with
           | some v => v
           | none => dv) := by
  obtain ⟨ty1, h1⟩ := isBuiltinRef_elim hf.1
  obtain ⟨ty2, h2⟩ := isBuiltinRef_elim hf.2
  obtain ⟨bIf, b22, hIf⟩ : ∃ b, builtins[22]? = some b ∧ b.id = .IF_BOOL_ANY_ANY := ⟨_, rfl, rfl⟩
  obtain ⟨bIs, b24, hIs⟩ : ∃ b, builtins[24]? = some b ∧ b.id = .ISSET_MAP_ANY := ⟨_, rfl, rfl⟩
  unfold guardTree
  rw [if_lazy _ _ _ _ _ _ _ _ _ _ _ _ _ _ _ _ (by decide) h1 rfl rfl b22 hIf]
  rw [strict_order_builtin _ _ _ _ _ _ _ _ _ _ _ _ _ _ (by decide) h2 rfl rfl b24]
  have hisset : applyBuiltin ρ.ext .ISSET_MAP_ANY [.map ty es, kv] =
      .ok (.bool (es.find? t ks).isSome, []) := by
    rw [applyBuiltin_ISSET, hkey]
  simp only [operands_in_order, operands_nil, eval_ident', hm, hk, recDbg_apply, seq_ok,
    ValList.toList, hIs, hisset]
  cases hfind : es.find? t ks with
  | none =>
    simp only [Option.isSome_none, seq_ok, hd]
  | some v =>
    simp only [Option.isSome_some]
    rw [subscript_order]
    simp only [eval_ident', hm, hk, recDbg_apply, seq_ok, subscriptStep, hkey, hfind]

/-- The guarded lookup `if(isset(m,k), m[k], d)` never fails, with a missing key or with anything
else (`guard_value`). -/
theorem guard_safe (fuel : Nat) (dbg : Bool) (ρ : REnv) (pos : Pos) (col : Int)
    (m k d : String) (a1 a2 a3 : Option Ty) (ty : Ty) (es : EntryList) (kv dv : Val)
    (t : Kind) (ks : String) (log : List Event)
    (hf : GuardFuns ρ.funs)
    (hm : ρ.lookupVar m = some (.map ty es)) (hk : ρ.lookupVar k = some kv)
    (hkey : kv.key? = some (t, ks)) (hd : ρ.lookupVar d = some dv) :
    ∀ x, (eval (fuel+3) dbg ρ (guardTree pos col m k d a1 a2 a3) log).1 ≠ .error x := by
  intro x
  rw [guard_value fuel dbg ρ pos col m k d a1 a2 a3 ty es kv dv t ks log hf hm hk hkey hd]
  intro h; cases h

/-- non-vacuity: the built-in table, a map without the key `"x"`, the key `"x"`, a default -/
example : GuardFuns builtinFuns ∧
    (⟨[("m", .map (.map .str .num) .nil), ("k", .str "x"), ("d", .num 0)], builtinFuns, {}⟩ :
      REnv).lookupVar "m" = some (.map (.map .str .num) .nil) ∧
    (⟨[("m", .map (.map .str .num) .nil), ("k", .str "x"), ("d", .num 0)], builtinFuns, {}⟩ :
      REnv).lookupVar "k" = some (.str "x") ∧
    (Val.str "x").key? = some (.str, Num.quote "x") ∧
    (⟨[("m", .map (.map .str .num) .nil), ("k", .str "x"), ("d", .num 0)], builtinFuns, {}⟩ :
      REnv).lookupVar "d" = some (.num 0) :=
  ⟨guardFuns_builtin, rfl, rfl, rfl, rfl⟩

/-- without the guard the same lookup does fail: `m[k]` on the map without the key -/
example : (eval 2 false
    ⟨[("m", .map (.map .str .num) .nil), ("k", .str "x")], builtinFuns, {}⟩
    (.subscript Pos.unknown 0 (.ident Pos.unknown "m") (.ident Pos.unknown "k") none) []).1 =
    .error .missingKey := by
  rw [subscript_order, eval_ident']
  have h1 : (⟨[("m", .map (.map .str .num) .nil), ("k", .str "x")], builtinFuns, {}⟩ :
      REnv).lookupVar "m" = some (.map (.map .str .num) .nil) := rfl
  have h2 : (⟨[("m", .map (.map .str .num) .nil), ("k", .str "x")], builtinFuns, {}⟩ :
      REnv).lookupVar "k" = some (.str "x") := rfl
  simp only [h1, recDbg_apply, seq_ok, subscriptStep, eval_ident', h2, Val.key?,
    EntryList.find?, seq_error]

/-- Congruence of `=`, true of any function: that the result and the log of events are determined
by the inputs is what it means for `eval` to be a function of the model. -/
theorem determined (f₁ f₂ : Nat) (d₁ d₂ : Bool) (ρ₁ ρ₂ : REnv) (e₁ e₂ : Expr)
    (l₁ l₂ : List Event) (hf : f₁ = f₂) (hd : d₁ = d₂) (hρ : ρ₁ = ρ₂) (he : e₁ = e₂)
    (hl : l₁ = l₂) : eval f₁ d₁ ρ₁ e₁ l₁ = eval f₂ d₂ ρ₂ e₂ l₂ := by
  subst hf hd hρ he hl; rfl

end Yae.C06

#print axioms Yae.C06.if_lazy
#print axioms Yae.C06.if_true
#print axioms Yae.C06.if_false
#print axioms Yae.C06.if_cond_fails
#print axioms Yae.C06.and_lazy
#print axioms Yae.C06.or_lazy
#print axioms Yae.C06.lazy_host
#print axioms Yae.C06.lazy_host_step
#print axioms Yae.C06.operands_in_order
#print axioms Yae.C06.operands_nil
#print axioms Yae.C06.strict_order_builtin
#print axioms Yae.C06.strict_order_host
#print axioms Yae.C06.host_invocation_event
#print axioms Yae.C06.dynamic_call_order
#print axioms Yae.C06.list_order
#print axioms Yae.C06.map_order
#print axioms Yae.C06.map_entries_order
#print axioms Yae.C06.obj_order
#print axioms Yae.C06.obj_fields_order
#print axioms Yae.C06.subscript_order
#print axioms Yae.C06.guard_value
#print axioms Yae.C06.guard_safe
#print axioms Yae.C06.determined
