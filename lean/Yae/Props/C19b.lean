/-
  C19 at the level of the engine object (`Yae/Model/Engine.lean`): "Evaluating an expression in
  debug (power-assert) mode returns the same value or failure as normal evaluation …".

  `yae.Debug` is `NewExpr().UseCompiler(closure.DebugCompile)`; the same Callable compiled with
  the debug compiler and with the closure compiler (same environment, same tree, same function
  table) is invoked on the same run-time environment:
    * `engine_debug_same_result`: same value / same failure / same environment error, and the
      observable events (host calls, print lines) are the same, in the same order — the debug
      run only ADDS debug entries;
    * `engine_debug_reject_records_nothing`: when the environment check refuses, the debug
      Callable records nothing either.
-/
import Yae.Props.C19
import Yae.Props.C07b
namespace Yae.C19
open Yae Yae.Facade Yae.DebugEval

/-- `c` with its back end replaced by `b` -/
def withBackend (c : Callable) (b : Backend) : Callable := { c with backend := b }

theorem engine_debug_same_result (e : Engine) (c : Callable) (venv : List (String × Val))
    (ext : Externs) :
    (e.invoke (withBackend c .closureDebug) venv ext).1 = (e.invoke (withBackend c .closure) venv ext).1 ∧
    stripDbg (e.invoke (withBackend c .closureDebug) venv ext).2 =
      (e.invoke (withBackend c .closure) venv ext).2 := by
  unfold Engine.invoke withBackend
  simp only [Backend.dbg, Engine.tableFor, Backend.late]
  cases hc : envCheck c.tenv venv with
  | error err => simp [stripDbg]
  | ok u =>
    have h := same_run ⟨venv, c.funs, ext⟩ c.tree
    simp only [Bool.false_eq_true, if_false]
    rcases hd : runEval true ⟨venv, c.funs, ext⟩ c.tree with ⟨rd, ed⟩
    rcases hn : runEval false ⟨venv, c.funs, ext⟩ c.tree with ⟨rn, en⟩
    rw [hd, hn] at h
    simp only at h
    obtain ⟨h1, h2⟩ := h
    subst h1 h2
    cases rd <;> simp

theorem engine_debug_reject_records_nothing (e : Engine) (c : Callable)
    (venv : List (String × Val)) (ext : Externs) {err : EnvErr}
    (h : envCheck c.tenv venv = .error err) :
    e.invoke (withBackend c .closureDebug) venv ext = (.error (.env err), []) :=
  C07.reject_evaluates_nothing e (withBackend c .closureDebug) venv ext h

end Yae.C19

#print axioms Yae.C19.engine_debug_same_result
#print axioms Yae.C19.engine_debug_reject_records_nothing
