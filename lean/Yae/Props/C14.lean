/-
  C14 (partial by nature, see DESIGN §10): what a model can carry about concurrency.

  (i)  `race_free`: a lockset-style theorem over abstract access traces — if every access to a
       shared cell obeys the cell's discipline (read-only, atomic-only, or guarded by one named
       lock), no two accesses of different threads form a data race.
  (ii) the inventory of write sites to state shared between API calls is REGENERATED from /repo
       (`Gen.sharedWrites`, harness/cmd/extract/shared.go) and must equal the list below, every
       entry of which is guarded by a mutex, atomic, or not reachable from the API;
  (iii) the only cross-engine shared state on the compile path is the type-variable counter, and
       the checker's verdict does not depend on its value (`outcome_independent_of_counter`):
       whatever fresh values concurrent compilations draw, each has the outcome it has alone.

  The Go memory model, the scheduler and real interleavings are not modelled: the `race`
  stress run under the race detector is the search for a failing schedule.
-/
import Yae.Gen.Shared
import Yae.Proofs.TypingCheck
namespace Yae.C14

inductive AKind where
  | read | write | atomic
  deriving DecidableEq, Repr

/-- one access of a thread to a shared cell, with the locks held at that moment -/
structure Access where
  thread : Nat
  cell : String
  kind : AKind
  locks : List String

/-- different threads, same cell, at least one plain write or a mix of plain and atomic -/
def Conflicting (a b : Access) : Prop :=
  a.thread ≠ b.thread ∧ a.cell = b.cell ∧
    (a.kind = .write ∨ b.kind = .write ∨ (a.kind = .atomic ∧ b.kind = .read) ∨ (a.kind = .read ∧ b.kind = .atomic))

def Synchronised (a b : Access) : Prop :=
  (a.kind = .atomic ∧ b.kind = .atomic) ∨ ∃ l, l ∈ a.locks ∧ l ∈ b.locks

def Race (a b : Access) : Prop := Conflicting a b ∧ ¬ Synchronised a b

inductive Discipline where
  | readOnly                 -- written only before any goroutine is started (package init)
  | atomicOnly               -- every access is a sync/atomic operation
  | lockedBy (l : String)    -- every access holds this lock

def Obeys (d : String → Discipline) (a : Access) : Prop :=
  match d a.cell with
  | .readOnly => a.kind = .read
  | .atomicOnly => a.kind = .atomic
  | .lockedBy l => l ∈ a.locks

theorem race_free (d : String → Discipline) (tr : List Access) (h : ∀ a ∈ tr, Obeys d a) :
    ∀ a ∈ tr, ∀ b ∈ tr, ¬ Race a b := by
  intro a ha b hb ⟨⟨_, hcell, hk⟩, hns⟩
  have oa := h a ha
  have ob := h b hb
  unfold Obeys at oa ob
  rw [← hcell] at ob
  generalize d a.cell = D at oa ob
  cases D with
  | readOnly => rcases hk with hk | hk | ⟨hk, _⟩ | ⟨_, hk⟩ <;> simp_all
  | atomicOnly => exact hns (Or.inl ⟨oa, ob⟩)
  | lockedBy l => exact hns (Or.inr ⟨l, oa, ob⟩)

/-- non-vacuity: two threads bumping an atomic counter and reading a table under a lock -/
example : ∀ a ∈ ([⟨1, "n", .atomic, []⟩, ⟨2, "n", .atomic, []⟩, ⟨1, "tz", .write, ["mu"]⟩, ⟨2, "tz", .read, ["mu"]⟩] : List Access),
    Obeys (fun c => if c = "n" then .atomicOnly else .lockedBy "mu") a := by
  intro a ha
  simp only [List.mem_cons, List.not_mem_nil, or_false] at ha
  rcases ha with rfl | rfl | rfl | rfl <;> simp [Obeys]

/-- The write sites to shared state in the Go code (regenerated on every run) are exactly these:
the timelib zone cache under its mutex, the type-variable counter through sync/atomic, and the
node counter of the DOT debug printer (`parser/ast/dot.go`), which no API entry point reaches. -/
def expectedSharedWrites : List (String × String × String) := [
  ("parser/ast", "n", "plain"),
  ("timelib", "tzCache", "mutex"),
  ("types", "n", "atomic")]

/-- packages whose plain writes are not reachable from Eval / Compile / Callable / Debug -/
def unreachableFromApi : List String := ["parser/ast"]

/-- The inventory is compared by PACKAGE and GUARD (the variable names are regenerated too, for
the reader, but a renamed variable is the same cell): the same shared cells, each with the same
discipline. -/
theorem inventory_tie :
    Gen.sharedWrites.map (fun s => (s.1, s.2.2)) = expectedSharedWrites.map (fun s => (s.1, s.2.2)) := by
  decide +kernel

theorem inventory_disciplined :
    ∀ s ∈ Gen.sharedWrites, s.2.2 = "mutex" ∨ s.2.2 = "atomic" ∨ s.1 ∈ unreachableFromApi := by decide +kernel

/-- Whatever counter values concurrent compilations observe, a compilation that is accepted
with type `T` alone is accepted with `T`, or runs out of fuel — the outcome does not depend on
the shared counter.  This is the statement of `C05.counter_irrelevant_partial`, under the name the
header uses (`EnvOK` is `Yae.EnvOK`, the condition on the signatures).  The fuel alternative is
excluded for `SigEnv Γ` by `C05.never_fuel`; `C05.counter_irrelevant` is the statement without
it. -/
theorem outcome_independent_of_counter {Γ : TEnv} {c c' : Nat} {e e' : Expr} {T : Ty}
    (hΓ : EnvOK Γ) (h : check Γ c e = .ok (T, e', c')) (c₂ : Nat) :
    check Γ c₂ e = .error .fuel ∨ ∃ e'' c'', check Γ c₂ e = .ok (T, e'', c'') :=
  check_complete hΓ e T (check_sound hΓ e c T e' c' h) c₂

#print axioms race_free
#print axioms inventory_tie
#print axioms inventory_disciplined
#print axioms outcome_independent_of_counter

end Yae.C14
