/-
  Regenerated-table ties.  `Yae/Gen/*.lean` is rewritten from the Go source in /repo on every run by
  harness/cmd/extract; the theorems of the modules below say that what the Go code contains equals
  the tables the model and its proofs use.
-/
import Yae.Props.GenTie.Builtins
import Yae.Props.GenTie.Vm
import Yae.Props.GenTie.Parser
import Yae.Props.GenTie.Sql
import Yae.Props.GenTie.Conv
import Yae.Props.GenTie.Lexer
