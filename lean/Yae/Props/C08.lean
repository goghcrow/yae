/-
  C08. "For every operator table … the parser returns exactly the tree dictated by those
  declarations: removing parentheses that the declarations make redundant never changes the tree,
  required ones are respected, and an operator declared non-associative can never be chained
  with itself without parentheses. Every node of the tree records the source span that exactly
  covers the text it was parsed from, and malformed input is rejected with a syntax error."

  Model: `Yae.Model.Parser` (`parse ops times toks`).  Proofs: `Yae.Proofs.Parse*`.

  DEFINITIONS (all declarative; none of them runs the parser)
  * `Yields env t i j` (`Proofs/ParseYield`): the tree `t` is read off the tokens `i … j-1` by the
    ambiguous context-free grammar of the language — which token may start / continue an
    expression is taken from the two tables of the grammar, no binding power is compared; nodes
    are built exactly as the model builds them (`pos.Range` checks included).
  * `Respects g t` (`Proofs/ParseRespects`): (R1) below a node open on the right, with
    right binding power `rbp`, every led-built node on the left spine of its last operand has
    `rbp < lbp`; (R2) under a led-built node with power `lbp`, no node open on the right on the
    right spine of its first operand has `rbp < lbp`; (R3) operands read with `expr(0)` and the
    root: `0 < lbp` along the left spine; a callee that is not a member node does not end in a
    member node; (R4) a non-associative operator is not chained with itself.
  * `WFGrammar g` / `WFOps ops` (`Proofs/ParseCompleteBase`, `ParseCompleteTop`): no
    `<END-OF-FILE>` entry; `)` `]` `}` `,` `:` have no infix entry; `)` `]` `:` have no prefix entry;
    no negative prefix power.  NaN, zero and negative infix powers are allowed.
  * `TokensOrdered toks`: the conclusion of `Yae.C09.lex_ordered` (positions in source order,
    no overlap, not empty, not negative).
  * `OpLexemes ops toks`: every token whose kind has an infix entry or a prefix-operator entry has
    `lexeme = kind` (operator nodes record the LEXEME, the tables are keyed by the KIND).

  WHAT IS PROVED HERE
  (for every operator table, token list, `strtotime` table, fuel)
  * `node_invariant` — a predicate that holds of every node when the parser builds it holds at
    every node of the returned tree; `nonassoc` (no non-associative operator chained with itself)
    and `span_composed` (every span is the range of its parts) are instances.  `outcomes` — a
    tree, the syntax error, or `.externMiss`.
  (for every operator table without an operator of kind `<END-OF-FILE>`)
  * `yields_prefix`, `yields` — the returned tree yields the tokens it was parsed from: all of
    them when no token has the kind `<END-OF-FILE>`.
  * `span_exact` — with `TokensOrdered`: EVERY node of the returned tree yields a token range
    `[a, b)`, `a < b`, and records exactly its span: index, column, line of token `a`, end index
    of token `b-1`.
  * `span_nested` — with `TokensOrdered`: at every node the children's spans (and the recorded
    operator / field-name position) are not empty, lie within the node's span, are pairwise
    disjoint and in source order.  `lexed_ordered`: lexed input is `TokensOrdered`.
  * `respects` — with `OpLexemes`: the returned tree respects the declarations.
  (for every WELL-FORMED operator table)
  * `complete` — a tree that yields all the tokens and respects the declarations is what `parse`
    returns; `unique` — there is at most one such tree; `exactly` — `parse … = .ok t` IF AND
    ONLY IF `t` yields the tokens and respects the declarations.
  * `required_parens` — the statement of `complete`, read for a tree that contains `Group` nodes:
    if it yields the tokens (so the parentheses are in the text) and respects the declarations,
    it is what `parse` returns, those nodes included.
  * `wf_builtin`, `WFOps.grammar` — the built-in table is well formed; a well-formed table gives a
    well-formed grammar.  `closer_needed`, `nonneg_prefix_needed`: completeness FAILS without
    the clauses "`)` has no infix entry" / "no negative prefix power" (kernel-checked).

  * `redundant_parens` — REDUNDANT PARENTHESES NEVER CHANGE THE TREE: if `parse` returns `t` on
    `toks`, the node `Group p e` of `t` was read from the tokens `[a, b]`, and `t` without that
    node still respects the declarations, then on the token list without the tokens `a` and `b`
    `parse` returns `t` without that node (`UG p e t t'`: one occurrence of `Group p e` replaced
    by `e`; the spans recorded at its ancestors may change, nothing else).  Proof: the yield of
    `t` is transported along the deletion of the two tokens (`Proofs/ParseShift`,
    `ParseUngroup*`), then `complete`.  Needs `TokensOrdered` (so that `pos.Range` succeeds on
    the new spans).  The case `(o.f)(x)` / `o.f(x)` is covered and is no exception at the level
    of the parse tree: without the group the callee is a member node, which is the method-call
    form, and that is exactly what `parse` returns for `o.f(x)` (kernel-checked example below).

  * `lexed_opLexemes`, `exactly_lexed`, `span_nested_lexed` — FROM THE SOURCE TEXT: for lexed input
    the hypotheses on the tokens (`OpLexemes`, `TokensOrdered`, no end-of-file token) are theorems
    about `lex` (`Proofs/LexOpLexemes`), provided no operator is named `<num>`, `<str>`, `<time>`
    or `<sym>`.

  In `redundant_parens` the hypothesis "still respects" is asked of every tree related to `t` by
  `UG p e`, not of one (they differ only in the spans of the ancestors, which `Respects` ignores).
  Non-vacuity: binding powers are bit patterns (`Yae.BP`), so `parse` is evaluated by the kernel:
  the examples at the end.
-/
import Yae.Proofs.ParseCompleteTop
import Yae.Proofs.ParseUngroupTop
import Yae.Proofs.ParseYieldAll
import Yae.Proofs.ParseYieldNest
import Yae.Props.C09
import Yae.Proofs.LexOpLexemes
import Yae.Proofs.ParseSample
namespace Yae.C08
open Yae

/-- The general principle: a predicate that holds of every node at the moment the parser builds
it (`NodeOK P`: for each of the sixteen node-building places of `factory.go`, given that the
`pos.Range` involved succeeded and, for a binary node, that `infixNCheck` accepted it) holds at
every node of every tree `parseWith` returns. -/
theorem node_invariant {P : Expr → Prop} (C : NodeOK P) {fuel : Nat} {ops : List Operator}
    {times : List (String × Int)} {toks : List Token} {t : Expr}
    (h : parseWith fuel ops times toks = .ok t) : t.All P :=
  parseWith_all C h

/-- `NodeOK` is satisfiable non-trivially: see `noChain_nodeOK`, `span_nodeOK`. -/
example : NodeOK Expr.noChainHere ∧ NodeOK Expr.spanHere := ⟨noChain_nodeOK, span_nodeOK⟩

/-- An operator declared non-associative is never chained with itself without parentheses: in
the tree returned by `parse`, at EVERY node (`Expr.All`) that is a `Binary` of fixity `INFIX_N`
named `n`, neither the left nor the right child is itself a `Binary` named `n`
(`Expr.noChainHere`).  A parenthesised operand is a `Group` node, hence allowed. -/
theorem nonassoc {ops : List Operator} {times : List (String × Int)} {toks : List Token}
    {t : Expr} (h : parse ops times toks = .ok t) : t.All Expr.noChainHere :=
  parseWith_all noChain_nodeOK h

/-- The conclusion excludes the tree of `a == b == c` (either nesting). -/
example :
    ¬ (Expr.binary Pos.zero "==" Pos.zero fixInfixN
        (.binary Pos.zero "==" Pos.zero fixInfixN (.ident Pos.zero "a") (.ident Pos.zero "b"))
        (.ident Pos.zero "c")).All Expr.noChainHere ∧
    ¬ (Expr.binary Pos.zero "==" Pos.zero fixInfixN (.ident Pos.zero "a")
        (.binary Pos.zero "==" Pos.zero fixInfixN (.ident Pos.zero "b") (.ident Pos.zero "c"))).All
        Expr.noChainHere := by
  simp [Expr.All, Expr.noChainHere, Expr.isBinaryNamed]

/-- The conclusion excludes a chain below another operator as well (`a == b == c && d`, the shape
of defect D10 of the Go parser). -/
example :
    ¬ (Expr.binary Pos.zero "&&" Pos.zero fixInfixL
        (.binary Pos.zero "==" Pos.zero fixInfixN
          (.binary Pos.zero "==" Pos.zero fixInfixN (.ident Pos.zero "a") (.ident Pos.zero "b"))
          (.ident Pos.zero "c"))
        (.ident Pos.zero "d")).All Expr.noChainHere := by
  simp [Expr.All, Expr.noChainHere, Expr.isBinaryNamed]

/-- The conclusion admits `(a == b) == c`. -/
example :
    (Expr.binary Pos.zero "==" Pos.zero fixInfixN
      (.group Pos.zero
        (.binary Pos.zero "==" Pos.zero fixInfixN (.ident Pos.zero "a") (.ident Pos.zero "b")))
      (.ident Pos.zero "c")).All Expr.noChainHere := by
  simp [Expr.All, Expr.noChainHere, Expr.isBinaryNamed]

/-- How the check enters: `infixNCheck` accepts a binary node exactly under that condition. -/
theorem infixNCheck_accepts {rg : Pos} {n : String} {np : Pos} {fx : Nat} {l r e' : Expr}
    (h : infixNCheck (.binary rg n np fx l r) = .ok e') :
    e' = .binary rg n np fx l r ∧
    (fx = fixInfixN → l.isBinaryNamed n = false ∧ r.isBinaryNamed n = false) :=
  ⟨infixNCheck_ok h, infixNCheck_binary h⟩

example : infixNCheck (.binary Pos.zero "==" Pos.zero fixInfixN (.ident Pos.zero "a")
    (.ident Pos.zero "b")) = .ok (.binary Pos.zero "==" Pos.zero fixInfixN (.ident Pos.zero "a")
    (.ident Pos.zero "b")) := by
  simp [infixNCheck]

/-- Every node records the span composed from its parts (`Expr.spanHere`, with
`{a with idxEnd := b.idxEnd}` = `pos.Range(a, b)`, which keeps index, column and line of the
start and takes the end index of the end):
  `x op y`, `c ? a : b`  — from the span of the left-most child to that of the right-most child;
  `op x`                 — from the operator token to the operand;   `x op` — the converse;
  `o.f`                  — from the object to the field-name token;
  `f(args)`, `v[i]`      — starts where the callee / the indexed value starts;
and every such range is well oriented (start index ≤ index of the end part).

This part holds for ARBITRARY token lists; for `span_exact` / `span_nested` see below. -/
theorem span_composed {ops : List Operator} {times : List (String × Int)} {toks : List Token}
    {t : Expr} (h : parse ops times toks = .ok t) : t.All Expr.spanHere :=
  parseWith_all span_nodeOK h

/-- The conclusion is not trivial: a binary node whose span is that of its RIGHT child (what
`pos.Range` returned before the fix of D12) violates it. -/
example :
    ¬ (Expr.binary ⟨4, 5, 4, 0⟩ "+" ⟨2, 3, 2, 0⟩ fixInfixL (.ident ⟨0, 1, 0, 0⟩ "a")
        (.ident ⟨4, 5, 4, 0⟩ "b")).All Expr.spanHere ∧
    (Expr.binary ⟨0, 5, 0, 0⟩ "+" ⟨2, 3, 2, 0⟩ fixInfixL (.ident ⟨0, 1, 0, 0⟩ "a")
        (.ident ⟨4, 5, 4, 0⟩ "b")).All Expr.spanHere := by
  simp [Expr.All, Expr.spanHere, Expr.pos]

/-- At the root, for the common case of a binary tree: the root span starts with the left operand
and ends with the right operand. -/
theorem span_binary_root {ops : List Operator} {times : List (String × Int)} {toks : List Token}
    {p : Pos} {n : String} {np : Pos} {fx : Nat} {l r : Expr}
    (h : parse ops times toks = .ok (.binary p n np fx l r)) :
    p.idx = l.pos.idx ∧ p.col = l.pos.col ∧ p.line = l.pos.line ∧ p.idxEnd = r.pos.idxEnd ∧
    l.pos.idx ≤ r.pos.idx := by
  have := (span_composed h).here
  simp only [Expr.spanHere] at this
  obtain ⟨h1, h2⟩ := this
  subst h1
  exact ⟨rfl, rfl, rfl, rfl, h2⟩

/-- Malformed input is rejected through the error result: `parse` returns a tree, the syntax
error (every Go panic of the parser), or — an artefact of modelling `timelib.Strtotime` as a
finite table — `.externMiss`; with no operator of kind `<END-OF-FILE>` it never returns `.fuel`
(Go: does not terminate). -/
theorem outcomes {ops : List Operator} (hops : ∀ o ∈ ops, o.kind ≠ "<END-OF-FILE>")
    (times : List (String × Int)) (toks : List Token) :
    (∃ t, parse ops times toks = .ok t) ∨ parse ops times toks = .error .syntax ∨
      parse ops times toks = .error .externMiss := by
  have := parse_no_fuel hops times toks
  cases h : parse ops times toks with
  | ok t => exact .inl ⟨t, rfl⟩
  | error e =>
    cases e
    · exact .inr (.inl rfl)
    · exact .inr (.inr rfl)
    · exact absurd h this

example : ∀ o ∈ [(⟨"==", 7, fixInfixN⟩ : Operator)], o.kind ≠ "<END-OF-FILE>" := by decide

/-- the hypothesis on the operator table as the parser environment sees it -/
theorem noEOF_of {ops : List Operator} (hops : ∀ o ∈ ops, o.kind ≠ "<END-OF-FILE>")
    (times : List (String × Int)) (toks : List Token) : PEnv.NoEOF (mkEnv ops times toks) :=
  newGrammar_noEOF hops

/-- The returned tree yields a prefix `[0, j)` of the tokens, and token `j` is the end of the
input: there is none, or it has the kind `<END-OF-FILE>`. -/
theorem yields_prefix {ops : List Operator} (hops : ∀ o ∈ ops, o.kind ≠ "<END-OF-FILE>")
    {times : List (String × Int)} {toks : List Token} {t : Expr}
    (h : parse ops times toks = .ok t) :
    ∃ j, Yields (mkEnv ops times toks) t 0 j ∧ ((mkEnv ops times toks).peek j).kind = tkEOF :=
  parseWith_yields (noEOF_of hops times toks) h

/-- **Yield.**  When no token has the kind `<END-OF-FILE>` (true of lexed input) the returned
tree yields ALL the tokens: it is a reading of `toks[0 .. n)` by the context-free grammar
`Yields`. -/
theorem yields {ops : List Operator} (hops : ∀ o ∈ ops, o.kind ≠ "<END-OF-FILE>")
    {times : List (String × Int)} {toks : List Token} (htk : ∀ t ∈ toks, t.kind ≠ "<END-OF-FILE>")
    {t : Expr} (h : parse ops times toks = .ok t) :
    Yields (mkEnv ops times toks) t 0 toks.length :=
  parseWith_yields_all (noEOF_of hops times toks) htk h

/-- Lexed input has ordered tokens: `TokensOrdered` is a part of `Yae.C09.lex_ordered`. -/
theorem lexed_ordered {ops : List Operator} {s : List Char} {ts : List Token}
    (h : lex ops s = .ok ts) : TokensOrdered ts :=
  ⟨fun t ht => ⟨((Yae.C09.lex_ordered h).1 t ht).1, ((Yae.C09.lex_ordered h).1 t ht).2.1⟩,
    (Yae.C09.lex_ordered h).2⟩

/-- **Exact spans.**  With token positions in source order, EVERY node `n` of the returned tree
was read from a non-empty token range `[a, b)` (`Yields … n a b`) and records exactly the span of
that range: it starts where token `a` starts (index, column, line) and ends where token `b-1`
ends.  (Member, call and subscript nodes start at their object / callee.) -/
theorem span_exact {ops : List Operator} (hops : ∀ o ∈ ops, o.kind ≠ "<END-OF-FILE>")
    {times : List (String × Int)} {toks : List Token} (hord : TokensOrdered toks)
    {t : Expr} (h : parse ops times toks = .ok t) :
    t.All (fun n => ∃ (a b : Nat) (_ : a < b) (_ : b ≤ toks.length),
      Yields (mkEnv ops times toks) n a b ∧
      n.pos.idx = toks[a].pos.idx ∧ n.pos.col = toks[a].pos.col ∧ n.pos.line = toks[a].pos.line ∧
      n.pos.idxEnd = toks[b - 1].pos.idxEnd) := by
  obtain ⟨j, hy, _⟩ := yields_prefix hops h
  refine Expr.All.imp ?_ (hy.all_span (hord.env (ops := ops) (times := times)))
  rintro n ⟨a, b, _, _, hn, hab, hb, hp⟩
  have hb' : b ≤ toks.length := mkEnv_size ops times toks ▸ hb
  refine ⟨a, b, hab, hb', hn, ?_⟩
  rw [mkEnv_peek (by omega), mkEnv_peek (by omega)] at hp
  rw [hp]
  exact ⟨rfl, rfl, rfl, rfl⟩

/-- **Span nesting.**  With token positions in source order, at EVERY node of the returned tree:
the node's span is not empty; each child's span (and the recorded position of the operator /
field-name token) is not empty and lies within it; these parts are pairwise disjoint and in
source order (`Expr.spanNested`, `Expr.parts`). -/
theorem span_nested {ops : List Operator} (hops : ∀ o ∈ ops, o.kind ≠ "<END-OF-FILE>")
    {times : List (String × Int)} {toks : List Token} (hord : TokensOrdered toks)
    {t : Expr} (h : parse ops times toks = .ok t) : t.All Expr.spanNested := by
  obtain ⟨j, hy, _⟩ := yields_prefix hops h
  exact hy.nested (hord.env (ops := ops) (times := times))

/-- The conclusion is not trivial: overlapping children violate it. -/
example :
    ¬ (Expr.binary ⟨0, 5, 0, 0⟩ "+" ⟨2, 3, 2, 0⟩ fixInfixL (.ident ⟨0, 3, 0, 0⟩ "a")
        (.ident ⟨4, 5, 4, 0⟩ "b")).spanNested ∧
    (Expr.binary ⟨0, 5, 0, 0⟩ "+" ⟨2, 3, 2, 0⟩ fixInfixL (.ident ⟨0, 1, 0, 0⟩ "a")
        (.ident ⟨4, 5, 4, 0⟩ "b")).spanNested := by
  simp [Expr.spanNested, Expr.parts, Expr.pos]

/-- **The returned tree respects the declarations** (`Respects`: (R1)–(R4) of the header), for
every operator table; operator tokens are assumed to carry their kind as lexeme. -/
theorem respects {ops : List Operator} (hops : ∀ o ∈ ops, o.kind ≠ "<END-OF-FILE>")
    {times : List (String × Int)} {toks : List Token} (hL : OpLexemes ops toks)
    {t : Expr} (h : parse ops times toks = .ok t) : Respects (newGrammar ops) t :=
  parseWith_respects (noEOF_of hops times toks) hL h

/-- `Respects` separates the two readings of `a + b * c` (built-in powers: `+` 7, `*` 8): the
tree `a + (b * c)` respects them, `(a + b) * c` WITHOUT a group node does not. -/
example :
    Respects (newGrammar builtinOps)
      (.binary Pos.zero "+" Pos.zero fixInfixL (.ident Pos.zero "a")
        (.binary Pos.zero "*" Pos.zero fixInfixL (.ident Pos.zero "b") (.ident Pos.zero "c"))) ∧
    ¬ Respects (newGrammar builtinOps)
      (.binary Pos.zero "*" Pos.zero fixInfixL
        (.binary Pos.zero "+" Pos.zero fixInfixL (.ident Pos.zero "a") (.ident Pos.zero "b"))
        (.ident Pos.zero "c")) := by
  simp only [Respects, Expr.All, Expr.respHere, Expr.leftAbove, Expr.rightOK, Expr.noChainHere,
    binRbp_L]
  decide

/-- `Respects` separates the two readings of the right-associative `a ^ b ^ c`. -/
example :
    Respects (newGrammar builtinOps)
      (.binary Pos.zero "^" Pos.zero fixInfixR (.ident Pos.zero "a")
        (.binary Pos.zero "^" Pos.zero fixInfixR (.ident Pos.zero "b") (.ident Pos.zero "c"))) ∧
    ¬ Respects (newGrammar builtinOps)
      (.binary Pos.zero "^" Pos.zero fixInfixR
        (.binary Pos.zero "^" Pos.zero fixInfixR (.ident Pos.zero "a") (.ident Pos.zero "b"))
        (.ident Pos.zero "c")) := by
  simp only [Respects, Expr.All, Expr.respHere, Expr.leftAbove, Expr.rightOK, Expr.noChainHere,
    binRbp_R]
  decide

/-- The built-in operator table is well formed. -/
theorem wf_builtin : WFOps builtinOps := by unfold WFOps; decide

/-- The grammar of the built-in table is well formed (`WFOps.grammar` holds for every well-formed
table). -/
example : WFGrammar (newGrammar builtinOps) := wf_builtin.grammar

/-- **Completeness.**  For a well-formed operator table: a tree that yields all the tokens and
respects the declarations IS the result of `parse`. -/
theorem complete {ops : List Operator} (hW : WFOps ops) {times : List (String × Int)}
    {toks : List Token} (hL : OpLexemes ops toks) {t : Expr}
    (hy : Yields (mkEnv ops times toks) t 0 toks.length) (hR : Respects (newGrammar ops) t) :
    parse ops times toks = .ok t :=
  parse_complete hW.grammar hL hy hR

/-- **Uniqueness.**  Two trees that yield the same tokens and respect the declarations are equal:
the declarations dictate the tree. -/
theorem unique {ops : List Operator} (hW : WFOps ops) {times : List (String × Int)}
    {toks : List Token} (hL : OpLexemes ops toks) {t t' : Expr}
    (hy : Yields (mkEnv ops times toks) t 0 toks.length) (hR : Respects (newGrammar ops) t)
    (hy' : Yields (mkEnv ops times toks) t' 0 toks.length) (hR' : Respects (newGrammar ops) t') :
    t = t' :=
  respects_unique hW.grammar hL hy hR hy' hR'

/-- **The parser returns exactly the tree dictated by the declarations**: for a well-formed
operator table, `parse` returns `t` if and only if `t` yields the token list and respects the
declarations.  (Hence `parse` fails exactly when no such tree exists.) -/
theorem exactly {ops : List Operator} (hW : WFOps ops) {times : List (String × Int)}
    {toks : List Token} (hL : OpLexemes ops toks) (htk : ∀ t ∈ toks, t.kind ≠ "<END-OF-FILE>")
    {t : Expr} :
    parse ops times toks = .ok t ↔
      (Yields (mkEnv ops times toks) t 0 toks.length ∧ Respects (newGrammar ops) t) :=
  parse_iff hW.grammar hL htk

/-- **Required parentheses are respected.**  The statement is that of `complete`; `Group` nodes are
not mentioned in it.  Read for a tree with a `Group` node: if it yields the tokens — so the `(`
and `)` of that node are tokens of the text — and respects the declarations, it is returned as
it is, `Group` node included (in `Respects` a `Group` shields its body: (R3) only). -/
theorem required_parens {ops : List Operator} (hW : WFOps ops) {times : List (String × Int)}
    {toks : List Token} (hL : OpLexemes ops toks) {t : Expr}
    (hy : Yields (mkEnv ops times toks) t 0 toks.length) (hR : Respects (newGrammar ops) t) :
    parse ops times toks = .ok t :=
  complete hW hL hy hR

/-- **Redundant parentheses never change the tree** (see the header).  `hsub`: `Group p e` is a
node of `t`; `hG`: it was read from the tokens `a … b`, `a` its `(`, `b` its `)`; `hR`: `t` without
that node still respects the declarations.  `dropTwo toks a b` is `toks` without the two. -/
theorem redundant_parens {ops : List Operator} (hW : WFOps ops) {times : List (String × Int)}
    {toks : List Token} (hL : OpLexemes ops toks) (hord : TokensOrdered toks)
    (htk : ∀ t ∈ toks, t.kind ≠ "<END-OF-FILE>") {t : Expr} (h : parse ops times toks = .ok t)
    {p : Pos} {e : Expr} {a b : Nat}
    (hG : Yields (mkEnv ops times toks) (.group p e) a (b + 1))
    (hsub : ∃ t0, UG p e t t0)
    (hR : ∀ t', UG p e t t' → Respects (newGrammar ops) t') :
    ∃ t', UG p e t t' ∧ parse ops times (dropTwo toks a b) = .ok t' :=
  parse_ungroup hW.grammar hL hord htk h hG hsub hR

/-- Lexed input satisfies the hypothesis `OpLexemes`: a token produced by any rule but the ten
literal patterns carries its kind as lexeme; so it suffices that no operator is NAMED like one of
the literal kinds `<num>`, `<str>`, `<time>`, `<sym>`. -/
theorem lexed_opLexemes {ops : List Operator} (hops : ∀ o ∈ ops, o.kind ∉ literalKinds)
    {s : List Char} {ts : List Token} (h : lex ops s = .ok ts) : OpLexemes ops ts :=
  Yae.lexed_opLexemes hops h

/-- **From the source text.**  For a well-formed operator table none of whose operators is named
like a literal kind: on the tokens `lex` produces for ANY source text, `parse` returns `t` if and
only if `t` yields exactly those tokens and respects the declarations — no hypothesis on the
tokens is left (`OpLexemes`, the absence of an end-of-file token and `TokensOrdered` are theorems
about `lex`). -/
theorem exactly_lexed {ops : List Operator} (hW : WFOps ops)
    (hlit : ∀ o ∈ ops, o.kind ∉ literalKinds) {times : List (String × Int)} {s : List Char}
    {ts : List Token} (hl : lex ops s = .ok ts) {t : Expr} :
    parse ops times ts = .ok t ↔
      (Yields (mkEnv ops times ts) t 0 ts.length ∧ Respects (newGrammar ops) t) :=
  exactly hW (Yae.lexed_opLexemes hlit hl)
    (lexed_no_eof (fun o ho e => hW.1 o ho (by rw [e]; decide)) hl)

/-- `span_nested` for lexed input. -/
theorem span_nested_lexed {ops : List Operator} (hops : ∀ o ∈ ops, o.kind ≠ "<END-OF-FILE>")
    {times : List (String × Int)} {s : List Char} {ts : List Token} (hl : lex ops s = .ok ts)
    {t : Expr} (h : parse ops times ts = .ok t) : t.All Expr.spanNested :=
  span_nested hops (lexed_ordered hl) h

example : WFOps builtinOps ∧ ∀ o ∈ builtinOps, o.kind ∉ literalKinds := ⟨wf_builtin, by decide⟩

def isSyntaxErr : Except ParseErr Expr → Bool
  | .error .syntax => true
  | _ => false

theorem eq_of_isSyntaxErr {r : Except ParseErr Expr} (h : isSyntaxErr r = true) :
    r = .error .syntax := by
  cases r with
  | error e => cases e <;> simp_all [isSyntaxErr]
  | ok _ => simp [isSyntaxErr] at h

mutual
/-- the shape of a tree, positions dropped -/
def sx : Expr → List String
  | .ident _ n => [n]
  | .bool _ b => [if b then "true" else "false"]
  | .num _ _ => ["<num>"]
  | .str _ v => [v]
  | .time _ _ => ["<time>"]
  | .group _ e => ["(", "group"] ++ sx e ++ [")"]
  | .unary _ n _ e true => ["(", "pre", n] ++ sx e ++ [")"]
  | .unary _ n _ e false => ["(", "post", n] ++ sx e ++ [")"]
  | .binary _ n _ _ l r => ["(", n] ++ sx l ++ sx r ++ [")"]
  | .ternary _ n _ l m r => ["(", n] ++ sx l ++ sx m ++ sx r ++ [")"]
  | .call _ _ c as _ _ _ => ["(", "call"] ++ sx c ++ sxList as ++ [")"]
  | .member _ _ o f _ _ _ => ["(", "."] ++ sx o ++ [f, ")"]
  | .subscript _ _ v i _ => ["(", "[]"] ++ sx v ++ sx i ++ [")"]
  | .list _ es _ => ["(", "list"] ++ sxList es ++ [")"]
  | .map _ ps _ => ["(", "map"] ++ sxPairs ps ++ [")"]
  | .obj _ fs _ => ["(", "obj"] ++ sxFields fs ++ [")"]
def sxList : ExprList → List String
  | .nil => []
  | .cons e es => sx e ++ sxList es
def sxPairs : PairList → List String
  | .nil => []
  | .cons k v ps => sx k ++ sx v ++ sxPairs ps
def sxFields : FieldEList → List String
  | .nil => []
  | .cons n e fs => n :: sx e ++ sxFields fs
end

/-- the shape of the parse with the built-in operators -/
def shape (toks : List Token) : Option (List String) :=
  (parse builtinOps [] toks).toOption.map sx

/-- `a + b * c` (`toks1`, parsed in `Proofs/ParseSample.lean`) -/
example : shape toks1 = some ["(", "+", "a", "(", "*", "b", "c", ")", ")"] := by
  rw [shape, parse1]; rfl

/-- `a ^ b ^ c` (right-associative) and `a - b - c` (left-associative) -/
def toks2 : List Token := [sym "a" 0, op "^" 2, sym "b" 4, op "^" 6, sym "c" 8]
example : shape toks2 = some ["(", "^", "a", "(", "^", "b", "c", ")", ")"] := by decide +kernel
example : shape [sym "a" 0, op "-" 2, sym "b" 4, op "-" 6, sym "c" 8] =
    some ["(", "-", "(", "-", "a", "b", ")", "c", ")"] := by decide +kernel

/-- `(a == b) == c` is accepted with its group node, `a == b == c` is a syntax error -/
def toks3 : List Token :=
  [op "(" 0, sym "a" 1, op "==" 3, sym "b" 6, op ")" 7, op "==" 9, sym "c" 12]
example : shape toks3 =
    some ["(", "==", "(", "group", "(", "==", "a", "b", ")", ")", "c", ")"] := by decide +kernel
example : parse builtinOps [] [sym "a" 1, op "==" 3, sym "b" 6, op "==" 9, sym "c" 12] =
    .error .syntax := eq_of_isSyntaxErr (by decide +kernel)

/-- `-a.f(x)[1] ? b : c`: member, method call and subscript bind tighter than the prefix `-`,
which binds tighter than `?:` -/
def toks4 : List Token :=
  [op "-" 0, sym "a" 1, op "." 2, sym "f" 3, op "(" 4, sym "x" 5, op ")" 6, op "[" 7,
   tk "<num>" "1" 8 9, op "]" 9, op "?" 11, sym "b" 13, op ":" 15, sym "c" 17]
/-- shape and root span of the parse of `toks4`, from one run of the parser -/
theorem parse4 : (parse builtinOps [] toks4).toOption.map (fun e => (sx e, e.pos)) =
    some (["(", "?", "(", "pre", "-", "(", "[]", "(", "call", "(", ".", "a", "f", ")", "x", ")",
      "<num>", ")", ")", "b", "c", ")"], ⟨0, 18, 0, 0⟩) := by decide +kernel
example : shape toks4 =
    some ["(", "?", "(", "pre", "-", "(", "[]", "(", "call", "(", ".", "a", "f", ")", "x", ")",
      "<num>", ")", ")", "b", "c", ")"] := by
  simpa [shape, Option.map_map] using congrArg (Option.map Prod.fst) parse4

/-- the hypotheses of the theorems hold of these token lists -/
example : TokensOrdered toks1 ∧ TokensOrdered toks3 ∧ TokensOrdered toks4 := by decide +kernel
example : OpLexemes builtinOps toks1 ∧ OpLexemes builtinOps toks3 ∧ OpLexemes builtinOps toks4 := by
  decide +kernel

/-- the root span of `-a.f(x)[1] ? b : c` runs from the `-` to the `c` -/
example : (parse builtinOps [] toks4).toOption.map Expr.pos = some ⟨0, 18, 0, 0⟩ := by
  simpa [Option.map_map] using congrArg (Option.map Prod.snd) parse4

/-- **Redundant parentheses, an instance**: `(a * b) + c` and `a * b + c` give the same tree up
to the group node (and the spans). -/
theorem redundant_example :
    shape [op "(" 0, sym "a" 1, op "*" 3, sym "b" 5, op ")" 6, op "+" 8, sym "c" 10] =
      some ["(", "+", "(", "group", "(", "*", "a", "b", ")", ")", "c", ")"] ∧
    shape [sym "a" 1, op "*" 3, sym "b" 5, op "+" 8, sym "c" 10] =
      some ["(", "+", "(", "*", "a", "b", ")", "c", ")"] := by decide +kernel

/-- **Required parentheses, an instance**: `(a + b) * c` keeps its group node and differs from
`a + b * c`. -/
theorem required_example :
    shape [op "(" 0, sym "a" 1, op "+" 3, sym "b" 5, op ")" 6, op "*" 8, sym "c" 10] =
      some ["(", "*", "(", "group", "(", "+", "a", "b", ")", ")", "c", ")"] ∧
    shape [sym "a" 1, op "+" 3, sym "b" 5, op "*" 8, sym "c" 10] =
      some ["(", "+", "a", "(", "*", "b", "c", ")", ")"] := by decide +kernel

/-- `(o.f)(x)` and `o.f(x)`: the call of a group versus the method-call form (built by the `.`);
the trees agree up to the group node, as `redundant_parens` says -/
example :
    shape [op "(" 0, sym "o" 1, op "." 2, sym "f" 3, op ")" 4, op "(" 5, sym "x" 6, op ")" 7] =
      some ["(", "call", "(", "group", "(", ".", "o", "f", ")", ")", "x", ")"] ∧
    shape [sym "o" 1, op "." 2, sym "f" 3, op "(" 5, sym "x" 6, op ")" 7] =
      some ["(", "call", "(", ".", "o", "f", ")", "x", ")"] := by decide +kernel

/-- With `)` registered as an infix operator, completeness fails: the tree of `(a)` yields the
three tokens and respects the declarations, but `parse` rejects the input (after `a` it takes the
`)` for the operator). -/
theorem closer_needed :
    ∃ (ops : List Operator) (toks : List Token) (t : Expr),
      Yields (mkEnv ops [] toks) t 0 toks.length ∧ Respects (newGrammar ops) t ∧
      OpLexemes ops toks ∧ parse ops [] toks = .error .syntax := by
  refine ⟨[⟨")", 7, fixInfixL⟩], [op "(" 0, sym "a" 1, op ")" 2],
    .group ⟨0, 3, 0, 0⟩ (.ident ⟨1, 2, 1, 0⟩ "a"), ?_, ?_, by decide +kernel,
    eq_of_isSyntaxErr (by decide +kernel)⟩
  · exact Yields.group (bp := bpNone) (i := 0) (j := 2) ⟨by decide +kernel, by decide +kernel⟩
      (Yields.ident (bp := bpNone) (i := 1) ⟨by decide +kernel, by decide +kernel⟩)
      ⟨by decide +kernel, by decide +kernel⟩ (by decide +kernel)
  · simp [Respects, Expr.All, Expr.respHere, Expr.leftAbove, Expr.noChainHere]

/-- With a prefix operator of negative power (`~` at `-1`), completeness fails: the tree of `~a`
yields the tokens and respects the declarations, but `parse` rejects the input (`expr(-1)`
demands an infix entry for the end of the input). -/
theorem nonneg_prefix_needed :
    ∃ (ops : List Operator) (toks : List Token) (t : Expr),
      Yields (mkEnv ops [] toks) t 0 toks.length ∧ Respects (newGrammar ops) t ∧
      OpLexemes ops toks ∧ parse ops [] toks = .error .syntax := by
  refine ⟨[⟨"~", ⟨true, 0x3f800000⟩, fixPrefix⟩], [op "~" 0, sym "a" 1],
    .unary ⟨0, 2, 0, 0⟩ "~" ⟨0, 1, 0, 0⟩ (.ident ⟨1, 2, 1, 0⟩ "a") true, ?_, ?_,
    by decide +kernel, eq_of_isSyntaxErr (by decide +kernel)⟩
  · exact Yields.pre (bp := ⟨true, 0x3f800000⟩) (i := 0) (j := 2)
      ⟨by decide +kernel, by decide +kernel⟩
      (Yields.ident (bp := bpNone) (i := 1) ⟨by decide +kernel, by decide +kernel⟩)
      (by decide +kernel)
  · simp [Respects, Expr.All, Expr.respHere, Expr.leftAbove, Expr.noChainHere]

/-- neither table is well formed -/
example : ¬ WFOps [⟨")", 7, fixInfixL⟩] ∧ ¬ WFOps [⟨"~", ⟨true, 0x3f800000⟩, fixPrefix⟩] := by
  unfold WFOps; decide

end Yae.C08

#print axioms Yae.C08.node_invariant
#print axioms Yae.C08.nonassoc
#print axioms Yae.C08.infixNCheck_accepts
#print axioms Yae.C08.span_composed
#print axioms Yae.C08.span_binary_root
#print axioms Yae.C08.outcomes
#print axioms Yae.C08.yields_prefix
#print axioms Yae.C08.yields
#print axioms Yae.C08.lexed_ordered
#print axioms Yae.C08.span_exact
#print axioms Yae.C08.span_nested
#print axioms Yae.C08.respects
#print axioms Yae.C08.wf_builtin
-- cited in the header, proved in `Proofs/ParseCompleteTop.lean`
#print axioms Yae.WFOps.grammar
#print axioms Yae.C08.complete
#print axioms Yae.C08.unique
#print axioms Yae.C08.exactly
#print axioms Yae.C08.required_parens
#print axioms Yae.C08.redundant_parens
#print axioms Yae.C08.redundant_example
#print axioms Yae.C08.required_example
#print axioms Yae.C08.closer_needed
#print axioms Yae.C08.nonneg_prefix_needed
#print axioms Yae.C08.lexed_opLexemes
#print axioms Yae.C08.exactly_lexed
#print axioms Yae.C08.span_nested_lexed
