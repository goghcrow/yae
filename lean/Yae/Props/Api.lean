/-
  API-LEVEL SOUNDNESS, FOR EVERY HISTORY.

  C01 (type soundness), C02 (progress / failure discipline), C07 (environment check) and C12
  (totality of the pipeline) are stated for ONE compilation and ONE run of a tree against the
  environment it was checked in.  Here they are composed THROUGH THE ENGINE OBJECT of `facade.go`
  (`Yae/Model/Engine.lean`: `Engine`, `Callable`, `Op`, `Engine.run`), for EVERY history of API
  calls — registrations, settings, compilations and invocations of the history's own Callables, in
  any order and number — on a fresh engine (`Engine.new`; `…_from`: any engine whose table is
  `FunsOK`).  Proofs: `Yae/Proofs/ApiHistory.lean` (the engine after a history as the fold of the
  calls' effects: its table, its Callables),
  `ApiSound.lean` (one invocation, also after a re-registration with the same type),
  `ApiCompile.lean` (one compilation), `ApiWitness.lean` (the witness, corollaries).

  ## The theorems

  * `api_sound`.  HYPOTHESES, each about the calls of the history only:
      `hreg`   every function handed to `RegisterFun` that has a function type (the others are
               refused by `RegisterFun`: `Engine.registerFun`) respects its signature
               (`Sound.declOK`, a Bool: well-formed signature, variable names that cannot collide
               with the checker's fresh ones, the host behaviour returns what the signature says).
               Needed: C01/C02 are false for a host function that returns something else.
      `htenv`  every compile-time environment holds well-formed, variable-free types
               (what `conv.TypeEnvOf` produces).  Needed by `check_ann` (C01).
      `hvenv`  every run-time environment handed to an invocation holds well-formed values
               (`Sound.WF`; C15: what `conv.ValEnvOf` produces).  Needed: `envCheck` compares the
               value's OWN type only, it does not look inside.
      `hlate`  `LateOK`, see below.
    CONCLUSION, for every `invoke k venv ext` at step `i` with output `out`:
      (a) `out = noCallable`, and step `k` is not an earlier successful compilation; or
      step `k < i` is a `compile … tenv …` that returned the Callable `c`, `c.tenv = tenv`, and
      (b) the environment check refuses, `out` is that error and the event log is EMPTY
          (`api_env_refusal_iff`: exactly when a compile-time name is missing at run time or
          bound to a value of another type), or the check accepts and
      (c) `out` is a value `v` with `HasTy v c.ty` — `c.ty` is the type inferred at compile time
          (`C13.callable_records`) —, or
      (d) `out` is a failure `f` with `Allowed f`: a documented partial-operation failure, a host
          function failing on purpose, a miss of the model's extern table; never `.fuel`, never
          another `.stuck` (`C02.allowed_iff`).
    Every compiler (`vm`, `closure`, `closureDebug`, `interp`) and every `useCompiler` /
    `useBuiltIn` / `registerOperator` in between is covered.

  * THE SUBTLETY: LATE BINDING.  `Engine.invoke` runs the tree against `tableFor e c`: for
    `interp.Interp` this is the engine's table AT THE TIME OF THE INVOCATION, not the table the
    tree was checked against.  The table only grows by appending, so the engine's table is
    `c.funs ++ regsBetween ops k i` (`Api.callable_history`), and a statically resolved
    call changes its meaning exactly when it is MONOMORPHIC and its key is registered again
    (`C13.append_keeps_resolution`).  `LateOK ops`: for every invocation (step `i`) of a Callable
    (step `k`) compiled by a late-binding compiler, the functions registered strictly between
    `k` and `i` register no monomorphic key a call of the Callable's tree was resolved to
    (`EngineCheck.NoMonoClash`).  Under it the invocation is the invocation on the engine as the
    compilation left it (`C13.callable_stable_under_append`).
    - `late_binding_breaks_soundness`: the condition CANNOT BE DROPPED.  `Api.histBad` — select
      `interp.Interp`, compile `!true` (inferred type `bool`), register the respectful host
      function `!(bool) : str`, invoke — satisfies `hreg`, `htenv`, `hvenv`, and the invocation
      returns the STRING `"oops"`, which is not `HasTy … bool`: conclusion (c) fails (and (a),
      (b), (d) too).  Kernel-checked.
    - Purely syntactic sufficient conditions: `api_sound_early` (the history never selects
      `interp.Interp`: NO hypothesis on late binding), `api_sound_poly` (only polymorphic functions
      are registered).

  * `api_sound_same_type`: THE REFINEMENT.  The same conclusion under the weaker `LateTyOK`: a
    monomorphic key that a call of a late-binding Callable's tree was resolved to MAY be
    registered again, provided the function registered last under it has the SAME TYPE as the
    one the tree was checked against (`Api.SameTyClash`; `NoMonoClash` is the special case
    "not registered again": `LateOK.lateTyOK`).  Then the RESULT of the Callable may change
    (`C13.late_binding_depends_on_compiler`: `!true` becomes `true`), its SOUNDNESS does not:
    the annotation `Ann` of the tree transfers to the grown table (`Api.ann_transfer`) and
    C01/C02 apply there.  `api_sound` is the corollary for `LateOK`.

  * `api_compile_reports`: every `compile` of a history returns a Callable (for the `tenv` given)
    or a REPORTED error (`C12.reported`: the syntax error, a type error, the model-only
    `externMiss`; never lexer/parser/unifier `fuel`, never the desugarer's `Unreachable`).
    Hypotheses (`C12.compile_total` needs them): registered operators have a kind other than
    `""`, `<END-OF-FILE>` and the literal kinds; registered function types satisfy
    `PolyOK.declOK`; compile-time variable types are `TyOK` (no function types: the checker's
    `SigEnv`).

  ## NOT proved here

  * `LateTyOK` (`api_sound_same_type`) is SUFFICIENT, and necessary in the sense of the witness
    (`histBad_not_lateTyOK`), but it is not the weakest condition: a monomorphic key
    re-registered with ANOTHER type is harmless when the call is never reached (a lazy branch)
    or when the two return types differ only up to `types.Equals` (field order of objects);
    no syntactic condition on the history captures the former, the latter is not proved.
  * `invokeC` (a Callable obtained anywhere, e.g. from another engine) is outside `api_sound`:
    nothing is known about such a Callable.  The theorems allow such steps in the history and say
    nothing about their outputs.
  * The model's limits are those of `Engine.lean`: user translators, the debug writer and
    function tables of the environments themselves are not modelled; the back ends are tied to
    the reference evaluator elsewhere (C03, C19).
-/
import Yae.Proofs.ApiWitness
import Yae.Proofs.ApiCompile
namespace Yae.ApiProps
open Yae Yae.Facade Yae.Api Yae.EngineCheck

/-- from the hypotheses as stated here to `Api.OpsOK` -/
theorem opsOK_of {ops : List Op}
    (hreg : ∀ d, Op.registerFun d ∈ ops → (∃ n ps r, d.ty = .fn n ps r) → Sound.declOK d = true)
    (htenv : ∀ times tenv src, Op.compile times tenv src ∈ ops →
      ∀ p ∈ tenv, p.2.wf = true ∧ slotFree p.2 = true) : OpsOK ops := by
  intro op hop
  cases op with
  | registerFun d => exact hreg d hop
  | compile times tenv src => exact htenv times tenv src hop
  | _ => trivial

/-- **API-level soundness for every history**, from any engine whose table respects its
signatures. -/
theorem api_sound_from {e : Engine} (he : Sound.FunsOK e.funs) (ops : List Op)
    (hreg : ∀ d, Op.registerFun d ∈ ops → (∃ n ps r, d.ty = .fn n ps r) → Sound.declOK d = true)
    (htenv : ∀ times tenv src, Op.compile times tenv src ∈ ops →
      ∀ p ∈ tenv, p.2.wf = true ∧ slotFree p.2 = true)
    (hvenv : ∀ k venv ext, Op.invoke k venv ext ∈ ops → ∀ p ∈ venv, Sound.WF p.2 = true)
    (hlate : LateOK e ops)
    {i k : Nat} {venv : List (String × Val)} {ext : Externs} {out : Out}
    (hop : ops[i]? = some (.invoke k venv ext)) (hout : (e.run ops).2[i]? = some out) :
    -- (a)
    (out = .noCallable ∧ ∀ c, k < i → (e.run ops).2[k]? ≠ some (.compiled (.ok c))) ∨
    ∃ c, k < i ∧ (e.run ops).2[k]? = some (.compiled (.ok c)) ∧
      (∃ times src, ops[k]? = some (.compile times c.tenv src)) ∧
      -- (b)
      ((∃ err, envCheck c.tenv venv = .error err ∧ out = .result (.error (.env err), [])) ∨
       (envCheck c.tenv venv = .ok () ∧
          -- (c)
         ((∃ v evs, out = .result (.ok v, evs) ∧ Sound.HasTy v c.ty) ∨
          -- (d)
          (∃ f evs, out = .result (.error (.fail f), evs) ∧ Sound.Allowed f)))) :=
  invoke_out_ok_ty he (opsOK_of hreg htenv) hvenv hlate.lateTyOK hop hout

theorem funsOK_new : Sound.FunsOK Engine.new.funs := fun d hd => by cases hd

/-- **API-level soundness for every history on a fresh engine.** -/
theorem api_sound (ops : List Op)
    (hreg : ∀ d, Op.registerFun d ∈ ops → (∃ n ps r, d.ty = .fn n ps r) → Sound.declOK d = true)
    (htenv : ∀ times tenv src, Op.compile times tenv src ∈ ops →
      ∀ p ∈ tenv, p.2.wf = true ∧ slotFree p.2 = true)
    (hvenv : ∀ k venv ext, Op.invoke k venv ext ∈ ops → ∀ p ∈ venv, Sound.WF p.2 = true)
    (hlate : LateOK Engine.new ops)
    {i k : Nat} {venv : List (String × Val)} {ext : Externs} {out : Out}
    (hop : ops[i]? = some (.invoke k venv ext)) (hout : (Engine.new.run ops).2[i]? = some out) :
    (out = .noCallable ∧ ∀ c, k < i → (Engine.new.run ops).2[k]? ≠ some (.compiled (.ok c))) ∨
    ∃ c, k < i ∧ (Engine.new.run ops).2[k]? = some (.compiled (.ok c)) ∧
      (∃ times src, ops[k]? = some (.compile times c.tenv src)) ∧
      ((∃ err, envCheck c.tenv venv = .error err ∧ out = .result (.error (.env err), [])) ∨
       (envCheck c.tenv venv = .ok () ∧
         ((∃ v evs, out = .result (.ok v, evs) ∧ Sound.HasTy v c.ty) ∨
          (∃ f evs, out = .result (.error (.fail f), evs) ∧ Sound.Allowed f)))) :=
  api_sound_from funsOK_new ops hreg htenv hvenv hlate hop hout

theorem lateOK_iff (e : Engine) (ops : List Op) : LateOK e ops ↔
    ∀ i k venv ext c, ops[i]? = some (.invoke k venv ext) → k < i →
      (e.run ops).2[k]? = some (.compiled (.ok c)) → c.backend.late = true →
      NoMonoClash (regs ((ops.take i).drop (k+1))) c.tree := Iff.rfl

/-- `LateTyOK`, spelled out: whenever a Callable compiled by a late-binding compiler is invoked,
every MONOMORPHIC call `(r, i)` (`i < 0`) of its tree whose key `r` is registered between the
compilation and the invocation is registered (last) with the type `r` has in the Callable's own
table. -/
theorem lateTyOK_iff (e : Engine) (ops : List Op) : LateTyOK e ops ↔
    ∀ i k venv ext c, ops[i]? = some (.invoke k venv ext) → k < i →
      (e.run ops).2[k]? = some (.compiled (.ok c)) → c.backend.late = true →
      EngineEval.All (fun _ => True)
        (fun r i' => i' < 0 → ∀ d', lookupMono (regs ((ops.take i).drop (k+1))) r = some d' →
          ∀ d, lookupMono c.funs r = some d → d'.ty = d.ty) True c.tree := Iff.rfl

/-- **API-level soundness under the refined condition**: a monomorphic key may be registered
again with a function of the same type. -/
theorem api_sound_same_type (ops : List Op)
    (hreg : ∀ d, Op.registerFun d ∈ ops → (∃ n ps r, d.ty = .fn n ps r) → Sound.declOK d = true)
    (htenv : ∀ times tenv src, Op.compile times tenv src ∈ ops →
      ∀ p ∈ tenv, p.2.wf = true ∧ slotFree p.2 = true)
    (hvenv : ∀ k venv ext, Op.invoke k venv ext ∈ ops → ∀ p ∈ venv, Sound.WF p.2 = true)
    (hlate : LateTyOK Engine.new ops)
    {i k : Nat} {venv : List (String × Val)} {ext : Externs} {out : Out}
    (hop : ops[i]? = some (.invoke k venv ext)) (hout : (Engine.new.run ops).2[i]? = some out) :
    (out = .noCallable ∧ ∀ c, k < i → (Engine.new.run ops).2[k]? ≠ some (.compiled (.ok c))) ∨
    ∃ c, k < i ∧ (Engine.new.run ops).2[k]? = some (.compiled (.ok c)) ∧
      (∃ times src, ops[k]? = some (.compile times c.tenv src)) ∧
      ((∃ err, envCheck c.tenv venv = .error err ∧ out = .result (.error (.env err), [])) ∨
       (envCheck c.tenv venv = .ok () ∧
         ((∃ v evs, out = .result (.ok v, evs) ∧ Sound.HasTy v c.ty) ∨
          (∃ f evs, out = .result (.error (.fail f), evs) ∧ Sound.Allowed f)))) :=
  invoke_out_ok_ty funsOK_new (opsOK_of hreg htenv) hvenv hlate hop hout

/-- **(b), exactly.**  The invocation of the Callable of step `k` ends in an environment error iff
some compile-time name is missing at run time or bound to a value of another type — and then
nothing was evaluated (`api_sound` (b): the log is empty).  This is `Engine.invoke` alone: the
proof uses none of the hypotheses of `api_sound`. -/
theorem api_env_refusal_iff (ops : List Op)
    (hreg : ∀ d, Op.registerFun d ∈ ops → (∃ n ps r, d.ty = .fn n ps r) → Sound.declOK d = true)
    (htenv : ∀ times tenv src, Op.compile times tenv src ∈ ops →
      ∀ p ∈ tenv, p.2.wf = true ∧ slotFree p.2 = true)
    (hvenv : ∀ k venv ext, Op.invoke k venv ext ∈ ops → ∀ p ∈ venv, Sound.WF p.2 = true)
    (hlate : LateOK Engine.new ops)
    {i k : Nat} {venv : List (String × Val)} {ext : Externs} {out : Out} {c : Callable}
    (hop : ops[i]? = some (.invoke k venv ext)) (hout : (Engine.new.run ops).2[i]? = some out)
    (hki : k < i) (hc : (Engine.new.run ops).2[k]? = some (.compiled (.ok c))) :
    (∃ err evs, out = .result (.error (.env err), evs)) ↔
      ∃ n t, (n, t) ∈ c.tenv ∧ (lookupVal venv n = none ∨
        ∃ v, lookupVal venv n = some v ∧ tyEq t v.typeOf = false) := by
  rcases EngineHistory.run_invoke hop with ⟨_, hno⟩ | ⟨c', _, hc', h⟩
  · exact absurd hc (hno c hki)
  · cases Option.some.inj (hc.symm.trans hc')
    cases Option.some.inj (hout.symm.trans h)
    simp only [Out.result.injEq]
    exact (EngineHistory.invoke_env_iff _ c venv ext).trans (ConvEnv.reject_iff c.tenv venv)

/-! ## histories that need no hypothesis on late binding -/

/-- **No `interp.Interp` in the history** (`vm.Compile`, `closure.Compile`,
`closure.DebugCompile` only): soundness with no further condition — registrations after a
compilation, of whatever key and type, cannot disturb a Callable. -/
theorem api_sound_early (ops : List Op)
    (hreg : ∀ d, Op.registerFun d ∈ ops → (∃ n ps r, d.ty = .fn n ps r) → Sound.declOK d = true)
    (htenv : ∀ times tenv src, Op.compile times tenv src ∈ ops →
      ∀ p ∈ tenv, p.2.wf = true ∧ slotFree p.2 = true)
    (hvenv : ∀ k venv ext, Op.invoke k venv ext ∈ ops → ∀ p ∈ venv, Sound.WF p.2 = true)
    (hearly : ∀ b, Op.useCompiler b ∈ ops → b.late = false)
    {i k : Nat} {venv : List (String × Val)} {ext : Externs} {out : Out}
    (hop : ops[i]? = some (.invoke k venv ext)) (hout : (Engine.new.run ops).2[i]? = some out) :
    (out = .noCallable ∧ ∀ c, k < i → (Engine.new.run ops).2[k]? ≠ some (.compiled (.ok c))) ∨
    ∃ c, k < i ∧ (Engine.new.run ops).2[k]? = some (.compiled (.ok c)) ∧
      (∃ times src, ops[k]? = some (.compile times c.tenv src)) ∧
      ((∃ err, envCheck c.tenv venv = .error err ∧ out = .result (.error (.env err), [])) ∨
       (envCheck c.tenv venv = .ok () ∧
         ((∃ v evs, out = .result (.ok v, evs) ∧ Sound.HasTy v c.ty) ∨
          (∃ f evs, out = .result (.error (.fail f), evs) ∧ Sound.Allowed f)))) :=
  api_sound ops hreg htenv hvenv (lateOK_of_early rfl hearly) hop hout

/-- **Only polymorphic functions are registered** (any compiler, `interp.Interp` included):
soundness with no further condition — a polymorphic registration extends an overload list at the
end and leaves every resolved index where it was. -/
theorem api_sound_poly (ops : List Op)
    (hreg : ∀ d, Op.registerFun d ∈ ops → (∃ n ps r, d.ty = .fn n ps r) → Sound.declOK d = true)
    (htenv : ∀ times tenv src, Op.compile times tenv src ∈ ops →
      ∀ p ∈ tenv, p.2.wf = true ∧ slotFree p.2 = true)
    (hvenv : ∀ k venv ext, Op.invoke k venv ext ∈ ops → ∀ p ∈ venv, Sound.WF p.2 = true)
    (hpoly : ∀ d, Op.registerFun d ∈ ops → d.key.2 = false)
    {i k : Nat} {venv : List (String × Val)} {ext : Externs} {out : Out}
    (hop : ops[i]? = some (.invoke k venv ext)) (hout : (Engine.new.run ops).2[i]? = some out) :
    (out = .noCallable ∧ ∀ c, k < i → (Engine.new.run ops).2[k]? ≠ some (.compiled (.ok c))) ∨
    ∃ c, k < i ∧ (Engine.new.run ops).2[k]? = some (.compiled (.ok c)) ∧
      (∃ times src, ops[k]? = some (.compile times c.tenv src)) ∧
      ((∃ err, envCheck c.tenv venv = .error err ∧ out = .result (.error (.env err), [])) ∨
       (envCheck c.tenv venv = .ok () ∧
         ((∃ v evs, out = .result (.ok v, evs) ∧ Sound.HasTy v c.ty) ∨
          (∃ f evs, out = .result (.error (.fail f), evs) ∧ Sound.Allowed f)))) :=
  api_sound ops hreg htenv hvenv
    (lateOK_of_poly hpoly) hop hout

/-! ## the condition on late binding cannot be dropped -/

/-- **Late binding breaks type soundness through the API.**  The history `Api.histBad`
(`useCompiler interp; compile "!true"; registerFun (!(bool) : str, returns "oops"); invoke 1`)
satisfies every hypothesis of `api_sound` except `LateOK`; the Callable of step 1 has the inferred
type `bool`, the environment check accepts (there is nothing to check), and the invocation at
step 3 returns the string `"oops"` — not a value of type `bool`. -/
theorem late_binding_breaks_soundness :
    (∀ d, Op.registerFun d ∈ histBad → (∃ n ps r, d.ty = .fn n ps r) → Sound.declOK d = true) ∧
    (∀ times tenv src, Op.compile times tenv src ∈ histBad →
      ∀ p ∈ tenv, p.2.wf = true ∧ slotFree p.2 = true) ∧
    (∀ k venv ext, Op.invoke k venv ext ∈ histBad → ∀ p ∈ venv, Sound.WF p.2 = true) ∧
    ¬ LateOK Engine.new histBad ∧
    histBad[3]? = some (.invoke 1 [] {}) ∧
    ∃ c evs, (Engine.new.run histBad).2[1]? = some (.compiled (.ok c)) ∧
      c.ty = .bool ∧ c.backend = .interp ∧ envCheck c.tenv [] = .ok () ∧
      (Engine.new.run histBad).2[3]? = some (.result (.ok (.str "oops"), evs)) ∧
      ¬ Sound.HasTy (.str "oops") c.ty := by
  refine ⟨fun d hd => ?_, fun times tenv src hc => ?_, histBad_venvs,
    fun h => Api.histBad_not_lateTyOK h.lateTyOK, rfl, ?_⟩
  · exact histBad_opsOK _ hd
  · exact histBad_opsOK _ hc
  · obtain ⟨p, col, cp, bp, hrun⟩ := bad_run
    refine ⟨_, _, by rw [hrun]; rfl, rfl, rfl, rfl, by rw [hrun]; rfl, ?_⟩
    show ¬ Sound.HasTy (.str "oops") .bool
    decide

/-- `histBad` does not satisfy the refined condition `LateTyOK` either (the key `λ ! (bool)` is
registered again with ANOTHER type, `… : str`) -/
theorem histBad_not_lateTyOK : ¬ LateTyOK Engine.new histBad := Api.histBad_not_lateTyOK

/-- **Every compilation of a history returns a Callable or a reported error.** -/
theorem api_compile_reports (ops : List Op)
    (hoper : ∀ o, Op.registerOperator o ∈ ops →
      o.kind ≠ "" ∧ o.kind ≠ "<END-OF-FILE>" ∧ o.kind ∉ literalKinds)
    (hreg : ∀ d, Op.registerFun d ∈ ops → (∃ n ps r, d.ty = .fn n ps r) →
      Yae.PolyOK.declOK d.ty = true)
    (htenv : ∀ times tenv src, Op.compile times tenv src ∈ ops → ∀ p ∈ tenv, TyOK p.2 = true)
    {i : Nat} {times : List (String × Int)} {tenv : List (String × Ty)} {src : String} {out : Out}
    (hop : ops[i]? = some (.compile times tenv src))
    (hout : (Engine.new.run ops).2[i]? = some out) :
    (∃ c, out = .compiled (.ok c) ∧ c.tenv = tenv) ∨
    (∃ err, out = .compiled (.error err) ∧ Yae.C12.reported err) := by
  have hnew : StaticOK Engine.new := by
    unfold StaticOK
    exact ⟨fun o ho => (by cases ho), fun d hd => (by cases hd)⟩
  refine compile_out_ok hnew (fun op hm => ?_) hop hout
  cases op with
  | registerFun d => exact hreg d hm
  | registerOperator o => exact hoper o hm
  | compile times tenv src => exact htenv times tenv src hm
  | _ => trivial

/-- the first invocation of `histGood`, by `api_sound` -/
example {out : Out} (hout : (Engine.new.run histGood).2[2]? = some out) :
    (out = .noCallable ∧ ∀ c, 1 < 2 → (Engine.new.run histGood).2[1]? ≠ some (.compiled (.ok c))) ∨
    ∃ c, 1 < 2 ∧ (Engine.new.run histGood).2[1]? = some (.compiled (.ok c)) ∧
      (∃ times src, histGood[1]? = some (.compile times c.tenv src)) ∧
      ((∃ err, envCheck c.tenv [("x", .num 1)] = .error err ∧
          out = .result (.error (.env err), [])) ∨
       (envCheck c.tenv [("x", .num 1)] = .ok () ∧
         ((∃ v evs, out = .result (.ok v, evs) ∧ Sound.HasTy v c.ty) ∨
          (∃ f evs, out = .result (.error (.fail f), evs) ∧ Sound.Allowed f)))) :=
  api_sound histGood histGood_hyps.1 histGood_hyps.2.1 histGood_hyps.2.2.1 histGood_hyps.2.2.2.2
    (i := 2) rfl hout

example : LateOK Engine.new histGoodLate := by
  refine lateOK_of_poly fun d hd => ?_
  simp only [histGoodLate, List.mem_cons, List.not_mem_nil, or_false, reduceCtorEq, false_or,
    Op.registerFun.injEq] at hd
  subst hd
  decide

/-- the hypotheses of `api_compile_reports` hold for `histGood` -/
example {out : Out} (hout : (Engine.new.run histGood).2[1]? = some out) :
    (∃ c, out = .compiled (.ok c) ∧ c.tenv = [("x", .num)]) ∨
    (∃ err, out = .compiled (.error err) ∧ Yae.C12.reported err) := by
  refine api_compile_reports histGood (fun o ho => ?_) (fun d hd _ => ?_)
    (fun times tenv src hc p hp => ?_) (i := 1) rfl hout
  · simp [histGood] at ho
  · simp only [histGood, List.mem_cons, List.not_mem_nil, or_false, reduceCtorEq,
      Op.registerFun.injEq] at hd
    subst hd
    decide
  · simp only [histGood, List.mem_cons, List.not_mem_nil, or_false, reduceCtorEq, false_or,
      Op.compile.injEq] at hc
    obtain ⟨_, rfl, _⟩ := hc
    simp only [List.mem_singleton] at hp
    subst hp
    decide

end Yae.ApiProps

#print axioms Yae.ApiProps.api_sound_from
#print axioms Yae.ApiProps.api_sound
#print axioms Yae.ApiProps.lateOK_iff
#print axioms Yae.ApiProps.lateTyOK_iff
#print axioms Yae.ApiProps.api_sound_same_type
#print axioms Yae.ApiProps.histBad_not_lateTyOK
#print axioms Yae.ApiProps.api_env_refusal_iff
#print axioms Yae.ApiProps.api_sound_early
#print axioms Yae.ApiProps.api_sound_poly
#print axioms Yae.ApiProps.late_binding_breaks_soundness
#print axioms Yae.ApiProps.api_compile_reports
#print axioms Yae.ApiProps.histGood_hyps
