/-
  THE ENGINE WHOSE `vm` BACK END IS THE MACHINE, AND ITS REFINEMENT TO THE ENGINE OF `Engine.lean`.

  `Yae/Model/Engine.lean` models every back end of `facade.go` by the reference evaluator;
  `api_sound` (`Yae/Props/Api.lean`) is proved about that engine.  `Yae/Model/EngineVm.lean` is the
  same state machine in which `vm.Compile` — the DEFAULT compiler of `NewExpr` — really compiles
  to bytecode (`Vm.compile`) when `Compile` is called and really runs the machine (`Vm.runVm`) when
  the Callable is invoked.  Here: for every history of API calls the two engines give the same
  outputs, step by step, except where the VM compiler refuses; hence `api_sound` holds of
  `EngineVm` (`api_sound_vm`).  Proofs: `Yae/Proofs/EngineVm*.lean`; one invocation is
  `C03.runVm_correct_checked` with its hypotheses discharged from `Api.callable_history`.

  ## What the Go API does when the VM compiler refuses (header of `Yae/Model/EngineVm.lean`)

  `util.Assert(…, "overflow")` (vm/compiler.go:206, :215, :227) panics; nothing recovers before
  `defer e.backStrace("compile", &err)` in `Expr.Compile` (facade.go:186; `backStrace`
  facade.go:257-265), which turns it into the returned `err` (text `overflow`); the result `c`
  stays `nil`.  So a refusal is an ordinary compile ERROR, the engine stays initialised, and no
  Callable exists.  In the model: `Out`/`OutVm` `compiled (.error (.vm .overflow))`.

  ## The theorems

  * `engines_agree` (no hypothesis): after every history both engines are in the same state.
  * `engineVm_refines`.  HYPOTHESES, about the calls of the history only:
      `hreg`, `htenv`, `hvenv`  as in `api_sound` (registered functions respect their signature,
               compile-time types well formed and variable free, run-time values `WF`).  Needed
               because the machine is tied to the evaluator only for CHECKED trees in CONFORMING
               environments (`C03.runVm_correct_checked`; on an internal fault of the evaluator the
               machine does differ: `C03.unbound_identifier_differs`).
      `hnl`    no run-time environment handed to an `invoke` binds a value that contains a lazy
               function VALUE (`VmChk.noLazy`, i.e. `C03.NoLazyFunValues`).  Needed: defect D20,
               `C03.checked_needs_noLazy` — with a lazy function value the evaluator and the
               machine return different results on a checked program.
      NOT needed: `LateOK` (late binding concerns `interp.Interp` only, and that back end is the
      same function in both engines), nothing about `useCompiler` / `useBuiltIn` /
      `registerOperator`, nothing about the order of calls.
    CONCLUSION, for every step `i`: one of
      (1) the output of `EngineVm`, its code erased (`OutVm.erase`), IS the output of `Engine`
          (also beyond the end of the history: both `none`);
      (2) step `i` is a `compile`; `Engine` returned a `vm` Callable `c`, `EngineVm` returned the
          compile error `.vm err`, and `err` is what `Vm.compile c.funs c.tree` fails with;
      (3) step `i` is an `invoke k` of such a refused compilation `k < i`: `EngineVm` answers
          `noCallable`, `Engine` answers with a result;
      (4) step `i` is an `invokeC` of a `vm` Callable obtained anywhere: nothing is claimed
          (nothing is known about such a Callable; as in `api_sound`).
  * `refusal_exact`: WHEN (2) happens, for the Callables of a history: the tree is well annotated;
    `vm.Compile` refuses it iff `VmChk.sizes` (the compiler run on sizes only) overflows, and then
    the error is `overflow`; and then the tree has more than 4095 nodes or a call with more than
    255 arguments (`C03.refuse_exact`, `C03.compiles_small`).
  * `engineVm_refines_small`: if every Callable `Engine` returns in the history is that small
    and no `vm` Callable is passed to `invokeC`, (1) holds at EVERY step.
  * `api_sound_vm`: the four-way conclusion of `api_sound`, for `EngineVm.run`: an `invoke k` at
    step `i` answers (a) `noCallable`, and step `k` holds no Callable (for `EngineVm` also when the
    VM compiler refused at `k`); or step `k < i` returned the Callable `cv` and (b) the environment
    error with an empty log, (c) a value of the compile-time type, or (d) an `Allowed` failure.
    Hypotheses: those of `api_sound` (`LateOK` stated on `Engine.run`, whose Callables are those of
    `EngineVm.run` by (1)) plus `hnl`.
  * Non-vacuity, `histVm` (`Yae/Proofs/EngineVmWitness.lean`): register a host function, compile
    `x + 1` (back end `vm`, the default), invoke with `x = 1`, invoke with `x` missing — the
    hypotheses hold (`histVm_hyps`), the Callable is small (`histVm_small`), so by
    `engineVm_refines_small` all four outputs agree (`histVm_same`).  Proved by the theorem; the
    kernel evaluates only the front end on `"x + 1"` (`decide +kernel`, as `EngineWitness`).

  ## NOT proved here

  * A history-level witness that `hnl` cannot be dropped (the one-run witness is
    `C03.checked_needs_noLazy`; lifting it needs the front end evaluated on `h.f(1)` with an
    object-typed `env0`).
  * A history-level witness that cases (2)/(3) occur (a SOURCE the VM compiler refuses): the
    tree-level witness is `C03.overflows_long_list` (a list literal of more than 65 535 numbers is
    accepted by the checker and refused by `Vm.compile`).  A refused source is RUN, not proved:
    the `engine` stream has a fixed history (`harness/cmd/corr/engine_refusal.go`: a host function
    of 256 parameters, `wide(1, …, 1)` compiled on `vm`, invoked, compiled again on `closure`,
    invoked) on which Go and the executable `EngineVm.run` (`Yae/Driver/Engine.lean`) both answer
    `compiled err overflow`, then `noCallable`, then a Callable and a value.
  * `EngineVm.invoke` hands the machine `e.tableFor c` (= `c.funs` for `vm`), Go hands it the
    current table; `Vm.run` never reads `env.funs` (by inspection of `Yae/Model/Vm.lean`), but
    that independence is not proved as a lemma.
  * The model's limits are those of `Engine.lean` and of C03 (the machine is `switchThreading`).
-/
import Yae.Proofs.EngineVmRefine
import Yae.Proofs.EngineVmWitness
import Yae.Props.Api
import Yae.Props.C03
namespace Yae.EngineVmProps
open Yae Yae.Facade Yae.Api Yae.EngVm Yae.ApiProps

/-- **The two engines are always in the same state** (no hypothesis). -/
theorem engines_agree (ops : List Op) :
    (EngineVm.new.run ops).1.eng = (Engine.new.run ops).1 :=
  (run_sim EngineVm.new ops).1

theorem outputs_length (ops : List Op) :
    (EngineVm.new.run ops).2.length = (Engine.new.run ops).2.length :=
  (run_sim EngineVm.new ops).2.1

/-- **Refinement.**  Step by step, `EngineVm.run` returns what `Engine.run` returns, except where
the VM compiler refuses. -/
theorem engineVm_refines (ops : List Op)
    (hreg : ∀ d, Op.registerFun d ∈ ops → (∃ n ps r, d.ty = .fn n ps r) → Sound.declOK d = true)
    (htenv : ∀ times tenv src, Op.compile times tenv src ∈ ops →
      ∀ p ∈ tenv, p.2.wf = true ∧ slotFree p.2 = true)
    (hvenv : ∀ k venv ext, Op.invoke k venv ext ∈ ops → ∀ p ∈ venv, Sound.WF p.2 = true)
    (hnl : ∀ k venv ext, Op.invoke k venv ext ∈ ops → ∀ p ∈ venv, VmChk.noLazy p.2 = true)
    (i : Nat) :
    -- (1)
    ((EngineVm.new.run ops).2[i]?).bind OutVm.erase = (Engine.new.run ops).2[i]? ∨
    -- (2)
    (∃ times tenv src c err, ops[i]? = some (.compile times tenv src) ∧
      (Engine.new.run ops).2[i]? = some (.compiled (.ok c)) ∧
      (EngineVm.new.run ops).2[i]? = some (.compiled (.error (.vm err))) ∧
      c.backend = .vm ∧ Vm.compile c.funs c.tree = .error err) ∨
    -- (3)
    (∃ k venv ext c err r, ops[i]? = some (.invoke k venv ext) ∧ k < i ∧
      (∃ times src, ops[k]? = some (.compile times c.tenv src)) ∧
      (Engine.new.run ops).2[k]? = some (.compiled (.ok c)) ∧
      (EngineVm.new.run ops).2[k]? = some (.compiled (.error (.vm err))) ∧
      c.backend = .vm ∧ Vm.compile c.funs c.tree = .error err ∧
      (EngineVm.new.run ops).2[i]? = some .noCallable ∧
      (Engine.new.run ops).2[i]? = some (.result r)) ∨
    -- (4)
    (∃ c venv ext, ops[i]? = some (.invokeC c venv ext) ∧ c.backend = .vm) := by
  cases hop : ops[i]? with
  | none =>
    have hi := List.getElem?_eq_none_iff.1 hop
    rw [List.getElem?_eq_none (by rw [EngVm.run_length]; exact hi),
      List.getElem?_eq_none (by rw [EngineHistory.run_length]; exact hi)]
    exact .inl rfl
  | some op =>
    -- step `i` of both histories is one call on the same engine
    have hV := EngVm.run_out (e := EngineVm.new) hop
    have hE := EngineHistory.run_out (e := Engine.new) hop
    rw [← engines_agree (ops.take i)] at hE
    cases op with
    | registerFun _ | registerOperator _ | useBuiltIn _ | useCompiler _ =>
      exact .inl (by rw [hV, hE]; rfl)
    | compile times tenv src =>
      simp only [EngineVm.step, Engine.step] at hV hE
      rcases compile_cases (EngineVm.new.run (ops.take i)).1 times tenv src with
        ⟨err, h1, h2⟩ | ⟨c, h1, ⟨h2, _⟩ | ⟨err, h2, h3⟩⟩ <;> rw [h1] at hE <;> rw [h2] at hV
      · exact .inl (by rw [hV, hE]; rfl)
      · exact .inl (by rw [hV, hE]; rfl)
      · exact .inr (.inl ⟨times, tenv, src, c, err, rfl, hE, hV, h3.1, h3.2⟩)
    | invoke k venv ext =>
      rcases invoke_cases EngineVm.new Engine.new rfl funsOK_new (opsOK_of hreg htenv) hvenv hnl
        hop with
        ⟨h1, h2, _, _⟩ | ⟨c, r, _, _, _, h1, h2⟩ | ⟨c, err, r, hki, hc, hv, href, hsrc, h1, h2⟩
      · exact .inl (by rw [h1, h2]; rfl)
      · exact .inl (by rw [h1, h2]; rfl)
      · exact .inr (.inr (.inl ⟨k, venv, ext, c, err, r, rfl, hki, hsrc, hc, hv, href.1, href.2,
          h1, h2⟩))
    | invokeC c venv ext =>
      by_cases hb : c.backend = .vm
      · exact .inr (.inr (.inr ⟨c, venv, ext, rfl, hb⟩))
      · refine .inl ?_
        rw [hV, hE]
        simp only [EngineVm.step, Engine.step, invoke_other _ hb]
        rfl

/-- the Callables of a history are `Api.CallableOK` -/
theorem callableOK_of_history (ops : List Op)
    (hreg : ∀ d, Op.registerFun d ∈ ops → (∃ n ps r, d.ty = .fn n ps r) → Sound.declOK d = true)
    (htenv : ∀ times tenv src, Op.compile times tenv src ∈ ops →
      ∀ p ∈ tenv, p.2.wf = true ∧ slotFree p.2 = true)
    {k : Nat} {c : Callable} (hc : (Engine.new.run ops).2[k]? = some (.compiled (.ok c))) :
    CallableOK c :=
  (callable_history funsOK_new (opsOK_of hreg htenv) hc).1

/-- **When the VM compiler refuses a Callable the engine returned** (any engine with a respectful
table, any good `env0`): the tree is well annotated; refused iff the compiler run on sizes
overflows, always with `overflow`; never a tree of at most 4095 nodes whose calls have at most
255 arguments. -/
theorem refusal_exact_callable {c : Callable} (hok : CallableOK c) :
    Yae.C03.WellAnnotated c.funs c.tree ∧
    (∀ err, (c.backend = .vm ∧ Vm.compile c.funs c.tree = .error err) ↔
      (c.backend = .vm ∧ err = .overflow ∧ VmChk.sizes c.funs c.tree = .error .overflow)) ∧
    (VmChk.argsOK c.tree = true → VmChk.nodes c.tree ≤ 4095 →
      ∃ code pool, Vm.compile c.funs c.tree = .ok (code, pool)) := by
  obtain ⟨hf, d, c', hchk⟩ := hok.checked
  have hw : Yae.C03.WellAnnotated c.funs c.tree :=
    Yae.C03.checked_wellAnnotated (Γ := ⟨c.tenv, c.funs, reservedWords⟩) hf hok.tenv hchk
  refine ⟨hw, fun err => ⟨fun ⟨hb, he⟩ => ?_, fun ⟨hb, he, hs⟩ => ?_⟩,
    fun ha hn => Yae.C03.compiles_small hw ha hn⟩
  · have := Yae.C03.refuse_overflow hw he
    subst this
    exact ⟨hb, rfl, ((Yae.C03.refuse_exact c.funs c.tree).1 _).1 he⟩
  · subst he
    exact ⟨hb, ((Yae.C03.refuse_exact c.funs c.tree).1 _).2 hs⟩

/-- **When case (2) of `engineVm_refines` happens**, for the Callables of a history. -/
theorem refusal_exact (ops : List Op)
    (hreg : ∀ d, Op.registerFun d ∈ ops → (∃ n ps r, d.ty = .fn n ps r) → Sound.declOK d = true)
    (htenv : ∀ times tenv src, Op.compile times tenv src ∈ ops →
      ∀ p ∈ tenv, p.2.wf = true ∧ slotFree p.2 = true)
    {k : Nat} {c : Callable} (hc : (Engine.new.run ops).2[k]? = some (.compiled (.ok c))) :
    Yae.C03.WellAnnotated c.funs c.tree ∧
    (∀ err, (c.backend = .vm ∧ Vm.compile c.funs c.tree = .error err) ↔
      (c.backend = .vm ∧ err = .overflow ∧ VmChk.sizes c.funs c.tree = .error .overflow)) ∧
    (VmChk.argsOK c.tree = true → VmChk.nodes c.tree ≤ 4095 →
      ∃ code pool, Vm.compile c.funs c.tree = .ok (code, pool)) :=
  refusal_exact_callable (callableOK_of_history ops hreg htenv hc)

/-- **Small programs only: the same outputs at every step.**  If every Callable the history
produces has at most 4095 nodes and no call of more than 255 arguments, and no `vm` Callable
obtained elsewhere is invoked, `EngineVm.run` and `Engine.run` agree everywhere. -/
theorem engineVm_refines_small (ops : List Op)
    (hreg : ∀ d, Op.registerFun d ∈ ops → (∃ n ps r, d.ty = .fn n ps r) → Sound.declOK d = true)
    (htenv : ∀ times tenv src, Op.compile times tenv src ∈ ops →
      ∀ p ∈ tenv, p.2.wf = true ∧ slotFree p.2 = true)
    (hvenv : ∀ k venv ext, Op.invoke k venv ext ∈ ops → ∀ p ∈ venv, Sound.WF p.2 = true)
    (hnl : ∀ k venv ext, Op.invoke k venv ext ∈ ops → ∀ p ∈ venv, VmChk.noLazy p.2 = true)
    (hsmall : ∀ (k : Nat) (c : Callable), (Engine.new.run ops).2[k]? = some (.compiled (.ok c)) →
      VmChk.argsOK c.tree = true ∧ VmChk.nodes c.tree ≤ 4095)
    (hown : ∀ c venv ext, Op.invokeC c venv ext ∈ ops → c.backend ≠ .vm) (i : Nat) :
    ((EngineVm.new.run ops).2[i]?).bind OutVm.erase = (Engine.new.run ops).2[i]? := by
  have hno : ∀ (k : Nat) (c : Callable) (err : Vm.CErr),
      (Engine.new.run ops).2[k]? = some (.compiled (.ok c)) →
      Vm.compile c.funs c.tree ≠ .error err := by
    intro k c err hc he
    obtain ⟨code, pool, hcomp⟩ :=
      (refusal_exact ops hreg htenv hc).2.2 (hsmall k c hc).1 (hsmall k c hc).2
    rw [hcomp] at he
    cases he
  rcases engineVm_refines ops hreg htenv hvenv hnl i with h | ⟨_, _, _, c, err, _, hc, _, _, he⟩ |
    ⟨k, _, _, c, err, _, _, _, _, hc, _, _, he, _⟩ | ⟨c, venv, ext, hop, hb⟩
  · exact h
  · exact absurd he (hno i c err hc)
  · exact absurd he (hno k c err hc)
  · exact absurd hb (hown c venv ext (List.mem_of_getElem? hop))

/-- **API-level soundness of the engine with the real machine**, for every history on a fresh
engine. -/
theorem api_sound_vm (ops : List Op)
    (hreg : ∀ d, Op.registerFun d ∈ ops → (∃ n ps r, d.ty = .fn n ps r) → Sound.declOK d = true)
    (htenv : ∀ times tenv src, Op.compile times tenv src ∈ ops →
      ∀ p ∈ tenv, p.2.wf = true ∧ slotFree p.2 = true)
    (hvenv : ∀ k venv ext, Op.invoke k venv ext ∈ ops → ∀ p ∈ venv, Sound.WF p.2 = true)
    (hnl : ∀ k venv ext, Op.invoke k venv ext ∈ ops → ∀ p ∈ venv, VmChk.noLazy p.2 = true)
    (hlate : LateOK Engine.new ops)
    {i k : Nat} {venv : List (String × Val)} {ext : Externs} {out : OutVm}
    (hop : ops[i]? = some (.invoke k venv ext))
    (hout : (EngineVm.new.run ops).2[i]? = some out) :
    -- (a)
    (out = .noCallable ∧
      ∀ cv, k < i → (EngineVm.new.run ops).2[k]? ≠ some (.compiled (.ok cv))) ∨
    ∃ cv, k < i ∧ (EngineVm.new.run ops).2[k]? = some (.compiled (.ok cv)) ∧
      (∃ times src, ops[k]? = some (.compile times cv.toCallable.tenv src)) ∧
      -- (b)
      ((∃ err, envCheck cv.toCallable.tenv venv = .error err ∧
          out = .result (.error (.env err), [])) ∨
       (envCheck cv.toCallable.tenv venv = .ok () ∧
          -- (c)
         ((∃ v evs, out = .result (.ok v, evs) ∧ Sound.HasTy v cv.toCallable.ty) ∨
          -- (d)
          (∃ f evs, out = .result (.error (.fail f), evs) ∧ Sound.Allowed f)))) := by
  rcases invoke_cases EngineVm.new Engine.new rfl funsOK_new (opsOK_of hreg htenv) hvenv hnl
    hop with
    ⟨h1, _, h3, _⟩ | ⟨c, r, hki, hc, hv, h1, h2⟩ | ⟨c, err, r, hki, _, hv, _, _, h1, _⟩
  · rw [h1] at hout
    cases hout
    exact .inl ⟨rfl, h3⟩
  · rw [h1] at hout
    cases hout
    right
    rcases api_sound ops hreg htenv hvenv hlate hop h2 with ⟨h, _⟩ | ⟨c', _, hc', hsrc, h⟩
    · cases h
    · rw [hc] at hc'
      cases hc'
      refine ⟨.ofCallable c, hki, hv, hsrc, ?_⟩
      simp only [Out.result.injEq] at h
      simp only [OutVm.result.injEq]
      exact h
  · rw [h1] at hout
    cases hout
    refine .inl ⟨rfl, fun cv _ hk => ?_⟩
    rw [hv] at hk
    cases hk

/-- `histVm` (register the host function `string(a) : str`, compile `x + 1` with `x : num` — the
back end is `vm`, the default —, invoke with `x = 1`, invoke with `x` missing) satisfies the
hypotheses of `engineVm_refines` and of `api_sound_vm` -/
theorem histVm_hyps :
    (∀ d, Op.registerFun d ∈ histVm → (∃ n ps r, d.ty = .fn n ps r) → Sound.declOK d = true) ∧
    (∀ times tenv src, Op.compile times tenv src ∈ histVm →
      ∀ p ∈ tenv, p.2.wf = true ∧ slotFree p.2 = true) ∧
    (∀ k venv ext, Op.invoke k venv ext ∈ histVm → ∀ p ∈ venv, Sound.WF p.2 = true) ∧
    (∀ k venv ext, Op.invoke k venv ext ∈ histVm → ∀ p ∈ venv, VmChk.noLazy p.2 = true) ∧
    LateOK Engine.new histVm ∧
    (∀ c venv ext, Op.invokeC c venv ext ∈ histVm → c.backend ≠ .vm) := by
  refine ⟨histGood_hyps.1, histGood_hyps.2.1, histGood_hyps.2.2.1, fun k venv ext hi p hp => ?_,
    histGood_hyps.2.2.2.2, fun c venv ext hi => ?_⟩
  · simp only [histVm, histGood, List.mem_cons, List.not_mem_nil, or_false, reduceCtorEq,
      false_or, Op.invoke.injEq] at hi
    rcases hi with ⟨_, rfl, _⟩ | ⟨_, rfl, _⟩
    · simp only [List.mem_singleton] at hp
      subst hp
      rfl
    · cases hp
  · simp [histVm, histGood] at hi

/-- the only Callable of `histVm` is small, and it is a `vm` Callable -/
theorem histVm_small : ∀ (k : Nat) (c : Callable),
    (Engine.new.run histVm).2[k]? = some (.compiled (.ok c)) →
    VmChk.argsOK c.tree = true ∧ VmChk.nodes c.tree ≤ 4095 :=
  fun k c h => (EngVm.histVm_callable k c h).2

/-- **the two engines give the same four outputs on `histVm`**: by the theorem -/
theorem histVm_same (i : Nat) :
    ((EngineVm.new.run histVm).2[i]?).bind OutVm.erase = (Engine.new.run histVm).2[i]? :=
  engineVm_refines_small histVm histVm_hyps.1 histVm_hyps.2.1 histVm_hyps.2.2.1
    histVm_hyps.2.2.2.1 histVm_small histVm_hyps.2.2.2.2.2 i

/-- Of the four outputs on `histVm`, the second is a `vm` Callable that holds compiled code, and the
third is a result `r`, the same for both engines (for `EngineVm` it comes from the machine run). -/
theorem histVm_outputs :
    ∃ c r, (Engine.new.run histVm).2[1]? = some (.compiled (.ok c)) ∧ c.backend = .vm ∧
      (EngineVm.new.run histVm).2[1]? = some (.compiled (.ok (.ofCallable c))) ∧
      (∃ code pool, (CallableVm.ofCallable c).vmCode = some (.ok (code, pool))) ∧
      (EngineVm.new.run histVm).2[2]? = some (.result r) ∧
      (Engine.new.run histVm).2[2]? = some (.result r) := by
  have hcomp : ∀ c, (Engine.new.run histVm).2[1]? = some (.compiled (.ok c)) →
      ∃ code pool, Vm.compile c.funs c.tree = .ok (code, pool) := fun c hc =>
    (refusal_exact histVm histVm_hyps.1 histVm_hyps.2.1 hc).2.2 (histVm_small 1 c hc).1
      (histVm_small 1 c hc).2
  rcases invoke_cases EngineVm.new Engine.new (ops := histVm) rfl funsOK_new
    (opsOK_of histVm_hyps.1 histVm_hyps.2.1) histVm_hyps.2.2.1 histVm_hyps.2.2.2.1 (i := 2)
    (k := 1) rfl with
    ⟨_, _, _, h4⟩ | ⟨c, r, _, hc, hv, h1, h2⟩ | ⟨c, err, r, _, hc, _, href, _, _, _⟩
  · obtain ⟨c, hc⟩ := EngVm.histVm_compiles
    exact absurd hc (h4 c (by decide))
  · have hb := (EngVm.histVm_callable 1 c hc).1
    obtain ⟨code, pool, hcp⟩ := hcomp c hc
    exact ⟨c, r, hc, hb, hv, ⟨code, pool, by simp only [CallableVm.ofCallable, hb, vmCodeOf, hcp]⟩,
      h1, h2⟩
  · obtain ⟨code, pool, hcp⟩ := hcomp c hc
    rw [href.2] at hcp
    cases hcp

end Yae.EngineVmProps

#print axioms Yae.EngineVmProps.engines_agree
#print axioms Yae.EngineVmProps.outputs_length
#print axioms Yae.EngineVmProps.engineVm_refines
#print axioms Yae.EngineVmProps.callableOK_of_history
#print axioms Yae.EngineVmProps.refusal_exact_callable
#print axioms Yae.EngineVmProps.refusal_exact
#print axioms Yae.EngineVmProps.engineVm_refines_small
#print axioms Yae.EngineVmProps.api_sound_vm
#print axioms Yae.EngineVmProps.histVm_hyps
#print axioms Yae.EngineVmProps.histVm_small
#print axioms Yae.EngineVmProps.histVm_same
#print axioms Yae.EngineVmProps.histVm_outputs
