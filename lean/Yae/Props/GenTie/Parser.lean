/-
  Regenerated-table tie (`Yae/Props/GenTie.lean`): the built-in operator table and the grammar's
  fixed binding powers.
-/
import Yae.Gen.Consts
import Yae.Model.Parser
namespace Yae.GenTie

/-- the binding powers the grammar hard-wires (`oper.BP_COND`, `BP_CALL`, `BP_MEMBER`) -/
theorem bp_tie : BP.ofF64Bits Gen.bpCond = some bpCond ∧ BP.ofF64Bits Gen.bpCall = some bpCall ∧
    BP.ofF64Bits Gen.bpMember = some bpMember := by decide +kernel

/-- the built-in operator table (`oper.BuiltIn()`: kind, float32 power, fixity, in declaration
order) -/
theorem operators_tie :
    Gen.builtinOperators.map (fun x => (x.1, BP.ofF64Bits x.2.1, x.2.2)) =
      builtinOps.map (fun o => (o.kind, some o.bp, o.fixity)) := by decide +kernel

#print axioms bp_tie
#print axioms operators_tie

end Yae.GenTie
