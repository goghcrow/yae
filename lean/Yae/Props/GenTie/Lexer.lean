/-
  Regenerated-table tie (`Yae/Props/GenTie.lean`): the lexer's regular expressions and operator
  alphabet, read from the SOURCE of parser/lexer/factory.go, parser/lexer/rule.go and
  parser/oper/operator.go on every run (`Yae/Gen/LexPatterns.lean`).  The model implements each
  pattern by a hand-written recogniser (`Yae.Pat.run`); this obligation fixes the pattern TEXT each
  recogniser stands for, in the order `newLexicon` registers the rules, so that any edit of a
  regular expression in the Go source breaks it.
-/
import Yae.Gen.LexPatterns
import Yae.Model.Lexer
import Yae.Spec.Regex
namespace Yae.GenTie

/-- the pattern each recogniser of the model stands for (token kind constant, Go pattern text) -/
def modelLexPatterns : List (Pat × String × String) := [
  (.floatA, "NUM", "(?:0|[1-9][0-9]*)(?:[.][0-9]+)+(?:[eE][-+]?[0-9]+)?"),
  (.floatB, "NUM", "(?:0|[1-9][0-9]*)(?:[.][0-9]+)?(?:[eE][-+]?[0-9]+)+"),
  (.bin, "NUM", "0b(?:0|1[0-1]*)"),
  (.hex, "NUM", "0x(?:0|[1-9a-fA-F][0-9a-fA-F]*)"),
  (.oct, "NUM", "0o(?:0|[1-7][0-7]*)"),
  (.int, "NUM", "(?:0|[1-9][0-9]*)"),
  (.str, "STR", "\"(?:[^\"\\\\]*|\\\\[\"\\\\trnbf\\/]|\\\\u[0-9a-fA-F]{4})*\""),
  (.raw, "STR", "`[^`]*`"),
  (.time, "TIME", "'[^`\"']*'"),
  (.sym, "SYM", "[a-zA-Z\\p{L}_][a-zA-Z0-9\\p{L}_]*")]

/-- the literal rules of `newLexicon`: same patterns, same kinds, same order -/
theorem lex_patterns_tie : Gen.lexPatterns = modelLexPatterns.map (·.2) := rfl

/-- the model's lexicon ends with these ten recognisers, in this order -/
theorem lex_rules_order :
    ((newLexicon []).drop 12).map (fun r => match r.m with | .regex p => some p | _ => none) =
      modelLexPatterns.map (fun x => some x.1) := by decide +kernel

/-- The pattern TEXT found in the Go source is, character for character, the printed form of the
regular expression `reOf p` whose reference semantics the recogniser `p.run` is proved equal to
(`Yae.Pat.run_eq_matchLen`, `Yae.C09.literal_forms`) -/
theorem lex_regex_tie :
    Gen.lexPatterns.map (·.2) = modelLexPatterns.map (fun x => (reOf x.1).show) := by decide +kernel

/-- The texts of `keywordPostfix` and `idReg` are the printed forms of `reKeywordPostfix` and
`reIdent`, between their anchors. -/
theorem lex_aux_regex_tie :
    Gen.keywordPostfixPattern = "^" ++ reKeywordPostfix.show ∧
    Gen.identOpPattern = "^" ++ reIdent.show ++ "$" := by decide +kernel

/-- The operator alphabet behind `oper.HasPrefix`; and `keywordPostfix`, `idReg` once more, as
the literal texts (`lex_aux_regex_tie` compares the same two with `Re.show`). -/
theorem lex_aux_tie :
    Gen.keywordPostfixPattern = "^[a-zA-Z\\d\\p{L}_]+" ∧
    Gen.identOpPattern = "^[a-zA-Z\\p{L}_][a-zA-Z0-9\\p{L}_]*$" ∧
    Gen.operatorAlphabet.toList = operChars := ⟨rfl, rfl, rfl⟩

#print axioms lex_patterns_tie
#print axioms lex_rules_order
#print axioms lex_aux_tie
#print axioms lex_regex_tie
#print axioms lex_aux_regex_tie

end Yae.GenTie
