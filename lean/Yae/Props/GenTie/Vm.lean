/-
  Regenerated-table tie (`Yae/Props/GenTie.lean`): opcodes, intrinsic tables, VM constants.
-/
import Yae.Gen.Opcodes
import Yae.Gen.Consts
import Yae.Model.Vm
namespace Yae.GenTie

/-- `vm/opcode.go`: the opcode enumeration in numeric order -/
theorem opcodes_tie : Gen.opcodeNames = Vm.Op.all.map Vm.Op.name := by rfl

/-- (rendered signature, opcode name) -/
def modelIntrinsicsByValue : List (String × String) :=
  builtins.filterMap fun b => (Vm.intrinsicByValue b.id).map fun o => (b.ty.render, o.name)

/-- `a ⊆ b`, byte sizes first: the kernel compares strings byte by byte -/
def subsetBySize (a b : List (String × String)) : Bool :=
  a.all fun p => b.any fun q => p.1.utf8ByteSize == q.1.utf8ByteSize && p == q

theorem all_contains_of_subsetBySize {a b : List (String × String)} (h : subsetBySize a b = true) :
    (a.all fun p => b.contains p) = true := by
  simp only [subsetBySize, List.all_eq_true, List.any_eq_true, Bool.and_eq_true] at h
  simp only [List.all_eq_true, List.contains_iff_mem]
  intro p hp
  obtain ⟨q, hq, _, he⟩ := h p hp
  exact eq_of_beq he ▸ hq

theorem sameTable_of_sameBySize {a b : List (String × String)}
    (h : (a.length == b.length && subsetBySize a b && subsetBySize b a) = true) :
    a.length = b.length ∧ (a.all fun p => b.contains p) = true ∧
      (b.all fun p => a.contains p) = true := by
  simp only [Bool.and_eq_true, beq_iff_eq] at h
  exact ⟨h.1.1, all_contains_of_subsetBySize h.1.2, all_contains_of_subsetBySize h.2⟩

/-- `vm/intrinsic.go`: which built-in is compiled to which opcode (the Go side is a map, listed
sorted by signature; compared as sets of equal size) -/
theorem intrinsics_by_value_tie :
    Gen.intrinsicsByValue.length = modelIntrinsicsByValue.length ∧
    (Gen.intrinsicsByValue.all fun p => modelIntrinsicsByValue.contains p) = true ∧
    (modelIntrinsicsByValue.all fun p => Gen.intrinsicsByValue.contains p) = true :=
  sameTable_of_sameBySize (by decide +kernel)

def modelIntrinsicsByNeed : List String :=
  (builtins.filter fun b => Vm.isCondIntrinsic b.id).map fun b => b.ty.render

/-- the built-ins compiled to jumps (`if`, `&&`, `||`, `!`) -/
theorem intrinsics_by_need_tie :
    Gen.intrinsicsByNeed.length = modelIntrinsicsByNeed.length ∧
    (Gen.intrinsicsByNeed.all fun p => modelIntrinsicsByNeed.contains p) = true ∧
    (modelIntrinsicsByNeed.all fun p => Gen.intrinsicsByNeed.contains p) = true := by decide +kernel

/-- the call-threaded loop's execution limit (D16); the VM stack's initial size and growth step.
None of the three is a constant of the model (`Vm.run` models `switchThreading`, its stack is a
list): they are compared with the numbers themselves, around which the harness' generators place
their programs (more than 1024 instructions; literals around the stack widths). -/
theorem vm_consts_tie : Gen.callThreadLimit = 1024 ∧ Gen.stackInit = 42 ∧ Gen.stackGrow = 500 :=
  ⟨rfl, rfl, rfl⟩

#print axioms opcodes_tie
#print axioms intrinsics_by_value_tie
#print axioms intrinsics_by_need_tie
#print axioms vm_consts_tie

end Yae.GenTie
