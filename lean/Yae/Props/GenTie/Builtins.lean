/-
  Regenerated-table tie (`Yae/Props/GenTie.lean`): the built-in functions, the reserved words, the
  comparison tolerance.
-/
import Yae.Gen.Builtins
import Yae.Gen.Reserved
import Yae.Gen.Consts
import Yae.Model.Check
import Yae.Model.Builtins
namespace Yae.GenTie

theorem builtins_tie : Gen.builtinSigs = builtinSigs := by decide +kernel

theorem reserved_tie : Gen.reservedWords = reservedWords := rfl

theorem epsilon_tie : Gen.epsilonBits = epsilonBits := rfl

#print axioms builtins_tie
#print axioms reserved_tie
#print axioms epsilon_tie

end Yae.GenTie
