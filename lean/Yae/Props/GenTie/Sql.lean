/-
  Regenerated-table tie (`Yae/Props/GenTie.lean`): the SQL function table, its formatters and the
  precedence of the connectives.
-/
import Yae.Gen.Sql
import Yae.Model.Sql
namespace Yae.GenTie

/-- the model's SQL function table in the form the extractor prints `sql.BuiltIn()`: rendered
signature, the formatter applied to the placeholders `<0>`, `<1>`, …, precedence if logical -/
def modelSqlFuns : List (String × String × Option BP) :=
  Sql.sqlTable.map fun s =>
    let n := match s.ty with | .fn _ ps _ => ps.length | _ => 0
    (s.ty.render,
     match s.fmt.apply ((List.range n).map fun i => "<" ++ toString i ++ ">") with
     | .ok t => t
     | .error _ => "?",
     s.fmt.prec?.map BP.ofNat)

/-- `ext/sql`: the registered functions, what each formatter writes, and the precedence table of
the connectives that drives the parentheses (`logicalFunPrecTbl`) -/
theorem sql_table_tie :
    Gen.sqlFuns.map (fun x => (x.1, x.2.1, x.2.2.map BP.ofF64Bits)) =
      modelSqlFuns.map (fun x => (x.1, x.2.1, x.2.2.map some)) := by decide +kernel

#print axioms sql_table_tie

end Yae.GenTie
