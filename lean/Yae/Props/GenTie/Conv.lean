/-
  Regenerated-table tie (`Yae/Props/GenTie.lean`): the nesting limit of the reflection layer.
-/
import Yae.Gen.Consts
import Yae.Model.Conv
namespace Yae.GenTie

/-- `conv.maxLevel` (nesting bound of the reflection layer) -/
theorem conv_consts_tie : Gen.maxLevel = Yae.maxLevel := rfl

#print axioms conv_consts_tie

end Yae.GenTie
