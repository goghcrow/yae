/-
  C17. "Type equality is an equivalence relation that holds exactly for structurally identical
  types (object fields compared by name). Whenever unification of two types succeeds, applying
  the resulting substitution to both makes them equal and no variable is bound to a type
  containing itself or to two different types; whenever a pattern with type variables is matched
  against a variable-free type, unification succeeds exactly when an instantiation exists; the
  empty-container element type unifies only where the rules allow it."

  Model: `Yae.Model.Ty` (`tyEq` = `types.Equals`, `Ty.wf` = what the constructors `types.Obj` /
  `types.Map` assert), `Yae.Model.Unify` (`unify`, `applySubst`).
  Proofs: `Yae.Proofs.TyEq`, `TySubst`, `TyUnify`.

  The numbers (1)–(6) in the doc comments count the clauses: (1)–(4) `tyEq` is an equivalence on
  well-formed types and is exactly `StructEq`; (5) matching a pattern against a variable-free
  type (`match_sound`, `match_complete`); (6) fuel.  LEFT OUT: the clause on the unification of
  two arbitrary types ("applying the resulting substitution to both makes them equal and no
  variable is bound to a type containing itself or to two different types") has no theorem;
  only the case of a variable-free well-formed right-hand side is proved, which is the case the
  checker uses (`inferFun` unifies parameter patterns with argument types).

  `StructEq` : same constructor, related children; objects by name (same length, same names,
               equally named fields related); function names ignored (as `equalsFun` does).
  `a ⊑ b`    : (`Below`) `StructEq` relaxed by `x ⊑ ⊥` and `⊤ ⊑ x`, the two catch-all successes
               of `unify`.
  `slotFree t` : "variable-free": no type variable occurs in `t` (`Yae.Model.Ty`).
-/
import Yae.Proofs.TyUnify
namespace Yae.C17
open Yae

/-- (1) reflexive on well-formed types -/
theorem tyEq_refl {t : Ty} (h : t.wf = true) : tyEq t t = true := tyEq_refl' h

/-- non-vacuity: an object type is well formed; its fields are compared by name, not position -/
example : (Ty.obj (.cons "a" .num (.cons "b" .str .nil))).wf = true ∧
    tyEq (.obj (.cons "a" .num (.cons "b" .str .nil)))
         (.obj (.cons "b" .str (.cons "a" .num .nil))) = true := by decide

/-- `wf` is needed: with a duplicated field name (which `types.Obj` rejects) `GetField` returns
the first field and the type is not even equal to itself. -/
example : tyEq (.obj (.cons "a" .num (.cons "a" .str .nil)))
               (.obj (.cons "a" .num (.cons "a" .str .nil))) = false := by decide

/-- (2) symmetric on well-formed types -/
theorem tyEq_symm {a b : Ty} (ha : a.wf = true) (hb : b.wf = true) : tyEq a b = tyEq b a :=
  tyEq_symm' ha hb

example : (Ty.obj (.cons "a" .num (.cons "b" .num .nil))).wf = true := by decide

/-- `wf` is needed for symmetry as well. -/
example : tyEq (.obj (.cons "a" .num (.cons "a" .num .nil)))
               (.obj (.cons "a" .num (.cons "b" .num .nil))) = true ∧
          tyEq (.obj (.cons "a" .num (.cons "b" .num .nil)))
               (.obj (.cons "a" .num (.cons "a" .num .nil))) = false := by decide

/-- (3) transitive on well-formed types (only `a.wf` is used: `tyEq_wf` carries it to `b`, and `c.wf` is not needed) -/
theorem tyEq_trans {a b c : Ty} (ha : a.wf = true) (hb : b.wf = true) (_hc : c.wf = true)
    (h1 : tyEq a b = true) (h2 : tyEq b c = true) : tyEq a c = true :=
  tyEq_trans' ha h1 h2

example : ∃ a b c : Ty, a.wf = true ∧ b.wf = true ∧ c.wf = true ∧
    tyEq a b = true ∧ tyEq b c = true :=
  ⟨.obj (.cons "x" .num (.cons "y" (.list .str) .nil)),
   .obj (.cons "y" (.list .str) (.cons "x" .num .nil)),
   .obj (.cons "x" .num (.cons "y" (.list .str) .nil)), by decide⟩

/-- (4) `tyEq` holds exactly for structurally identical types, object fields by name.
(Only `a.wf` is used; `b.wf` follows when either side holds.) -/
theorem tyEq_iff_structEq {a b : Ty} (ha : a.wf = true) (_hb : b.wf = true) :
    tyEq a b = true ↔ StructEq a b :=
  tyEq_iff_structEq' ha

example : (Ty.fn "f" (.cons (.var "a") .nil) (.map .str (.var "a"))).wf = true := by decide

/-- `StructEq` itself is an equivalence relation on all types. -/
theorem structEq_equivalence : Equivalence StructEq :=
  ⟨StructEq.refl, fun h => StructEq.symm _ _ h, fun h1 h2 => StructEq.trans _ _ _ h1 h2⟩

/-- (5, soundness) A successful match against a variable-free well-formed `g` keeps the bindings
of `m` (up to `tyEq`) and instantiates `p` below `g`. -/
theorem match_sound {fuel : Nat} {p g t : Ty} {m m' : Subst}
    (hg : slotFree g = true) (hgw : g.wf = true)
    (hm : ∀ n k, m.get? n = some k → slotFree k = true ∧ k.wf = true)
    (h : unify fuel p g m = .ok (t, m')) :
    (∀ n k, m.get? n = some k → ∃ k', m'.get? n = some k' ∧ tyEq k k' = true) ∧
    (∀ n k, m'.get? n = some k → slotFree k = true ∧ k.wf = true) ∧
    (∀ fuel' p', applySubst fuel' m' p = .ok p' → p' ⊑ g) ∧
    (∀ fuel', applySubst (fuel'+1) m' p ≠ .error .fuel) := by
  obtain ⟨hm', hle, hb⟩ := usound_ground hg hgw hm h
  refine ⟨fun n k hk => ?_, hm', fun fuel' p' hp' => ?_,
    fun fuel' => applySubst_ne_fuel fuel' m' hm' p⟩
  · obtain ⟨k', hk', e⟩ := hle n k hk
    exact ⟨k', hk', tyEq_complete k k' (hm n k hk).2 e⟩
  · rw [applySubst_eq_substG m' hm' fuel' p p' hp']; exact hb

/-- a concrete successful match: `list['a]` against `list[num]` binds `'a := num` -/
theorem ex_match :
    unify 3 (.list (.var "a")) (.list .num) [] = .ok (.list .num, [("a", .num)]) := by
  rw [unify_nonvar _ _ _ _ (by decide) (by decide)]
  simp [Ty.isPrimitive, Ty.isComposite, Ty.kind, Kind.isPrimitive, Kind.isComposite,
    unifyComposite]
  rw [unify_var_left _ _ _ _ (by decide)]
  simp [applySubst, freeFrom, Subst.get?, Subst.set]

/-- non-vacuity of `match_sound`: its hypotheses hold for `ex_match`, and the conclusion gives
that `applySubst` of the result substitution to the pattern is below `list[num]`. -/
example : ∀ fuel' p', applySubst fuel' [("a", .num)] (.list (.var "a")) = .ok p' →
    p' ⊑ .list .num :=
  (match_sound (by decide) (by decide) (by intro n k h; simp [Subst.get?] at h) ex_match).2.2.1

/-- (5, completeness) If some variable-free well-formed `σ` extending `m` instantiates `p` to `g`
(up to `StructEq`), the match succeeds for every `fuel ≥ sizeOf g` and its result stays inside `σ`. -/
theorem match_complete {fuel : Nat} {p g : Ty} {m σ : Subst}
    (hg : slotFree g = true) (hgw : g.wf = true) (hp : p.wf = true)
    (hm : ∀ n k, m.get? n = some k → slotFree k = true ∧ k.wf = true)
    (hσ : ∀ n k, σ.get? n = some k → slotFree k = true ∧ k.wf = true)
    (hle : ∀ n k, m.get? n = some k → ∃ k', σ.get? n = some k' ∧ tyEq k k' = true)
    (hinst : ∃ fuel' p', applySubst fuel' σ p = .ok p' ∧ StructEq p' g)
    (hf : sizeOf g ≤ fuel) :
    ∃ t m', unify fuel p g m = .ok (t, m') ∧
      (∀ n k, m'.get? n = some k → ∃ k', σ.get? n = some k' ∧ tyEq k k' = true) := by
  obtain ⟨fuel', p', hp', hse⟩ := hinst
  rw [applySubst_eq_substG σ hσ fuel' p p' hp'] at hse
  have hle' : Subst.le m σ := by
    intro n k hk
    obtain ⟨k', hk', e⟩ := hle n k hk
    exact ⟨k', hk', tyEq_sound k k' (hm n k hk).2 e⟩
  obtain ⟨⟨t, m'⟩, e, hle'', hm', _⟩ :=
    (ucomplete fuel p g m σ hg hgw hm hle' hse hf).exists_ok fun _ => id
  refine ⟨t, m', e, fun n k hk => ?_⟩
  obtain ⟨k', hk', e'⟩ := hle'' n k hk
  exact ⟨k', hk', tyEq_complete k k' (hm' n k hk).2 e'⟩

theorem ex_ground : ∀ n k, Subst.get? [("a", Ty.num)] n = some k →
    slotFree k = true ∧ k.wf = true := by
  intro n k h
  simp only [Subst.get?] at h
  split at h
  · cases h; exact ⟨rfl, rfl⟩
  · cases h

/-- non-vacuity of `match_complete`: `σ = ['a := num]` instantiates `list['a]` to `list[num]`. -/
example : ∃ t m', unify 3 (.list (.var "a")) (.list .num) [] = .ok (t, m') ∧
    (∀ n k, m'.get? n = some k → ∃ k', Subst.get? [("a", Ty.num)] n = some k' ∧
      tyEq k k' = true) :=
  match_complete (σ := [("a", .num)]) (by decide) (by decide) (by decide)
    (by intro n k h; simp [Subst.get?] at h) ex_ground
    (by intro n k h; simp [Subst.get?] at h)
    ⟨1, .list .num, by simp [applySubst, Subst.get?], StructEq.refl _⟩ (by decide)

/-- The two directions meet only up to the `⊤`/`⊥` relaxation: soundness yields `⊑`, completeness
needs `StructEq`.  This is inherent in `unify`: with `⊑` in the hypothesis completeness is false.
`('a, 'a)` has the instance `(num, num) ⊑ (⊥, num)` but does not unify with `(⊥, num)`, because
`'a` is first bound to `⊥` and `tyEq ⊥ num` is false. -/
example :
    (Ty.tuple (.cons .num (.cons .num .nil))) ⊑ (Ty.tuple (.cons .bot (.cons .num .nil))) ∧
    unify 3 (.tuple (.cons (.var "a") (.cons (.var "a") .nil)))
      (.tuple (.cons .bot (.cons .num .nil))) [] = .error .fail := by
  refine ⟨.tuple (.cons (.botR _) (.cons .num .nil)), ?_⟩
  rw [unify_nonvar _ _ _ _ (by decide) (by decide)]
  simp [Ty.isPrimitive, Ty.isComposite, Ty.kind, Kind.isPrimitive, Kind.isComposite,
    unifyComposite, TyList.length, unifyList]
  rw [unify_var_left _ _ _ _ (by decide)]
  simp [applySubst, freeFrom, Subst.get?, Subst.set]
  rw [unify_var_left _ _ _ _ (by decide)]
  simp [applySubst, freeFrom, Subst.get?, Subst.set, tyEq]
  rfl

/-- (6) Against a variable-free well-formed `g`, with `m` binding variables to variable-free
well-formed types, `unify` never runs out of fuel when given at least `sizeOf g`. -/
theorem unify_fuel_sufficient {fuel : Nat} {p g : Ty} {m : Subst}
    (hg : slotFree g = true) (hgw : g.wf = true)
    (hm : ∀ n k, m.get? n = some k → slotFree k = true ∧ k.wf = true)
    (hf : sizeOf g ≤ fuel) : unify fuel p g m ≠ .error .fuel :=
  ufuel fuel p g m hg hgw hm hf

example : unify 3 (.list (.var "a")) (.list .num) [("a", .num)] ≠ .error .fuel :=
  unify_fuel_sufficient (by decide) (by decide) ex_ground (by decide)

/-! ## the empty-container element type `⊥` -/

/-- `⊥` on the right unifies with every non-variable type and binds nothing. -/
theorem unify_bot_right (f : Nat) (p : Ty) (m : Subst) (hp : p.kind ≠ .tyvar) :
    unify (f+1) p .bot m = .ok (p, m) := by
  rw [unify_nonvar f p .bot m hp (by simp [Ty.kind])]
  cases p <;> first | (exfalso; exact hp rfl) | rfl

/-- `⊥` on the left unifies with a non-variable type only if that is `⊥` too. -/
theorem unify_bot_left (f : Nat) (g : Ty) (m : Subst) (hg : g.kind ≠ .tyvar) :
    unify (f+1) .bot g m = if g.kind = .bot then .ok (.bot, m) else .error .fail := by
  rw [unify_nonvar f .bot g m (by simp [Ty.kind]) hg]
  cases g <;> first | (exfalso; exact hg rfl) | rfl

example : unify 1 (.list (.var "a")) .bot [] = .ok (.list (.var "a"), []) :=
  unify_bot_right 0 _ _ (by decide)

example : unify 1 .bot .num [] = .error .fail := unify_bot_left 0 .num [] (by decide)
example : unify 1 .bot .bot [] = .ok (.bot, []) := unify_bot_left 0 .bot [] (by decide)

end Yae.C17

#print axioms Yae.C17.tyEq_refl
#print axioms Yae.C17.tyEq_symm
#print axioms Yae.C17.tyEq_trans
#print axioms Yae.C17.tyEq_iff_structEq
#print axioms Yae.C17.structEq_equivalence
#print axioms Yae.C17.match_sound
#print axioms Yae.C17.match_complete
#print axioms Yae.C17.unify_fuel_sufficient
#print axioms Yae.C17.unify_bot_right
#print axioms Yae.C17.unify_bot_left
