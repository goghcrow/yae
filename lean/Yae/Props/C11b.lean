/-
  C11, first sentence, for the compiler: "Every bytecode program the compiler emits (including
  the bodies of deferred arguments) decodes completely into known instructions with in-range
  constant, size and argument-count operands of the right kind; every jump targets a later
  instruction boundary inside the code; the evaluation stack depth at each instruction is the
  same on every path, never negative, and exactly one at the final return."

  `Yae/Props/C11.lean` states what the executable verifier `VmVerify.verify` checks
  (`verify_decodes`) and what follows for the machine (`verify_sound`).  Here: the model
  compiler's output passes the verifier (`compile_verified_partial`), so both apply to every
  compiled program (`compiled_decodes`, `compiled_runs_safely`).

  Hypotheses.  `WellAnnotated funs e` (`Yae.C03`, = `wa`: what the simulation theorem needs
  from `types.Check`) and `LiteralsTyped e`: a list / map literal is annotated with a list / map
  type.  `wa` only asks a non-empty literal to carry *some* type, which is not enough
  (`not_verified_without_literal_types`: `[true]` annotated `str` is `WellAnnotated`, compiles,
  and is rejected, as `NEW_LIST` refers to a constant that is not a list type); the checker
  attaches `list[el]` / `map[k,v]`: the tree `check` returns is `LiteralsTyped`
  (`checked_literalsTyped`), so for checker output `WellAnnotated` is the only hypothesis, as in
  C03 (`compile_verified_checked`).  Without `wa` the statement fails as well
  (`not_verified_unannotated`).

  `compile_verified_partial` is `VmCV.compile_verified` (`Yae/Proofs/VmCompileVerified.lean`) with
  the same three hypotheses.  The suffix only records that `LiteralsTyped` is a hypothesis the
  simulation theorem of C03 does not have; with `compile … = .ok (code, pool)` and `WellAnnotated`
  alone, `VmVerify.verify code pool = true` is false (`not_verified_without_literal_types`).
-/
import Yae.Proofs.VmCompileVerified
import Yae.Proofs.VmCheckedMain
import Yae.Props.C11
import Yae.Spec.Typing
import Yae.Proofs.BuiltinTable
namespace Yae.C11
open Yae Yae.Vm Yae.VmVerify Yae.VmSim Yae.C03

/-- list and map literals carry a list / map type (decidable, syntactic) -/
def LiteralsTyped (e : Expr) : Prop := VmCV.lit e = true

instance (e : Expr) : Decidable (LiteralsTyped e) := by
  unfold LiteralsTyped; infer_instance

/-- What `compile` emits for an annotated tree is accepted by the verifier: main code against
the whole pool, every deferred body against the constants allocated before it
(`VmCV.compile_verified`). -/
theorem compile_verified_partial {funs : List FunDecl} {e : Expr} {code : Code} {pool : Pool}
    (hc : compile funs e = .ok (code, pool)) (hw : WellAnnotated funs e) (hl : LiteralsTyped e) :
    VmVerify.verify code pool = true :=
  VmCV.compile_verified hc hw hl

/-- the tree the checker returns has its list / map literals typed -/
theorem checked_literalsTyped {Γ : TEnv} {c c' : Nat} {e e' : Expr} {T : Ty}
    (hk : check Γ c e = .ok (T, e', c')) : LiteralsTyped e' :=
  VmCV.check_lit Γ e c T e' c' hk

/-- `compile_verified_partial` for checker output: the hypotheses of the simulation theorem C03 -/
theorem compile_verified_checked {Γ : TEnv} {c c' : Nat} {e e' : Expr} {T : Ty}
    {funs : List FunDecl} {code : Code} {pool : Pool} (hk : check Γ c e = .ok (T, e', c'))
    (hc : compile funs e' = .ok (code, pool)) (hw : WellAnnotated funs e') :
    VmVerify.verify code pool = true :=
  compile_verified_partial hc hw (checked_literalsTyped hk)

/-- the first sentence of C11 for compiled programs (see `C11.wellFormed_explicit` for
`WellFormed` spelled out) -/
theorem compiled_decodes {funs : List FunDecl} {e : Expr} {code : Code} {pool : Pool}
    (hc : compile funs e = .ok (code, pool)) (hw : WellAnnotated funs e) (hl : LiteralsTyped e) :
    WellFormed pool code ∧
    ∀ i body ret, pool[i]? = some (.thunk body ret) → WellFormed (pool.extract 0 i) body :=
  verify_decodes (compile_verified_partial hc hw hl)

/-- The fuel `runVm` passes (`1000 * (totalCodeSize + 1)`) covers every emitted byte. -/
theorem totalCodeSize_le_runVm_fuel (code : Code) (pool : Pool) :
    totalCodeSize code pool ≤ 1000 * (totalCodeSize code pool + 1) := by omega

/-- **The machine runs compiler output safely**: `runVm` on a compiled program never fails
with a stack underflow, an undecodable or truncated instruction, a constant of the wrong kind,
an unknown instruction form, a deferred argument where a value is expected (or conversely), and
never runs out of fuel. -/
theorem compiled_runs_safely {funs : List FunDecl} {e : Expr} {code : Code} {pool : Pool}
    (hc : compile funs e = .ok (code, pool)) (hw : WellAnnotated funs e) (hl : LiteralsTyped e)
    (env : REnv) (f : Fail) (hf : (runVm env code pool).1 = .error f) :
    f ≠ .fuel ∧ f ≠ .stuck "stack-underflow" ∧ f ≠ .stuck "bad-opcode-or-truncated" ∧
    f ≠ .stuck "const-kind" ∧ f ≠ .stuck "decode" ∧
    f ≠ .stuck "cast:thunk-as-value" ∧ f ≠ .stuck "cast:value-as-thunk" :=
  runVm_sound (compile_verified_partial hc hw hl) env f hf

/-- for `run` from any log; no fuel exhaustion whenever the fuel covers the emitted bytes -/
theorem compiled_run_sound {funs : List FunDecl} {e : Expr} {code : Code} {pool : Pool}
    (hc : compile funs e = .ok (code, pool)) (hw : WellAnnotated funs e) (hl : LiteralsTyped e)
    (env : REnv) (fuel : Nat) (log : List Event) (f : Fail)
    (hf : (run fuel env pool code 0 [] log).1 = .error f) :
    f ≠ .stuck "stack-underflow" ∧ f ≠ .stuck "bad-opcode-or-truncated" ∧
    f ≠ .stuck "const-kind" ∧ f ≠ .stuck "decode" ∧
    f ≠ .stuck "cast:thunk-as-value" ∧ f ≠ .stuck "cast:value-as-thunk" ∧
    (totalCodeSize code pool ≤ fuel → f ≠ .fuel) :=
  verify_sound (compile_verified_partial hc hw hl) env fuel log f hf

/-! Non-vacuity (a lazy call whose deferred bodies contain jumps and a list literal), and the two
counterexamples that show each hypothesis is needed. -/

/-- a lazy host function registered after the built-ins -/
def exLz : FunDecl :=
  { ty := .fn "lz" (.cons .bool (.cons (.list .str) .nil)) .str,
    ref := .host "lz" (.force [1, 0]), isLazy := true }
def exFuns : List FunDecl := builtinFuns ++ [exLz]

/-- `lz(x && y, ["s"])`: two deferred arguments, the first with jumps, the second with a list
literal; main code `CONST 3; CONST 6; CALL_BY_NEED 7 2; RETURN` -/
def exE : Expr :=
  .call Pos.unknown 0 (.ident Pos.unknown "lz")
   (.cons (.call Pos.unknown 0 (.ident Pos.unknown "&&")
      (.cons (.ident Pos.unknown "x") (.cons (.ident Pos.unknown "y") .nil)) none "λ && (bool, bool)" (-1))
    (.cons (.list Pos.unknown (.cons (.str Pos.unknown "s") .nil) (some (.list .str))) .nil))
   none "λ lz (bool, list[str])" (-1)

theorem exRes1 : resolveStatic exFuns "λ lz (bool, list[str])" (-1) = some exLz := by
  simp only [resolveStatic, lookupMono]; rfl
theorem exRes2 : resolveStatic exFuns "λ && (bool, bool)" (-1) =
    some { ty := .fn "&&" (.cons .bool (.cons .bool .nil)) .bool, ref := .builtin 30, isLazy := true } := by
  -- the last entry under the key: none in `[exLz]`, so the one among the built-ins
  have h := builtinFuns_eq ▸ builtin_and
  unfold lookupMono at h
  simp only [resolveStatic, lookupMono, exFuns, List.filter_append, List.getLast?_append, h]
  rfl
/-- `.builtin 30` is the position of `&&` in `builtins` -/
theorem exB30 : Option.map (fun x => x.id) builtins[30]? = some BId.LOGIC_AND_BOOL_BOOL := by rfl
theorem exNe1 : ("λ && (bool, bool)" == "") = false := by decide
theorem exNe2 : ("λ lz (bool, list[str])" == "") = false := by decide

theorem exE_compiles : ∃ code pool, compile exFuns exE = .ok (code, pool) := by
  simp only [compile, exE, compileE, compileList, compileThunks, compileCond, Expr.depth, depthList,
    exRes1, exRes2, exNe1, exNe2, exB30, Bool.false_eq_true, ↓reduceIte, exLz, Option.map_none,
    Option.getD_none, Option.bind_none, Nat.reduceAdd, Nat.max_def, Nat.reduceLeDiff, ExprList.length]
  exact ⟨_, _, rfl⟩

theorem exE_annotated : WellAnnotated exFuns exE := by
  simp only [WellAnnotated, exE, wa, waL, exRes1, exRes2, exNe1, exNe2]
  decide

theorem exE_literals : LiteralsTyped exE := by
  unfold LiteralsTyped; decide

/-- the hypotheses hold together for `exE` -/
example : (∃ code pool, compile exFuns exE = .ok (code, pool)) ∧ WellAnnotated exFuns exE ∧
    LiteralsTyped exE := ⟨exE_compiles, exE_annotated, exE_literals⟩

example : ∃ code pool, compile exFuns exE = .ok (code, pool) ∧ VmVerify.verify code pool = true ∧
    ∀ env, (runVm env code pool).1 ≠ .error .fuel := by
  obtain ⟨code, pool, hc⟩ := exE_compiles
  exact ⟨code, pool, hc, compile_verified_partial hc exE_annotated exE_literals,
    fun env h => (compiled_runs_safely hc exE_annotated exE_literals env .fuel h).1 rfl⟩

/-- `[x, true]` before and after the checker -/
def exRaw : Expr :=
  .list Pos.unknown (.cons (.ident Pos.unknown "x") (.cons (.bool Pos.unknown true) .nil)) none
def exChecked : Expr :=
  .list Pos.unknown (.cons (.ident Pos.unknown "x") (.cons (.bool Pos.unknown true) .nil))
    (some (.list .bool))

/-- the hypotheses of `checked_literalsTyped` and `compile_verified_checked` hold together -/
example : check (builtinEnv [("x", .bool)]) 0 exRaw = .ok (.list .bool, exChecked, 0) ∧
    (∃ code pool, compile [] exChecked = .ok (code, pool)) ∧ WellAnnotated [] exChecked := by
  refine ⟨rfl, ?_, by unfold WellAnnotated; decide⟩
  simp only [compile, exChecked, compileE, compileList, Expr.depth, depthList]
  exact ⟨_, _, rfl⟩

/-- `[true]` annotated with `str` -/
def exBadLit : Expr :=
  .list Pos.unknown (.cons (.bool Pos.unknown true) .nil) (some .str)

/-- **`LiteralsTyped` is needed**: a `WellAnnotated` tree whose output the verifier rejects
(`NEW_LIST` with a constant that is not a list type) -/
theorem not_verified_without_literal_types :
    WellAnnotated [] exBadLit ∧ ¬ LiteralsTyped exBadLit ∧
    ∃ code pool, compile [] exBadLit = .ok (code, pool) ∧ VmVerify.verify code pool = false := by
  refine ⟨by unfold WellAnnotated; decide, by unfold LiteralsTyped; decide, ?_⟩
  simp only [compile, exBadLit, compileE, compileList, Expr.depth, depthList]
  exact ⟨_, _, rfl, by decide⟩

/-- **`WellAnnotated` is needed**: the empty list literal the checker has not seen -/
theorem not_verified_unannotated :
    ¬ WellAnnotated [] (.list Pos.unknown .nil none) ∧
    ∃ code pool, compile [] (.list Pos.unknown .nil none) = .ok (code, pool) ∧
      VmVerify.verify code pool = false := by
  refine ⟨by unfold WellAnnotated; decide, ?_⟩
  simp only [compile, compileE, compileList, Expr.depth, depthList]
  exact ⟨_, _, rfl, by decide⟩

end Yae.C11

#print axioms Yae.C11.compile_verified_partial
#print axioms Yae.C11.checked_literalsTyped
#print axioms Yae.C11.compile_verified_checked
#print axioms Yae.C11.compiled_decodes
#print axioms Yae.C11.compiled_runs_safely
#print axioms Yae.C11.compiled_run_sound
#print axioms Yae.C11.totalCodeSize_le_runVm_fuel
#print axioms Yae.C11.exE_compiles
#print axioms Yae.C11.not_verified_without_literal_types
#print axioms Yae.C11.not_verified_unannotated
