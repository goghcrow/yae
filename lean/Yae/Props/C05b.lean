/-
  C05 without the `PolyOK` hypothesis, and without the fuel alternative.

  `Yae/Props/C05.lean` proves soundness and completeness of `check` against the declarative
  rules `Typed` under `EnvOK Γ`, which contains, for every registered polymorphic signature,
  the hypothesis `PolyOK name ps ret` ("`inferFun` returns what `instantiate` says, or runs out of
  fuel").  Here `PolyOK` is *derived* from a decidable, syntactic condition on the signature
  (`sigOK`, `Yae/Proofs/TypingPolyOK.lean`):

    * parameters and result are well formed (`Ty.wf`: distinct field names, keyable map keys),
    * their type variables are not named `s…` / `t…` (the fresh names `inferFun` draws),
    * they contain no function type,
    * no type variable occurs inside a map-key position of the *result* type,
    * the parameter list has at most `defaultFuel - 4 = 99996` constructors.

  All 56 built-in signatures satisfy it (`builtins_sigOK`, by `decide`).  For such signatures
  `inferFun` equals the specification outright (`sigOK_inferFun`): the unifier's fuel decreases
  along the pattern, whose size `sigOK` bounds, so the fuel alternative disappears, from `PolyOK`
  and (`never_fuel`) from the headline theorems.

  The condition is sufficient, not claimed to be necessary.  What each part is used for: a
  variable named `t1` could collide with the fresh result variable (the proof keeps signature
  variables and fresh names apart by their first letter, `Sound.okVarName`); a function-typed
  parameter is outside the specification's `pmatch`; a variable in a map-key position of the
  result can be instantiated to a non-keyable type, where `inferFun` panics (`types.Map`) while
  `instantiate` answers with a type that is not well formed -- for such a signature `PolyOK` is
  false (`resultKey_needed`, kernel checked).

  `SigEnv Γ`: every variable has a type expressions can have (`TyOK`: variable free, well
  formed, no function type); every registered declaration has a function type, and `TyOK` result
  if it is monomorphic, `sigOK` if it is polymorphic (`declOK`).  `builtinEnv vars` is one.
-/
import Yae.Proofs.TypingPolyOK
namespace Yae.C05
open Yae Yae.PolyOK

/-- **`PolyOK` is a consequence of `sigOK`.** -/
theorem sigOK_polyOK {name : String} {ps : TyList} {ret : Ty}
    (h : sigOK (.fn name ps ret) = true) : PolyOK name ps ret :=
  PolyOK.sigOK_polyOK h

/-- The stronger fact behind `sigOK_polyOK`: for argument types expressions can have, `inferFun`
(for every value of the type-variable counter) *is* the specification; no fuel alternative -/
theorem sigOK_inferFun {name : String} {ps : TyList} {ret : Ty}
    (h : sigOK (.fn name ps ret) = true) {As : TyList} (hA : TyOKList As = true) (ctr : Nat) :
    inferFun ctr name ps ret As =
      (match instantiate ps ret As with | some r => .ok r | none => .error .fail) :=
  PolyOK.sigOK_inferFun h hA ctr

/-- Under `sigOK`, a result instantiated at argument types expressions can have is again such a
type. -/
theorem sigOK_instantiate_tyOK {name : String} {ps : TyList} {ret : Ty}
    (h : sigOK (.fn name ps ret) = true) {As ps' : TyList} {T : Ty} (hA : TyOKList As = true)
    (hi : instantiate ps ret As = some (ps', T)) : TyOK T = true :=
  instantiate_tyOK h hA hi

theorem builtins_sigOK : builtins.all (fun b => sigOK b.ty) = true := PolyOK.builtins_sigOK

/-- an environment whose variable types are `TyOK` and whose registered signatures satisfy
`sigOK` is `EnvOK` -/
theorem envOK_of_sigOK {Γ : TEnv} (hv : ∀ x T, Γ.lookupVar x = some T → TyOK T = true)
    (hf : ∀ d ∈ Γ.funs, sigOK d.ty = true) : EnvOK Γ :=
  envOK_of_declOK hv fun d hd => sigOK_declOK (hf d hd)

/-- `SigEnv Γ` (`sigOK` asked of the polymorphic declarations only, `declOK`) gives `EnvOK Γ`. -/
theorem envOK_of_sigEnv {Γ : TEnv} (h : SigEnv Γ) : EnvOK Γ := h.envOK

/-- the built-ins with variables of types expressions can have -/
theorem builtinEnv_sigEnv {vars : List (String × Ty)} (hv : ∀ p ∈ vars, TyOK p.2 = true) :
    SigEnv (builtinEnv vars) where
  vars := by
    intro x T h
    simp only [TEnv.lookupVar, builtinEnv, Option.map_eq_some_iff] at h
    obtain ⟨p, hp, rfl⟩ := h
    exact hv p (List.mem_of_find?_eq_some hp)
  funs := fun d hd => sigOK_declOK (List.all_eq_true.mp builtinFuns_sigOK d hd)

/-- the unifier's fuel never runs out: `check` never fails with `fuel` -/
theorem never_fuel {Γ : TEnv} (hΓ : SigEnv Γ) (e : Expr) (c : Nat) : check Γ c e ≠ .error .fuel :=
  check_ne_fuel hΓ e c

/-- **Soundness.**  Whatever `check` accepts is well typed, and the type it returns is the type
the rules assign. -/
theorem sound {Γ : TEnv} {c c' : Nat} {e e' : Expr} {T : Ty} (hΓ : SigEnv Γ)
    (h : check Γ c e = .ok (T, e', c')) : Typed Γ e T :=
  check_sound hΓ.envOK e c T e' c' h

/-- **Completeness.**  A well-typed expression is accepted, with exactly the assigned type, for
every value of the type-variable counter. -/
theorem complete {Γ : TEnv} {e : Expr} {T : Ty} (hΓ : SigEnv Γ) (h : Typed Γ e T) (c : Nat) :
    ∃ e' c', check Γ c e = .ok (T, e', c') := by
  rcases check_complete hΓ.envOK e T h c with hf | h'
  · exact absurd hf (never_fuel hΓ e c)
  · exact h'

/-- **"Compilation succeeds if and only if the expression is well typed."** -/
theorem accepts_iff_typed {Γ : TEnv} {e : Expr} (hΓ : SigEnv Γ) (c : Nat) :
    (∃ T e' c', check Γ c e = .ok (T, e', c')) ↔ ∃ T, Typed Γ e T :=
  check_accepts_iff hΓ.envOK c (never_fuel hΓ e c)

/-- `accepts_iff_typed` with the type -/
theorem accepts_with_iff_typed {Γ : TEnv} {e : Expr} {T : Ty} (hΓ : SigEnv Γ) (c : Nat) :
    (∃ e' c', check Γ c e = .ok (T, e', c')) ↔ Typed Γ e T :=
  ⟨fun ⟨_, _, h⟩ => sound hΓ h, fun h => complete hΓ h c⟩

/-- Ill-typed expressions are rejected at compile time: no run of the checker accepts them. -/
theorem illTyped_rejected {Γ : TEnv} {e : Expr} (hΓ : SigEnv Γ) (h : ¬ ∃ T, Typed Γ e T)
    (c : Nat) : ∀ r, check Γ c e ≠ .ok r := by
  rintro ⟨T, e', c'⟩ hr
  exact h ⟨T, sound hΓ hr⟩

/-- The type-variable counter is not observable: if one run accepts with type `T`, so does the run
from any other counter value. -/
theorem counter_irrelevant {Γ : TEnv} {c c' : Nat} {e e' : Expr} {T : Ty} (hΓ : SigEnv Γ)
    (h : check Γ c e = .ok (T, e', c')) (c₂ : Nat) :
    ∃ e'' c'', check Γ c₂ e = .ok (T, e'', c'') :=
  complete hΓ (sound hΓ h) c₂

/-! Non-vacuity: the built-in environment with two variables, and a call that goes through
`inferFun`. -/

def exVars : List (String × Ty) := [("x", .num), ("l", .list .num)]

/-- the built-ins (16 of the 56 signatures are polymorphic) and two variables -/
theorem exSigEnv : SigEnv (builtinEnv exVars) := builtinEnv_sigEnv (by decide)

/-- `get(l, 0, x)`: resolved to the polymorphic overload `get(list['a], num, 'a) 'a` -/
def exPoly : Expr :=
  .call Pos.unknown 0 (.ident Pos.unknown "get")
    (.cons (.ident Pos.unknown "l") (.cons (.num Pos.unknown 0) (.cons (.ident Pos.unknown "x") .nil)))
    none "" 0

def exAs : TyList := .cons (.list .num) (.cons .num (.cons .num .nil))

theorem exMono : lookupMono (builtinEnv exVars).funs (monoKey "get" exAs) = none := by rfl

theorem exPoly_typed : Typed (builtinEnv exVars) exPoly .num :=
  .callPoly (As := exAs) (ps' := exAs)
    (.cons (.ident rfl rfl) (.cons (.num _ _) (.cons (.ident rfl rfl) .nil)))
    exMono
    (.here (name := "get") (ps := .cons (.list (.var "a")) (.cons .num (.cons (.var "a") .nil)))
      (ret := .var "a") rfl rfl) rfl

/-- `sigOK_polyOK`, `sigOK_inferFun`, `sigOK_instantiate_tyOK`: the hypothesis holds for the
signature of `get` -/
example : sigOK (.fn "get" (.cons (.list (.var "a")) (.cons .num (.cons (.var "a") .nil))) (.var "a")) = true := by
  decide
example : TyOKList exAs = true := by decide

/-- `envOK_of_sigOK`: hypotheses satisfiable (every built-in declaration is `sigOK`) -/
example : EnvOK (builtinEnv exVars) :=
  envOK_of_sigOK exSigEnv.vars fun d hd => List.all_eq_true.mp builtinFuns_sigOK d hd

/-- `complete`, `counter_irrelevant`, `accepts_with_iff_typed`: the checker accepts `exPoly`
with type `num` from every counter value (this run goes through `inferFun`) -/
example (c : Nat) : ∃ e' c', check (builtinEnv exVars) c exPoly = .ok (.num, e', c') :=
  complete exSigEnv exPoly_typed c

/-- `sound`, `accepts_iff_typed`: an accepting run exists, so their hypotheses are satisfiable -/
example : ∃ T, Typed (builtinEnv exVars) exPoly T := by
  obtain ⟨e', c', h⟩ := complete exSigEnv exPoly_typed 0
  exact ⟨.num, sound exSigEnv h⟩

/-- `illTyped_rejected`: `x[x]` (subscript on a number) is ill typed, hence rejected by every run -/
def exBad : Expr :=
  .subscript Pos.unknown 0 (.ident Pos.unknown "x") (.ident Pos.unknown "x") none

theorem exBad_illTyped : ¬ ∃ T, Typed (builtinEnv exVars) exBad T := by
  rintro ⟨T, h⟩
  cases h with
  | subList h1 _ _ => cases h1 with | ident _ hl => cases hl
  | subMap h1 _ _ => cases h1 with | ident _ hl => cases hl

example (c : Nat) : ∀ r, check (builtinEnv exVars) c exBad ≠ .ok r :=
  illTyped_rejected exSigEnv exBad_illTyped c

/-- a variable in a map-key position of the result (see the header): `f('a, 'b) map['a, 'b]` at
`(list[num], num)`; `PolyOK` is false for this signature, and `sigOK` excludes it -/
theorem resultKey_needed :
    ¬ PolyOK "f" (.cons (.var "a") (.cons (.var "b") .nil)) (.map (.var "a") (.var "b")) ∧
    sigOK (.fn "f" (.cons (.var "a") (.cons (.var "b") .nil)) (.map (.var "a") (.var "b"))) = false := by
  refine ⟨fun h => ?_, by decide⟩
  have h2 := (h (.cons (.list .num) (.cons .num .nil)) (by decide)).2
    (.cons (.list .num) (.cons .num .nil)) (.map (.list .num) .num) rfl
  exact absurd h2 (by decide)

end Yae.C05

#print axioms Yae.C05.sigOK_polyOK
#print axioms Yae.C05.sigOK_inferFun
#print axioms Yae.C05.sigOK_instantiate_tyOK
#print axioms Yae.C05.builtins_sigOK
#print axioms Yae.C05.envOK_of_sigOK
#print axioms Yae.C05.envOK_of_sigEnv
#print axioms Yae.C05.builtinEnv_sigEnv
#print axioms Yae.C05.never_fuel
#print axioms Yae.C05.sound
#print axioms Yae.C05.complete
#print axioms Yae.C05.accepts_iff_typed
#print axioms Yae.C05.accepts_with_iff_typed
#print axioms Yae.C05.illTyped_rejected
#print axioms Yae.C05.counter_irrelevant
#print axioms Yae.C05.exSigEnv
#print axioms Yae.C05.exPoly_typed
#print axioms Yae.C05.exBad_illTyped
#print axioms Yae.C05.resultKey_needed
