/-
  C07. "Invoking a compiled expression with an environment in which any name known at compile
  time is missing, or bound to a value of a different type, returns an error and evaluates
  nothing; invoking it with any environment whose bindings have equal types (extra names allowed,
  host data of a different but equally-shaped Go type allowed) is accepted and evaluates
  normally."

  Model: `Yae.envCheck tenv venv` (`Yae/Model/Conv.lean`) is `(*Expr).envCheck(env0, env1)` of
  `/repo/facade.go`; `tenv` is the compile-time environment (`types.Env`, a Go map: names are
  distinct there), `venv` the run-time environment (`val.Env`).  Proofs: `Yae.Proofs.ConvEnv`
  (`accepted_env_ok`: `Yae.Proofs.EngineCheck`).

  What the model's `envCheck` does with duplicates (Go maps have none, lists may):
  * EVERY binding `(n, t)` of `tenv` is checked, also when `n` occurs twice in `tenv`;
  * a name is looked up in `venv` by its FIRST binding (`lookupVal`).

  "evaluates nothing" / "evaluates normally".  In Go the callable built by `(*Expr).makeCallable` is
        env1 := ValEnvOf(v);  err = envCheck(env0, env1);  if err != nil { return nil, err }
        vl = closure(env1.Inherit(runtime))
  i.e. the compiled closure (`Yae.eval`) is entered only after `envCheck` returned no error, and
  is entered with exactly the checked `env1`.  `Engine.invoke` (`Yae/Model/Engine.lean`) models
  this sequencing, and `Yae/Props/C07b.lean` (same namespace) states it:
  `C07.reject_evaluates_nothing`, `C07.accept_evaluates_normally`.  This file is about the verdict:
  "accepted" is `envCheck tenv venv = .ok ()`; what evaluation then does is the subject of C01/C02
  (`Yae.Sound.EnvOK` is what an accepted environment of well-formed values provides, see
  `accepted_env_ok` below).

  "host data of a different but equally-shaped Go type": run-time values (`Val`) and types (`Ty`)
  carry no Go type identity at all — `only_types_matter`: the verdict is a function of the own
  types `v.typeOf` of the looked-up values; that equally shaped Go types convert to equal `Ty`s is
  C15 (`Yae.C15.shape_determines_type`).
-/
import Yae.Proofs.ConvEnv
import Yae.Proofs.EngineCheck
import Yae.Spec.WF
namespace Yae.C07
open Yae Yae.ConvEnv

/-- **acceptance, exactly**: every compile-time binding finds (first run-time binding of that
name) a value whose own type is `types.Equals` to the declared type. -/
theorem accept_iff (tenv : List (String × Ty)) (venv : List (String × Val)) :
    envCheck tenv venv = .ok () ↔
      ∀ n t, (n, t) ∈ tenv → ∃ v, lookupVal venv n = some v ∧ tyEq t v.typeOf = true :=
  ConvEnv.accept_iff tenv venv

/-- **rejection, exactly**: an error is returned iff some compile-time name is missing or bound to
a value of a different type. -/
theorem reject_iff (tenv : List (String × Ty)) (venv : List (String × Val)) :
    (∃ e, envCheck tenv venv = .error e) ↔
      ∃ n t, (n, t) ∈ tenv ∧ (lookupVal venv n = none ∨
        ∃ v, lookupVal venv n = some v ∧ tyEq t v.typeOf = false) :=
  ConvEnv.reject_iff tenv venv

theorem reject_missing {tenv : List (String × Ty)} {venv : List (String × Val)} {n : String}
    {t : Ty} (hm : (n, t) ∈ tenv) (hv : lookupVal venv n = none) :
    ∃ e, envCheck tenv venv = .error e :=
  (reject_iff tenv venv).2 ⟨n, t, hm, Or.inl hv⟩

example : envCheck [("x", .num)] [("y", .num 1.0)] = .error .undefined := by rfl

theorem reject_mismatch {tenv : List (String × Ty)} {venv : List (String × Val)} {n : String}
    {t : Ty} {v : Val} (hm : (n, t) ∈ tenv) (hv : lookupVal venv n = some v)
    (ht : tyEq t v.typeOf = false) : ∃ e, envCheck tenv venv = .error e :=
  (reject_iff tenv venv).2 ⟨n, t, hm, Or.inr ⟨v, hv, ht⟩⟩

example : envCheck [("x", .num)] [("x", .str "1")] = .error .mismatch := by rfl

/-- the reported class: `undefined` iff there are offences and all of them are missing names
(`mismatch` / `mixed` otherwise; Go reports the first offender its map iteration meets) -/
theorem undefined_iff (tenv : List (String × Ty)) (venv : List (String × Val)) :
    envCheck tenv venv = .error .undefined ↔
      (∃ n t, (n, t) ∈ tenv ∧ lookupVal venv n = none) ∧
      ∀ n t, (n, t) ∈ tenv → ∀ v, lookupVal venv n = some v → tyEq t v.typeOf = true := by
  rw [envCheck_eq, verdict_undefined_iff]
  constructor
  · rintro ⟨hne, hall⟩
    constructor
    · obtain ⟨e, hmem⟩ := List.exists_mem_of_ne_nil _ hne
      obtain ⟨n, t, hm, hc⟩ := (mem_errs_iff tenv venv e).1 hmem
      rw [hall e hmem] at hc
      exact ⟨n, t, hm, (checkBinding_undefined_iff venv n t).1 hc⟩
    · intro n t hm v hv
      cases ht : tyEq t v.typeOf with
      | true => rfl
      | false =>
        have hc := (checkBinding_mismatch_iff venv n t).2 ⟨v, hv, ht⟩
        have := hall _ ((mem_errs_iff tenv venv _).2 ⟨n, t, hm, hc⟩)
        cases this
  · rintro ⟨⟨n, t, hm, hv⟩, hall⟩
    constructor
    · exact List.ne_nil_of_mem ((mem_errs_iff tenv venv .undefined).2
        ⟨n, t, hm, (checkBinding_undefined_iff venv n t).2 hv⟩)
    · intro e he
      obtain ⟨n, t, hm, hc⟩ := (mem_errs_iff tenv venv e).1 he
      cases e with
      | undefined => rfl
      | mismatch =>
        obtain ⟨v, hv, hf⟩ := (checkBinding_mismatch_iff venv n t).1 hc
        rw [hall n t hm v hv] at hf; cases hf
      | mixed => exact absurd hc (checkBinding_ne_mixed venv n t)

/-- **extra names allowed**: run-time bindings for names the compile-time environment does not
know, placed anywhere among the others, do not change the verdict. -/
theorem extra_names_ok (tenv : List (String × Ty)) (venv pre post : List (String × Val))
    (hpre : ∀ p ∈ pre, ∀ t, (p.1, t) ∉ tenv) (hpost : ∀ p ∈ post, ∀ t, (p.1, t) ∉ tenv) :
    envCheck tenv (pre ++ venv ++ post) = envCheck tenv venv :=
  ConvEnv.extra_names_ok tenv venv pre post hpre hpost

example : envCheck [("x", .num)] ([("a", .str "")] ++ [("x", .num 1.0)] ++ [("b", .bool true)])
    = .ok () := by rfl

/-- **order is irrelevant** (both environments are Go maps, iterated in unspecified order): the
verdict, including the class of the error, is invariant under permuting the compile-time bindings
and under permuting run-time bindings with distinct names. -/
theorem order_irrelevant {tenv tenv' : List (String × Ty)} {venv venv' : List (String × Val)}
    (ht : tenv.Perm tenv') (hv : venv.Perm venv') (hnd : (venv.map Prod.fst).Nodup) :
    envCheck tenv venv = envCheck tenv' venv' :=
  ConvEnv.order_irrelevant ht hv hnd

example : ([("x", Ty.num), ("y", Ty.str)]).Perm [("y", .str), ("x", .num)] ∧
    ([("x", Val.num 1.0), ("y", Val.str "")]).Perm [("y", .str ""), ("x", .num 1.0)] ∧
    (([("x", Val.num 1.0), ("y", Val.str "")]).map Prod.fst).Nodup :=
  ⟨List.Perm.swap _ _ _, List.Perm.swap _ _ _, by decide⟩

/-- without distinct run-time names the order does matter (first binding wins) — the hypothesis
of `order_irrelevant` cannot be dropped; a Go map cannot hold such an environment -/
example : envCheck [("x", .num)] [("x", .num 1.0), ("x", .str "")] = .ok () ∧
    envCheck [("x", .num)] [("x", .str ""), ("x", .num 1.0)] = .error .mismatch := ⟨by rfl, by rfl⟩

/-- **only the types matter**: two run-time environments that bind every name to values of the
same own type get the same verdict. -/
theorem only_types_matter {tenv : List (String × Ty)} {venv venv' : List (String × Val)}
    (h : ∀ n, (lookupVal venv n).map Val.typeOf = (lookupVal venv' n).map Val.typeOf) :
    envCheck tenv venv = envCheck tenv venv' :=
  ConvEnv.envCheck_congr_binding fun n _ _ => by
    have hn := h n
    unfold checkBinding
    cases h1 : lookupVal venv n <;> cases h2 : lookupVal venv' n <;> simp_all

example : ∀ n, (lookupVal [("x", Val.str "a")] n).map Val.typeOf =
    (lookupVal [("x", Val.str "b")] n).map Val.typeOf := by
  intro n; by_cases h : "x" = n <;> simp [lookupVal, h, Val.typeOf]

/-- **field order is irrelevant**: a value whose own type is structurally the declared type —
object fields compared by name, in any order — passes. -/
theorem field_order_ok {venv : List (String × Val)} {n : String} {t : Ty} {v : Val}
    (hw : t.wf = true) (hv : lookupVal venv n = some v) (hs : StructEq t v.typeOf) :
    envCheck [(n, t)] venv = .ok () := by
  rw [accept_iff]
  intro n' t' hm
  simp only [List.mem_singleton, Prod.mk.injEq] at hm
  obtain ⟨rfl, rfl⟩ := hm
  exact ⟨v, hv, tyEq_complete _ _ hw hs⟩

/-- declared `{a: num, b: str}`, supplied an object whose own type lists `b` first -/
example : envCheck [("o", .obj (.cons "a" .num (.cons "b" .str .nil)))]
    [("o", .obj (.obj (.cons "b" .str (.cons "a" .num .nil)))
            (.cons (.str "x") (.cons (.num 1.0) .nil)))] = .ok () := by rfl

example : (Ty.obj (.cons "a" .num (.cons "b" .str .nil))).wf = true ∧
    StructEq (.obj (.cons "a" .num (.cons "b" .str .nil)))
      (Val.obj (.obj (.cons "b" .str (.cons "a" .num .nil)))
        (.cons (.str "x") (.cons (.num 1.0) .nil))).typeOf :=
  ⟨by decide, tyEq_sound _ _ (by decide) (by decide)⟩

/-- **accepted ⇒ what evaluation needs** (the `vars` premise of `Yae.Sound.EnvOK`, the hypothesis
of type soundness `Yae.C01.preservation` / `Yae.C02.progress`): when the check accepts and the
run-time values are well formed (C15: converted host data is), every declared variable is bound
to a well-formed value of its declared type. -/
theorem accepted_env_ok {tenv : List (String × Ty)} {venv : List (String × Val)}
    {funs : List FunDecl} {reserved : List String} {ext : Externs}
    (hacc : envCheck tenv venv = .ok ())
    (hwf : ∀ p ∈ venv, Yae.Sound.WF p.2 = true) :
    ∀ x T, (TEnv.lookupVar ⟨tenv, funs, reserved⟩ x = some T) →
      ∃ v, (REnv.lookupVar ⟨venv, funs, ext⟩ x) = some v ∧ Yae.Sound.HasTy v T :=
  EngineCheck.accepted_env_ok (Γ := ⟨tenv, funs, reserved⟩) (ρ := ⟨venv, funs, ext⟩) hacc hwf

example : envCheck [("x", .num)] [("x", .num 1.0)] = .ok () ∧
    ∀ p ∈ [("x", Val.num 1.0)], Yae.Sound.WF p.2 = true := by
  refine ⟨by rfl, ?_⟩
  intro p hp
  simp only [List.mem_singleton] at hp
  subst hp; rfl

end Yae.C07

#print axioms Yae.C07.accept_iff
#print axioms Yae.C07.reject_iff
#print axioms Yae.C07.reject_missing
#print axioms Yae.C07.reject_mismatch
#print axioms Yae.C07.undefined_iff
#print axioms Yae.C07.extra_names_ok
#print axioms Yae.C07.order_irrelevant
#print axioms Yae.C07.only_types_matter
#print axioms Yae.C07.field_order_ok
#print axioms Yae.C07.accepted_env_ok
