/-
  C12 (the part a model can carry). "… terminate and report failure through their error result …
  Compile time grows at most polynomially with the length of the source …"

  In the model every stage is a total function into value-or-error (none of the stage functions is
  a `partial def`; the only ones in the model are the S-expression (de)serialisers of `Model/Ast`
  and `Model/Ty`, which the driver uses).  Totality is bought with FUEL arguments, so what has
  to be shown is that the fuel handed out by the top-level functions is never the reason for a
  failure: the outcome `.fuel` (which stands for "the Go code does not terminate") is
  unreachable.  This file has those statements for the lexer, the parser and the desugarer, and
  `compile_work_partial` for the stages together.

  Proved elsewhere:
      unifier fuel suffices            `Yae.C17.unify_fuel_sufficient`   (Yae/Props/C17.lean)
      checker never reports `.fuel`    `Yae.C05.never_fuel`              (Yae/Props/C05b.lean)
      evaluator fuel = depth of tree   `Yae.C02.progress`                (Yae/Props/C02.lean)
      VM: steps ≤ code size            `Yae.C11.verify_sound`            (Yae/Props/C11.lean)

  WORK.  The model has no cost semantics, so one is defined explicitly and tied to the model
  functions by construction: `Yae/Spec/ParseCost.lean` and `Yae/Spec/DesugarCost.lean` contain
  literal copies of the model functions (same arguments, same case structure) that return the
  model's result together with a counter, and ERASURE theorems say that dropping the counter
  gives exactly the model function, for all arguments.  What is counted is stated below; what
  a function does between two counted events is bounded per event but NOT counted.

  Lexer: at most `s.length + 1` rounds (`lex` hands `lexLoop` that fuel; a successful run makes
  exactly `#tokens + 1`: `lex_steps`); per round at most `ops.length + 22` rule attempts
  (`lex_rule_attempts`), each a prefix test or one of the ten single-pass scanners of
  `Yae.Model.Lexer` over the remaining input (structural recursions on the input list, the two
  `reStar` loops with fuel = length of the rest).  So the work is `O(|s|² · (|ops| + 22))`; only
  the round count and the attempt count are theorems.

  Parser.  DEPTH of the call chain: linear (`parseWith_no_fuel`: fuel `4 * #tokens + 1` suffices).
  WORK, unit = one call of any of the seven mutually recursive parser functions (`expr`, one
  round of `parseInfix`, `parseCall`, one round of each of the four loops): with no operator of
  kind `<END-OF-FILE>`, `parse` makes at most `2 * #tokens + 1` calls whatever the outcome, at
  most `2 * #tokens` when it succeeds (`parse_work_linear`), and this AT EVERY FUEL
  (`parseWith_work_linear`: the bound is not an artefact of the fuel).  Locally
  (`expr_work_linear`): `expr` started at cursor `i` makes at most `2 * (tokens left) + 1` calls
  and, if it returns at cursor `j`, at most `2 * (j - i)`.  Both constants are attained
  (examples).  The list-or-map rule is one pass, without backtracking (finding D14 concerned
  the two-pass `tryParse` of the Go code before its repair).  Between
  two calls: at most two lookups in the grammar tables (linear in `|ops| + 13`), at most four
  token inspections, one `Pos.range`, one `infixNCheck` (roots of the operands only), one literal
  conversion (one pass over the lexeme of the token just eaten) and the `reverse` / `ofList` of
  an accumulator not longer than the rounds of its loop: `O(#tokens · |ops| + |s|)` altogether,
  not a theorem.  The tree has at most `#tokens` nodes (`parse_nodes`).

  Desugarer: structural recursion; unit = one call of `desugar`; at most one call per node
  (`desugar_work_linear`), the result has at most twice the nodes (`desugar_nodes`).

  Type checker and VM compiler: NOT instrumented (monadic code; the instrumented copies would be
  as long as the models).  Both are structural recursions over the desugared tree
  (`Yae.check` / `checkElems` / … by Lean's structural termination checker on `Expr`;
  `Yae.Vm.compileE` on fuel = depth of the tree, every call on a sub-expression, plus at most one
  constant `true` / `false` node per `and` / `or`), so each visits a node once.  Per call node the
  checker resolves the overload: one filter over the function table, and for each polymorphic
  candidate one `inferFun` = two `unify` and two `applySubst` with fuel `defaultFuel`.  The
  unifier's recursion depth is bounded by the size of the variable-free side
  (`Yae.C17.unify_fuel_sufficient`: fuel `≥ sizeOf g` is never exhausted; under its hypotheses every
  recursive call is on a strict sub-term of `g`), which is why the checker never reports `.fuel`
  (`Yae.C05.never_fuel`); for signatures satisfying `sigOK` (all built-ins) `inferFun` EQUALS the
  specification `instantiate` (`Yae.C05.sigOK_inferFun`), a one-pass structural match `pmatchList`
  of the parameter patterns against the argument types (one `tyEq` per repeated variable, one
  `find?` per object field).  So per candidate the RESULT is that of a computation polynomial in
  the sizes of the signature and of the argument types; a bound on the steps the model's `unify`
  itself takes is not proved.  Argument types can be as large as the sub-expression that has them
  (nested literals), so the checker's work is not linear in the number of nodes in general.
-/
import Yae.Proofs.LexRules
import Yae.Proofs.ParseBounds
import Yae.Proofs.DesugarCost
import Yae.Gen.Guards
import Yae.Proofs.ParseSample
namespace Yae.C12
open Yae

/-- With no operator of empty kind the lexer terminates with tokens or the syntax error: the
fuel `input.length + 1` is never exhausted.  (The statement of `C09.lex_no_fuel`, here with the
other fuel statements.) -/
theorem lex_no_fuel {ops : List Operator} (hops : ∀ o ∈ ops, o.kind ≠ "") (s : List Char) :
    lex ops s ≠ .error .fuel :=
  Yae.lex_no_fuel hops s

example : ∀ o ∈ [(⟨"+", 7, fixInfixL⟩ : Operator), ⟨"not", 9, fixPrefix⟩], o.kind ≠ "" := by decide

/-- The hypothesis is needed (Go: `strings.HasPrefix(s, "")` matches without consuming; the loop
never ends). -/
example : lex [⟨"", 7, fixInfixL⟩] "a".toList = .error .fuel := by decide +kernel

/-- Number of rounds of the loop: a successful run makes exactly one round per token plus the
final round that finds the end of input (`ts.length + 1` is the fuel actually needed), and there
are at most as many tokens as runes: each round consumes at least one. -/
theorem lex_steps {ops : List Operator} {s : List Char} {ts : List Token}
    (h : lex ops s = .ok ts) :
    ts.length ≤ s.length ∧ lexLoop (newLexicon ops) (ts.length + 1) s Pos.zero = .ok ts :=
  ⟨(lex_lexed h).length_le, lexLoop_fuel_exact h⟩

example : lex [] "a b".toList
    = .ok [⟨"<sym>", "a", ⟨0, 1, 0, 0⟩⟩, ⟨"<sym>", "b", ⟨2, 3, 2, 0⟩⟩] := by decide +kernel

/-- Any outcome other than `.fuel` is independent of the fuel once it is reached. -/
theorem lex_fuel_mono {rules : List Rule} {f f' : Nat} {cs : List Char} {p : Pos}
    {r : Except LexErr (List Token)} (h : lexLoop rules f cs p = r) (hr : r ≠ .error .fuel)
    (hf : f ≤ f') : lexLoop rules f' cs p = r := by
  fun_induction lexLoop rules f cs p generalizing r f' with
  | case1 => exact absurd h.symm hr
  | case2 =>
    rename_i hsk
    obtain ⟨g, rfl⟩ : ∃ g, f' = g + 1 := ⟨f' - 1, by omega⟩
    simp only [lexLoop, hsk, h]
  | case3 =>
    rename_i hne hsk hfm
    obtain ⟨g, rfl⟩ : ∃ g, f' = g + 1 := ⟨f' - 1, by omega⟩
    rw [lexLoop_succ _ hsk hne, hfm, ← h]
  | case4 =>
    rename_i hne hsk _ _ hfm _ _ _ _ hrec ih
    obtain ⟨g, rfl⟩ : ∃ g, f' = g + 1 := ⟨f' - 1, by omega⟩
    rw [lexLoop_succ _ hsk hne, hfm, ← h]
    simp only []
    rw [ih hrec (by simp) (by omega : _ ≤ g)]
  | case5 =>
    rename_i hne hsk _ _ hfm _ _ e hrec ih
    obtain ⟨g, rfl⟩ : ∃ g, f' = g + 1 := ⟨f' - 1, by omega⟩
    rw [lexLoop_succ _ hsk hne, hfm, ← h]
    simp only []
    rw [ih hrec (by rintro he; exact hr (by rw [← h, he])) (by omega : _ ≤ g)]

example : lexLoop (newLexicon []) 2 "a".toList Pos.zero = .ok [⟨"<sym>", "a", ⟨0, 1, 0, 0⟩⟩] := by
  decide +kernel

/-- Rule attempts per round: the lexicon has `ops.length + 22` rules and `firstMatch` tries each
at most once. -/
theorem lex_rule_attempts (ops : List Operator) : (newLexicon ops).length = ops.length + 22 := by
  simp [newLexicon, sortOps_length, builtInOpers]; omega

/-- `parse` never runs out of fuel, for every operator table without an operator of kind
`<END-OF-FILE>`, every token list and every `strtotime` table.

Full statement (no hypothesis on `ops`) is FALSE in the model and in Go: a PREFIX operator of
kind `<END-OF-FILE>` is applied again and again at the end of the input, because eating the
end-of-file token does not advance (Go does not terminate): `parse_fuel_witness` below. -/
theorem parse_no_fuel_partial {ops : List Operator} (hops : ∀ o ∈ ops, o.kind ≠ "<END-OF-FILE>")
    (times : List (String × Int)) (toks : List Token) :
    parse ops times toks ≠ .error .fuel :=
  parse_no_fuel hops times toks

example : ∀ o ∈ [(⟨"+", 7, fixInfixL⟩ : Operator), ⟨"not", 9, fixPrefix⟩],
    o.kind ≠ "<END-OF-FILE>" := by decide

/-- the excluded table: with a PREFIX operator whose kind is the end-of-file marker the model runs
out of fuel on the empty input (Go: `expr` eats the end-of-file token, which does not advance the
cursor, finds the prefix rule and calls `expr` again: unbounded recursion).  A postfix or infix
operator of that kind does not loop: `pos.Range` refuses the position of the end-of-file token. -/
theorem parse_fuel_witness :
    (match parse [⟨"<END-OF-FILE>", 7, fixPrefix⟩] [] [] with
     | .error .fuel => true
     | _ => false) = true := by
  decide +kernel

/-- The depth of the parser's call chain is linear: any fuel `≥ 4 * #tokens + 1` will do
(`parseFuel` hands out `4 * #tokens + 32`). -/
theorem parseWith_no_fuel {ops : List Operator} (hops : ∀ o ∈ ops, o.kind ≠ "<END-OF-FILE>")
    (times : List (String × Int)) (toks : List Token) {fuel : Nat}
    (hf : 4 * toks.length + 1 ≤ fuel) : parseWith fuel ops times toks ≠ .error .fuel :=
  Yae.parseWith_no_fuel hops times toks hf

/-! ## work of the parser

Cost unit: one call of any of the seven parser functions (`Yae/Spec/ParseCost.lean`). -/

/-- ERASURE: at every fuel and for all arguments, each instrumented parser function is the model
function plus a counter. -/
theorem parser_cost_erasure (env : PEnv) (f : Nat) :
    (∀ rbp i, (pExprC env f rbp i).1 = pExpr env f rbp i) ∧
    (∀ l rbp i, (pInfixC env f l rbp i).1 = pInfix env f l rbp i) ∧
    (∀ c t i, (pCallC env f c t i).1 = pCall env f c t i) ∧
    (∀ acc i, (pArgsC env f acc i).1 = pArgs env f acc i) ∧
    (∀ acc i, (pListC env f acc i).1 = pList env f acc i) ∧
    (∀ acc i, (pMapC env f acc i).1 = pMap env f acc i) ∧
    (∀ acc i, (pObjC env f acc i).1 = pObj env f acc i) :=
  have h := erase_all env f
  ⟨fun a b => (h.exprE a b).symm, fun a b c => (h.infixE a b c).symm,
    fun a b c => (h.callE a b c).symm, fun a b => (h.argsE a b).symm,
    fun a b => (h.listE a b).symm, fun a b => (h.mapE a b).symm, fun a b => (h.objE a b).symm⟩

/-- ERASURE at the top: `parseC` is `parse` plus a counter (and `parseWithC` is `parseWith`). -/
theorem parse_cost_erasure (ops : List Operator) (times : List (String × Int)) (toks : List Token) :
    (parseC ops times toks).1 = parse ops times toks ∧
    ∀ fuel, (parseWithC fuel ops times toks).1 = parseWith fuel ops times toks :=
  ⟨parseC_erase ops times toks, fun fuel => parseWithC_erase fuel ops times toks⟩

/-- `expr(rbp)` started at cursor `i`, whatever the fuel and whatever the outcome, makes at most
`2 * (tokens left) + 1` calls; if it returns, at cursor `j`, it has consumed `j - i ≥ 1` tokens,
stayed inside the input and made at most `2 * (j - i)` calls. -/
theorem expr_work_linear {env : PEnv} (hE : env.NoEOF) (f : Nat) (rbp : BP) (i : Nat) :
    (pExprC env f rbp i).2 ≤ 2 * (env.toks.size - i) + 1 ∧
    ∀ x j, (pExprC env f rbp i).1 = .ok (x, j) →
      i < j ∧ j ≤ env.toks.size ∧ (pExprC env f rbp i).2 ≤ 2 * (j - i) :=
  pExprC_calls hE f rbp i

/-- The work of `Parse` is linear at every fuel: at most `2 * #tokens + 1` calls whatever the
outcome (syntax error, missing `strtotime` entry and `.fuel` included), at most `2 * #tokens` on
success. -/
theorem parseWith_work_linear {ops : List Operator} (hops : ∀ o ∈ ops, o.kind ≠ "<END-OF-FILE>")
    (times : List (String × Int)) (toks : List Token) (fuel : Nat) :
    (parseWithC fuel ops times toks).2 ≤ 2 * toks.length + 1 ∧
    ∀ e, (parseWithC fuel ops times toks).1 = .ok e →
      (parseWithC fuel ops times toks).2 ≤ 2 * toks.length := by
  have h := pExprC_calls (env := mkEnv ops times toks) (newGrammar_noEOF hops) fuel 0 0
  rw [mkEnv_size] at h
  rw [parseWithC_eq]
  refine ⟨h.1, fun e he => ?_⟩
  obtain ⟨j, hj, _⟩ := parseWith_ok_iff.mp he
  rw [(erase_all _ _).exprE] at hj
  have := h.2 e j hj
  omega

/-- **`parse` makes at most `2 * #tokens + 1 ≤ 2 * (#tokens + 1)` calls**, at most `2 * #tokens`
when it succeeds. -/
theorem parse_work_linear {ops : List Operator} (hops : ∀ o ∈ ops, o.kind ≠ "<END-OF-FILE>")
    (times : List (String × Int)) (toks : List Token) :
    (parseC ops times toks).2 ≤ 2 * toks.length + 1 ∧
    ∀ e, parse ops times toks = .ok e → (parseC ops times toks).2 ≤ 2 * toks.length := by
  have h := parseWith_work_linear hops times toks (parseFuel toks.length)
  refine ⟨h.1, fun e he => h.2 e ?_⟩
  rw [parseWithC_erase]; exact he

/-- tokens, calls made, success -/
def parseCalls (s : String) : Option (Nat × Nat × Bool) :=
  match lex builtinOps s.toList with
  | .ok ts =>
    some (ts.length, (parseC builtinOps [] ts).2,
      match (parseC builtinOps [] ts).1 with | .ok _ => true | .error _ => false)
  | .error _ => none

/-- `a + b * c`: 5 tokens, 8 calls (`expr` 3, rounds of `parseInfix` 5) -/
example : parseCalls "a + b * c" = some (5, 8, true) := by
  rw [parseCalls, C08.lex1]; decide +kernel
/-- a ten-deep bracket nest: 20 tokens, 20 calls (one `expr` and one round per level) -/
example : parseCalls "[[[[[[[[[[]]]]]]]]]]" = some (20, 20, true) := by decide +kernel
example : parseCalls "[[[[[[[[[[1]]]]]]]]]]" = some (21, 22, true) := by decide +kernel
example : parseCalls "f(a, b)[0].x ? [1:2, 3:4] : {a: 1, b: -2}" = some (32, 36, true) := by
  decide +kernel
/-- the bound `2 * #tokens` is attained on success -/
example : parseCalls "- - - - a" = some (5, 10, true) := by decide +kernel
/-- the bound `2 * #tokens + 1` is attained on failure -/
example : parseCalls "f(f(f(f(f(f(f(" = some (14, 29, false) := by decide +kernel
example : parseCalls "" = some (0, 1, false) := by decide +kernel

/-- the hypothesis is needed: with the table of `parse_fuel_witness` the calls on the empty input
are as many as the fuel (`parseFuel 0 + 1`; Go does not terminate) -/
theorem parse_work_witness :
    (parseC [⟨"<END-OF-FILE>", 7, fixPrefix⟩] [] []).2 = 33 := by decide +kernel

/-- The tree has at most as many nodes as there are tokens (every node owns a token). -/
theorem parse_nodes {ops : List Operator} (hops : ∀ o ∈ ops, o.kind ≠ "<END-OF-FILE>")
    (times : List (String × Int)) (toks : List Token) {e : Expr}
    (h : parse ops times toks = .ok e) : e.nodes ≤ toks.length :=
  parseWith_nodes hops times toks _ h

/-! ## work of the desugarer

Cost unit: one call of `desugar` (`Yae/Spec/DesugarCost.lean`). -/

/-- ERASURE: `desugarC` is `desugar` plus a counter. -/
theorem desugar_cost_erasure (e : Expr) : (desugarC e).1 = desugar e := (desugarC_all.1 e).1

/-- at most one call per node -/
theorem desugar_work_linear (e : Expr) : (desugarC e).2 ≤ e.nodes := (desugarC_all.1 e).2.1

/-- the desugared tree (the input of the checker and of the VM compiler) has at most twice the
nodes -/
theorem desugar_nodes (e : Expr) : (desugar e).nodes ≤ 2 * e.nodes := (desugarC_all.1 e).2.2

/-- tokens, nodes of the tree, calls of `desugar`, nodes of the desugared tree -/
def desugarCalls (s : String) : Option (Nat × Nat × Nat × Nat) :=
  match lex builtinOps s.toList with
  | .ok ts =>
    match parse builtinOps [] ts with
    | .ok e => some (ts.length, e.nodes, (desugarC e).2, (desugar e).nodes)
    | .error _ => none
  | .error _ => none

example : desugarCalls "a + b * c" = some (5, 5, 5, 7) := by
  rw [desugarCalls, C08.lex1]; simp only [C08.parse1]; decide +kernel
/-- the `Member` callee is not visited: 4 nodes, 3 calls -/
example : desugarCalls "x.f(a)" = some (6, 4, 3, 4) := by decide +kernel

/-- From the source text to the desugared tree, in terms of the number of runes `s.length`
(`lex ops s` is by definition `lexLoop (newLexicon ops) (s.length + 1) s Pos.zero`: at most
`s.length + 1` rounds also when it fails).  When the lexer succeeds with tokens `ts`:
it made `ts.length + 1 ≤ s.length + 1` rounds of at most `ops.length + 22` rule attempts;
parsing `ts` makes at most `2 * s.length + 1` calls whatever the outcome; a tree that comes out
has at most `s.length` nodes, desugaring it makes at most `s.length` calls and gives a tree of at
most `2 * s.length` nodes.

PARTIAL: the units are rounds / rule attempts / calls, the work inside one unit is bounded but
not counted (see the header); the type checker and the VM compiler are not covered. -/
theorem compile_work_partial {ops : List Operator} (hops : ∀ o ∈ ops, o.kind ≠ "<END-OF-FILE>")
    (times : List (String × Int)) {s : List Char} {ts : List Token} (h : lex ops s = .ok ts) :
    lexLoop (newLexicon ops) (ts.length + 1) s Pos.zero = .ok ts ∧
    (newLexicon ops).length = ops.length + 22 ∧
    ts.length ≤ s.length ∧
    (parseC ops times ts).1 = parse ops times ts ∧
    (parseC ops times ts).2 ≤ 2 * s.length + 1 ∧
    ∀ e, parse ops times ts = .ok e →
      e.nodes ≤ s.length ∧ (desugarC e).1 = desugar e ∧ (desugarC e).2 ≤ s.length ∧
      (desugar e).nodes ≤ 2 * s.length := by
  have hl := lex_steps h
  have hp := parse_work_linear hops times ts
  refine ⟨hl.2, lex_rule_attempts ops, hl.1, parseC_erase ops times ts, by omega, ?_⟩
  intro e he
  have hn := parse_nodes hops times ts he
  have hd := desugar_work_linear e
  have hd' := desugar_nodes e
  exact ⟨by omega, desugar_cost_erasure e, by omega, by omega⟩

/-- non-vacuity: a source text that lexes and parses -/
example : ∃ ts e, lex builtinOps "a + b * c".toList = .ok ts ∧ parse builtinOps [] ts = .ok e :=
  ⟨_, _, C08.lex1, C08.parse1⟩

example : ∀ o ∈ builtinOps, o.kind ≠ "<END-OF-FILE>" := by decide

/-! ## containment of panics at the API boundary

Go reports every internal failure by `panic`; the API functions turn panics into their error
result with deferred recovers.  WHICH functions install a recover is regenerated from the source
on every run (`Gen.panicGuards`: go/ast scan of facade.go, conv/*.go, ext/sql.go, util/err.go) and
must equal `expectedGuards`.  The call structure of the four entry points (`apiStages`) is
hand-modelled from facade.go: for every internal stage an entry point runs, the guard that is in
scope while it runs, or `none`.  `contained_partial`: a stage without a guard in scope is one of
the three stages that are total functions in the model (so nothing can be raised there): the
top-level walk of `TypeEnvOf` / `ValEnvOf` (`Yae.typeEnvOf`, `Yae.valEnvOf` return `Except`; the Go
code tests kinds and nil-ness before every reflect call: findings D30, D31 were exactly such
unguarded panics and were repaired) and the report renderer (`Yae.Debug.render`: total, and see
`Yae.C19.render_shows`).  PARTIAL: the call structure is read off the source by hand, not
extracted; the run-time search for escaping panics is the `api` / `history` / `conv` / `debug`
streams (`api-panic`, `conv-panic`, `debug-panic`, `process-crash`). -/

/-- the guards the API layer installs (file, function, how) -/
def expectedGuards : List (String × String × String) := [
  ("conv/type.go", "typeOfRV", "defer:Recover"),
  ("conv/val.go", "valOfRV", "defer:Recover"),
  ("ext/sql.go", "CompileToSql/closure", "defer:literal"),
  ("facade.go", "Expr.Compile", "defer:backStrace"),
  ("facade.go", "Expr.backStrace", "helper:recover"),
  ("facade.go", "Expr.envCheck", "defer:backStrace"),
  ("facade.go", "Expr.makeCallable/closure", "defer:backStrace"),
  ("util/err.go", "Recover", "helper:recover")]

theorem guards_tie : Gen.panicGuards = expectedGuards := by decide

inductive Stage where
  | convTypeTop | convTypeField | convValTop | convValField
  | lex | parse | desugar | check | compile | envCheck | run | render
  deriving DecidableEq, Repr

/-- entry point ↦ the stages it runs, each with the guard in scope (function of `expectedGuards`) -/
def apiStages : List (String × List (Stage × Option String)) := [
  ("Expr.Compile", [
    (.convTypeTop, none), (.convTypeField, some "typeOfRV"),
    (.lex, some "Expr.Compile"), (.parse, some "Expr.Compile"), (.desugar, some "Expr.Compile"),
    (.check, some "Expr.Compile"), (.compile, some "Expr.Compile")]),
  ("Callable", [
    (.convValTop, some "Expr.makeCallable/closure"), (.convValField, some "valOfRV"),
    (.envCheck, some "Expr.envCheck"), (.run, some "Expr.makeCallable/closure")]),
  ("Eval", [
    (.convTypeTop, none), (.convTypeField, some "typeOfRV"),
    (.lex, some "Expr.Compile"), (.parse, some "Expr.Compile"), (.desugar, some "Expr.Compile"),
    (.check, some "Expr.Compile"), (.compile, some "Expr.Compile"),
    (.convValTop, none), (.convValField, some "valOfRV"),
    (.envCheck, some "Expr.envCheck"), (.run, some "Expr.makeCallable/closure")]),
  ("Debug", [
    (.convTypeTop, none), (.convTypeField, some "typeOfRV"),
    (.lex, some "Expr.Compile"), (.parse, some "Expr.Compile"), (.desugar, some "Expr.Compile"),
    (.check, some "Expr.Compile"), (.compile, some "Expr.Compile"),
    (.convValTop, none), (.convValField, some "valOfRV"),
    (.envCheck, some "Expr.envCheck"), (.run, some "Expr.makeCallable/closure"),
    (.render, none)])]

/-- the stages that are total functions in the model -/
def totalStages : List Stage := [.convTypeTop, .convValTop, .render]

/-- every stage an entry point runs is either covered by a guard found in the Go source
(`Gen.panicGuards`, regenerated on every run), or is one of the stages that cannot raise -/
def stageCovered (st : Stage × Option String) : Bool :=
  match st.2 with
  | some g => (Gen.panicGuards.map (·.2.1)).contains g
  | none => totalStages.contains st.1

theorem contained_partial :
    (apiStages.all fun e => e.2.all stageCovered) = true := by decide

/-- The two helpers through which the guards recover (`Expr.backStrace`, `util.Recover`) call
`recover()` themselves. -/
theorem helpers_recover :
    ("facade.go", "Expr.backStrace", "helper:recover") ∈ Gen.panicGuards ∧
    ("util/err.go", "Recover", "helper:recover") ∈ Gen.panicGuards := by decide

end Yae.C12

#print axioms Yae.C12.lex_no_fuel
#print axioms Yae.C12.lex_steps
#print axioms Yae.C12.lex_fuel_mono
#print axioms Yae.C12.lex_rule_attempts
#print axioms Yae.C12.parse_no_fuel_partial
#print axioms Yae.C12.parseWith_no_fuel
#print axioms Yae.C12.parse_fuel_witness
#print axioms Yae.C12.parser_cost_erasure
#print axioms Yae.C12.parse_cost_erasure
#print axioms Yae.C12.expr_work_linear
#print axioms Yae.C12.parseWith_work_linear
#print axioms Yae.C12.parse_work_linear
#print axioms Yae.C12.parse_work_witness
#print axioms Yae.C12.parse_nodes
#print axioms Yae.C12.desugar_cost_erasure
#print axioms Yae.C12.desugar_work_linear
#print axioms Yae.C12.desugar_nodes
#print axioms Yae.C12.compile_work_partial
#print axioms Yae.C12.guards_tie
#print axioms Yae.C12.contained_partial
#print axioms Yae.C12.helpers_recover
