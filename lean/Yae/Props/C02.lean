/-
  C02. "An accepted expression evaluated in a conforming environment either yields a value or
  stops with one of the language's partial-operation failures (list index outside the list,
  missing map key, modulo by zero, invalid regular expression), and it stops exactly when the
  language semantics says the operation is undefined. It never fails through an internal fault
  such as a mis-typed value access, nil dereference, evaluation-stack underflow, unknown
  instruction or an 'unreachable' branch, and total library functions such as get-with-default
  never fail at all."

  Model: `Yae.Model.Eval` — every unchecked cast, nil access and `Unreachable` of the Go
  evaluators is a `Fail.stuck _` outcome of `eval`; running out of the recursion-depth budget is
  `Fail.fuel`.  The theorems below take more fuel than the depth of the tree (`hfuel`; `runEval`
  passes `depth + 1`) and then exclude `Fail.fuel` with the other failures that are not allowed;
  that much owes nothing to typing, since `eval` spends one unit of fuel per level it descends.
  `Allowed f` (`Yae.Spec.WF`): the four documented failures, `hostFail _` (a host
  function registered by the embedding program that fails on purpose), and a miss of the
  harness' table of external functions (`stuck "extern-miss:…"`: `regexp.MatchString` and
  `strtotime` are not re-implemented in the model; a miss is a device of the model, treated as a
  separate allowed outcome, it is not an internal fault of the evaluator).
  Proofs: `Yae.Proofs.Soundness*`.
-/
import Yae.Proofs.SoundnessMain
import Yae.Proofs.SoundnessExample
import Yae.Proofs.SoundnessExample2
import Yae.Props.C06
namespace Yae.C02
open Yae Yae.Sound

theorem allowed_iff {f : Fail} : Allowed f ↔
    f = .indexOutOfRange ∨ f = .missingKey ∨ f = .modZero ∨ f = .badRegex ∨
    (∃ n, f = .hostFail n) ∨ f = .stuck "extern-miss:regex" ∨
    f = .stuck "extern-miss:strtotime" := by
  cases f <;> simp [Allowed]

/-- C02: an accepted expression, evaluated in a conforming environment with more fuel than the
depth of the tree (as `runEval` does), yields a value (of the inferred type) or stops with an
allowed failure. -/
theorem progress {Γ : TEnv} {ρ : REnv} (hf : FunsOK Γ.funs) (henv : EnvOK Γ ρ)
    {c : Nat} {e : Expr} {T : Ty} {e' : Expr} {c' : Nat}
    (hc : check Γ c e = .ok (T, e', c'))
    {fuel : Nat} (hfuel : e'.depth < fuel) (dbg : Bool) (log : List Event) :
    (∃ v log', eval fuel dbg ρ e' log = (.ok v, log') ∧ HasTy v T) ∨
    (∃ f log', eval fuel dbg ρ e' log = (.error f, log') ∧ Allowed f) :=
  Sound.progress hf henv (check_ann hf henv.tys e c T e' c' hc) hfuel dbg log

/-- non-vacuity: the hypotheses hold for `o.a + 2` (`Sound.Example`), depth 3, fuel 4 -/
example : FunsOK Example.Γ.funs ∧ EnvOK Example.Γ Example.ρ ∧
    check Example.Γ 0 Example.prog = .ok (.num, Example.prog', 0) ∧ Example.prog'.depth < 4 :=
  ⟨Example.funsOK, Example.envOK, Example.checked, by decide⟩

/-- C02, negative form: whatever failure stops the evaluation is an allowed one: never an
internal fault (`stuck` other than an externs-table miss), never fuel exhaustion. -/
theorem no_internal_fault {Γ : TEnv} {ρ : REnv} (hf : FunsOK Γ.funs) (henv : EnvOK Γ ρ)
    {c : Nat} {e : Expr} {T : Ty} {e' : Expr} {c' : Nat}
    (hc : check Γ c e = .ok (T, e', c'))
    {fuel : Nat} (hfuel : e'.depth < fuel) {dbg : Bool} {log log' : List Event} {f : Fail}
    (he : eval fuel dbg ρ e' log = (.error f, log')) :
    f ≠ .fuel ∧
    (∀ s, f = .stuck s → s = "extern-miss:regex" ∨ s = "extern-miss:strtotime") ∧
    (f = .indexOutOfRange ∨ f = .missingKey ∨ f = .modZero ∨ f = .badRegex ∨
      (∃ n, f = .hostFail n) ∨ f = .stuck "extern-miss:regex" ∨
      f = .stuck "extern-miss:strtotime") := by
  have hal : Allowed f := by
    rcases progress hf henv hc hfuel dbg log with ⟨v, l, h, _⟩ | ⟨f', l, h, hal⟩
    · rw [he] at h; cases h
    · rw [he] at h; cases h; exact hal
  refine ⟨?_, ?_, allowed_iff.1 hal⟩
  · rintro rfl; exact hal
  · rintro s rfl; exact hal

/-- non-vacuity: the hypotheses are those of `progress`, the witness is the same -/
example : FunsOK Example.Γ.funs ∧ EnvOK Example.Γ Example.ρ ∧
    check Example.Γ 0 Example.prog = .ok (.num, Example.prog', 0) ∧ Example.prog'.depth < 4 :=
  ⟨Example.funsOK, Example.envOK, Example.checked, by decide⟩

/-- the entry point `runEval` passes `depth + 1` fuel: it yields a value of the inferred type or
an allowed failure -/
theorem progress_run {Γ : TEnv} {ρ : REnv} (hf : FunsOK Γ.funs) (henv : EnvOK Γ ρ)
    {c : Nat} {e : Expr} {T : Ty} {e' : Expr} {c' : Nat}
    (hc : check Γ c e = .ok (T, e', c')) (dbg : Bool) :
    (∃ v evs, runEval dbg ρ e' = (.ok v, evs) ∧ HasTy v T) ∨
    (∃ f evs, runEval dbg ρ e' = (.error f, evs) ∧ Allowed f) :=
  Sound.progress_run hf henv (check_ann hf henv.tys e c T e' c' hc) dbg

/-- non-vacuity: `o.a + 2` again (no fuel hypothesis here) -/
example : FunsOK Example.Γ.funs ∧ EnvOK Example.Γ Example.ρ ∧
    check Example.Γ 0 Example.prog = .ok (.num, Example.prog', 0) :=
  ⟨Example.funsOK, Example.envOK, Example.checked⟩

/-- The `get`-with-default built-ins (on lists, maps, optionals) never fail on well-typed
arguments and return a value of the instantiated return type.  `hσ` is not used. -/
theorem total_get (ext : Externs) (b : BuiltinDecl) (hb : b ∈ builtins)
    (hstrict : b.isLazy = false)
    {name : String} {ps : TyList} {ret : Ty} (hty : b.ty = .fn name ps ret)
    (σ : Subst) (hσ : σ.Ground)
    (hw : wfList (substGList σ ps) = true) (hs : slotFreeList (substGList σ ps) = true)
    (vs : List Val) (hvs : HasTyList vs (substGList σ ps))
    (hid : b.id = .GET_LIST_NUM_ANY ∨ b.id = .GET_MAP_ANY_ANY ∨ b.id = .GET_MAYBE) :
    ∃ v evs, applyBuiltin ext b.id vs = .ok (v, evs) ∧ HasTy v (substG σ ret) := by
  have _ := hσ
  refine builtin_total_typed ext b hb hstrict hty σ hw hs vs hvs ?_
  rcases hid with h | h | h <;> rw [h] <;> exact ⟨by decide, by decide, by decide⟩

/-- non-vacuity: `get(["x"], 7, "d")` (index out of range: the default is returned) -/
example : ∃ b ∈ builtins, b.isLazy = false ∧ b.id = .GET_LIST_NUM_ANY ∧
    ∃ name ps ret, b.ty = .fn name ps ret ∧
    ∃ σ : Subst, σ.Ground ∧ wfList (substGList σ ps) = true ∧
      slotFreeList (substGList σ ps) = true ∧
      ∃ vs, HasTyList vs (substGList σ ps) := by
  refine ⟨⟨.GET_LIST_NUM_ANY,
    .fn "get" (.cons (.list (.var "a")) (.cons .num (.cons (.var "a") .nil))) (.var "a"), false⟩,
    List.mem_of_getElem? (i := 15) rfl, rfl, rfl, _, _, _, rfl, [("a", .str)],
    Example.ground_single rfl rfl, by decide, by decide,
    [.list (.list .str) (.cons (.str "x") .nil), .num 7, .str "d"], ?_⟩
  simp only [substGList, substG, Subst.get?, HasTyList]
  decide

/-- Every strict built-in other than `%`, `match` and `strtotime` is total on well-typed
arguments.  `hσ` is not used (`Sound.builtin_total_typed` has no such hypothesis). -/
theorem total (ext : Externs) (b : BuiltinDecl) (hb : b ∈ builtins)
    (hstrict : b.isLazy = false)
    {name : String} {ps : TyList} {ret : Ty} (hty : b.ty = .fn name ps ret)
    (σ : Subst) (hσ : σ.Ground)
    (hw : wfList (substGList σ ps) = true) (hs : slotFreeList (substGList σ ps) = true)
    (vs : List Val) (hvs : HasTyList vs (substGList σ ps))
    (hid : b.id ≠ .MOD_NUM_NUM ∧ b.id ≠ .MATCH_STR_STR ∧ b.id ≠ .STRTOTIME_STR) :
    ∃ v evs, applyBuiltin ext b.id vs = .ok (v, evs) ∧ HasTy v (substG σ ret) :=
  have _ := hσ
  builtin_total_typed ext b hb hstrict hty σ hw hs vs hvs hid

example : ∃ b ∈ builtins, b.isLazy = false ∧
    (b.id ≠ .MOD_NUM_NUM ∧ b.id ≠ .MATCH_STR_STR ∧ b.id ≠ .STRTOTIME_STR) ∧
    ∃ name ps ret, b.ty = .fn name ps ret ∧
    ∃ σ : Subst, σ.Ground ∧ wfList (substGList σ ps) = true ∧
      slotFreeList (substGList σ ps) = true ∧ ∃ vs, HasTyList vs (substGList σ ps) :=
  ⟨⟨.LEN_STR, .fn "len" (.cons .str .nil) .num, false⟩, List.mem_of_getElem? (i := 27) rfl, rfl,
    by decide, _, _, _, rfl, [], Subst.ground_nil, by decide, by decide, [.str "abc"],
    by simp only [substGList, substG, HasTyList]; decide⟩

/-- At the level of evaluation: a (statically dispatched) call of a total strict built-in — in
particular `get` with a default — in an annotated tree never fails once its arguments have been
evaluated: it yields a value of the type of the call. -/
theorem total_call {Γ : TEnv} {ρ : REnv} (hf : FunsOK Γ.funs) (henv : EnvOK Γ ρ)
    {p : Pos} {col : Int} {callee : Expr} {args : ExprList} {cty : Option Ty}
    {resolved : String} {index : Int} {T : Ty}
    (hA : Ann Γ (.call p col callee args cty resolved index) T)
    (hne : (resolved == "") = false)
    {d : FunDecl} (hres : resolveStatic Γ.funs resolved index = some d)
    {i : Nat} {b : BuiltinDecl} (hd : d.ref = .builtin i) (hb : builtins[i]? = some b)
    (hstrict : b.isLazy = false)
    (hid : b.id ≠ .MOD_NUM_NUM ∧ b.id ≠ .MATCH_STR_STR ∧ b.id ≠ .STRTOTIME_STR)
    {fuel : Nat} {dbg : Bool} {log log1 : List Event} {vs : ValList}
    (hargs : evalList fuel dbg ρ args log = (.ok vs, log1)) :
    ∃ v log', eval (fuel+1) dbg ρ (.call p col callee args cty resolved index) log =
      (.ok v, log') ∧ HasTy v T := by
  have hvars : VarsOK Γ := henv.tys
  cases hA with
  | @callStatic _ _ _ _ _ _ _ As d' n ps ret _ hargsA _ hres' hty hinst =>
    rw [hres] at hres'; cases hres'
    obtain ⟨σ, -, hse, rfl, -, -⟩ := hinst
    obtain ⟨b', hb', hty', hlz⟩ := declOK_builtin (hf d (resolveStatic_mem hres)) hd
    rw [hb] at hb'; cases hb'
    rw [hty] at hty'
    obtain ⟨hAw, hPw, hPs⟩ := params_wf hvars hargsA hse
    have hvs := evalArgs_ok (evalOK (dbg := dbg) hf henv fuel) args As hargsA log
    rw [hargs] at hvs
    have hvs' : HasTyList vs.toList (substGList σ ps) := HasTyList.convS hvs hse hAw
    obtain ⟨v, evs, happ, hv⟩ := builtin_total_typed ρ.ext b (List.mem_of_getElem? hb) hstrict
      hty' σ hPw hPs vs.toList hvs' hid
    have hdl : d.isLazy = false := by rw [← hlz, hstrict]
    rw [C06.strict_order_builtin _ _ _ _ _ _ _ _ _ _ _ _ _ _ (by simpa using hne)
      (henv.funs ▸ hres) hd hdl hb, hargs, seq_ok, happ, seq_ok, recDbg_apply]
    exact ⟨v, _, rfl, hv⟩
  | callDyn _ _ _ => exact absurd hne (by decide)

/-- non-vacuity: `get(["x"], 7, "d")`, statically dispatched to `builtins[15]` -/
example : FunsOK Example.Γ.funs ∧ EnvOK Example.Γ Example.ρ ∧
    Ann Example.Γ Example.getProg' .str ∧
    resolveStatic Example.Γ.funs "∀.λ get 3" 0 = some Example.getDecl ∧
    Example.getDecl.ref = .builtin 15 ∧
    builtins[15]? = some ⟨.GET_LIST_NUM_ANY, Example.getDecl.ty, false⟩ ∧
    ∃ vs log1, evalList 2 false Example.ρ
      (.cons (.list Example.p0 (.cons (.str Example.p0 "x") .nil) (some (.list .str)))
        (.cons (.num Example.p0 7) (.cons (.str Example.p0 "d") .nil))) [] = (.ok vs, log1) :=
  ⟨Example.funsOK, Example.envOK, Example.getAnn, Example.getResolved, rfl, rfl, _, _,
    Example.getArgs⟩

/-- The only failures of the three built-ins `total` excludes (`%`, `match`, `strtotime`) are the
documented ones, or an externs miss.  `hσ` is not used: it is kept so that the hypotheses are
those of `total`. -/
theorem fail_exact (ext : Externs) (b : BuiltinDecl) (hb : b ∈ builtins)
    (hstrict : b.isLazy = false)
    {name : String} {ps : TyList} {ret : Ty} (hty : b.ty = .fn name ps ret)
    (σ : Subst) (hσ : σ.Ground)
    (hw : wfList (substGList σ ps) = true) (hs : slotFreeList (substGList σ ps) = true)
    (vs : List Val) (hvs : HasTyList vs (substGList σ ps)) (f : Fail)
    (h : (applyBuiltin ext b.id vs) = .error f) :
    (b.id = .MOD_NUM_NUM ∧ f = .modZero) ∨
    (b.id = .MATCH_STR_STR ∧ (f = .badRegex ∨ f = .stuck "extern-miss:regex")) ∨
    (b.id = .STRTOTIME_STR ∧ f = .stuck "extern-miss:strtotime") := by
  have _ := hσ
  rcases builtin_outcome ext b hb hstrict hty σ hw hs vs hvs with
    ⟨v, evs, h', hv⟩ | ⟨hid, h'⟩ | ⟨hid, h' | h'⟩ | ⟨hid, h'⟩
  · rw [h'] at h; cases h
  · rw [h'] at h; cases h; exact .inl ⟨hid, rfl⟩
  · rw [h'] at h; cases h; exact .inr (.inl ⟨hid, .inl rfl⟩)
  · rw [h'] at h; cases h; exact .inr (.inl ⟨hid, .inr rfl⟩)
  · rw [h'] at h; cases h; exact .inr (.inr ⟨hid, rfl⟩)

example : ∃ b ∈ builtins, b.isLazy = false ∧ ∃ name ps ret, b.ty = .fn name ps ret ∧
    ∃ σ : Subst, σ.Ground ∧ wfList (substGList σ ps) = true ∧
      slotFreeList (substGList σ ps) = true ∧ ∃ vs, HasTyList vs (substGList σ ps) ∧
      ∃ ext f, applyBuiltin ext b.id vs = .error f :=
  ⟨⟨.MOD_NUM_NUM, .fn "%" (.cons .num (.cons .num .nil)) .num, false⟩,
    List.mem_of_getElem? (i := 40) rfl, rfl, _, _, _, rfl, [], Subst.ground_nil, by decide,
    by decide, [.num 1, .num (Float.ofBits 0)],
    by simp only [substGList, substG, HasTyList]; decide, {}, .modZero, by
      rw [applyBuiltin_MOD]
      have : Num.toInt64 (Float.ofBits 0) = 0 := by decide
      rw [if_pos this]⟩

/-! ## The partial operations (subscripts, `%`, `match`) fail exactly when they are undefined -/

/-- list subscript: `indexOutOfRange` exactly when the (truncated) index is negative or not less
than the length; otherwise the element at that index -/
theorem exact_index {fuel : Nat} {dbg : Bool} {ρ : REnv} {p : Pos} {col : Int}
    {var idx : Expr} {vty : Option Ty} {log log1 log2 : List Event} {ty : Ty} {vs : ValList}
    {f : Float}
    (hvar : eval fuel dbg ρ var log = (.ok (.list ty vs), log1))
    (hidx : eval fuel dbg ρ idx log1 = (.ok (.num f), log2)) :
    ((eval (fuel+1) dbg ρ (.subscript p col var idx vty) log).1 = .error .indexOutOfRange ↔
      (Num.toInt f < 0 ∨ Num.toInt f ≥ vs.length)) ∧
    (¬ (Num.toInt f < 0 ∨ Num.toInt f ≥ vs.length) →
      ∃ v, vs.get? (Num.toInt f).toNat = some v ∧
        (eval (fuel+1) dbg ρ (.subscript p col var idx vty) log).1 = .ok v) := by
  rw [eval_subscript_list hvar hidx]
  have hin : ¬ (Num.toInt f < 0 ∨ Num.toInt f ≥ vs.length) →
      ∃ v, vs.get? (Num.toInt f).toNat = some v := fun hc =>
    ValList.get?_lt vs _ (by omega)
  refine ⟨⟨fun h => ?_, fun h => by rw [if_pos h]⟩, fun hc => ?_⟩
  · apply Classical.byContradiction
    intro hc
    obtain ⟨v, hv⟩ := hin hc
    rw [if_neg hc, hv] at h
    cases h
  · obtain ⟨v, hv⟩ := hin hc
    exact ⟨v, hv, by rw [if_neg hc, hv]⟩

/-- non-vacuity: literal list `[5]` subscripted by the literal `0` (the hypotheses are
evaluations of the two sub-expressions) -/
example : ∃ (var idx : Expr) (ty : Ty) (vs : ValList) (f : Float) (log1 log2 : List Event),
    eval 2 false Example.ρ var [] = (.ok (.list ty vs), log1) ∧
    eval 2 false Example.ρ idx log1 = (.ok (.num f), log2) :=
  ⟨.list Example.p0 (.cons (.num Example.p0 5) .nil) (some (.list .num)), .num Example.p0 0,
    .list .num, .cons (.num 5) .nil, 0, [], [], by simp only [eval, evalList]; rfl,
    by simp only [eval]; rfl⟩

/-- map subscript: `missingKey` exactly when the key is absent; otherwise the entry -/
theorem exact_key {fuel : Nat} {dbg : Bool} {ρ : REnv} {p : Pos} {col : Int}
    {var idx : Expr} {vty : Option Ty} {log log1 log2 : List Event} {ty : Ty} {es : EntryList}
    {k : Val} {t : Kind} {ks : String}
    (hvar : eval fuel dbg ρ var log = (.ok (.map ty es), log1))
    (hidx : eval fuel dbg ρ idx log1 = (.ok k, log2)) (hk : k.key? = some (t, ks)) :
    ((eval (fuel+1) dbg ρ (.subscript p col var idx vty) log).1 = .error .missingKey ↔
      es.find? t ks = none) ∧
    (∀ v, es.find? t ks = some v →
      (eval (fuel+1) dbg ρ (.subscript p col var idx vty) log).1 = .ok v) := by
  rw [eval_subscript_map hvar hidx hk]
  cases hg : es.find? t ks with
  | none => simp
  | some v => simp

example : ∃ (var idx : Expr) (ty : Ty) (es : EntryList) (k : Val) (t : Kind) (ks : String)
    (log1 log2 : List Event),
    eval 2 false Example.ρ var [] = (.ok (.map ty es), log1) ∧
    eval 2 false Example.ρ idx log1 = (.ok k, log2) ∧ k.key? = some (t, ks) :=
  ⟨.map Example.p0 .nil none, .bool Example.p0 true, .map .bot .bot, .nil, .bool true, .bool,
    "true", [], [], by simp only [eval]; rfl, by simp only [eval]; rfl, rfl⟩

/-- `%`: `modZero` exactly when the divisor converts to the integer 0 -/
theorem exact_mod (ext : Externs) (x y : Float) :
    applyBuiltin ext .MOD_NUM_NUM [.num x, .num y] = .error .modZero ↔ Num.toInt64 y = 0 := by
  rw [applyBuiltin_MOD]
  by_cases hd : Num.toInt64 y = 0 <;> simp [hd]

/-- `match`: `badRegex` exactly when the pattern is invalid (as `regexp.MatchString` reports,
recorded in the externs table) -/
theorem exact_regex (ext : Externs) (p s : String) :
    applyBuiltin ext .MATCH_STR_STR [.str p, .str s] = .error .badRegex ↔
      ext.regex? p s = some none := by
  rw [applyBuiltin_MATCH]
  cases h : ext.regex? p s with
  | none => simp
  | some r => cases r <;> simp

end Yae.C02

#print axioms Yae.C02.allowed_iff
#print axioms Yae.C02.progress
#print axioms Yae.C02.no_internal_fault
#print axioms Yae.C02.progress_run
#print axioms Yae.C02.total_get
#print axioms Yae.C02.total
#print axioms Yae.C02.total_call
#print axioms Yae.C02.fail_exact
#print axioms Yae.C02.exact_index
#print axioms Yae.C02.exact_key
#print axioms Yae.C02.exact_mod
#print axioms Yae.C02.exact_regex
