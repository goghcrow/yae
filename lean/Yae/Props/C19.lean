/-
  C19. "Evaluating an expression in debug (power-assert) mode returns the same value or failure
  as normal evaluation, and the recorded intermediate values are exactly the values of the
  variable, call, member and subscript sub-expressions that were actually evaluated, in
  evaluation order, each attributed to the column of its own term. Rendering the report never
  fails, keeps the source as its first line and shows every recorded value."

  Model: `Yae.eval fuel dbg ρ e` (`Yae/Model/Eval.lean`; `dbg = true` is `closure.DebugCompile`:
  every ident / call / subscript / member closure is wrapped by `wrapForDebug`, which calls
  `Record.Rec(v, col)` after the wrapped closure returned), `Event.dbg v col` is that call of
  `Rec`; `Yae.Debug.recordOf` replays the `dbg` events through `Yae.Debug.rec` (`Record.Rec`) and
  `Yae.Debug.render` is `newRender(src, rec).render()`.  The log is kept most recent event first.
  Proofs: `Yae.Proofs.DebugEval`, `Yae.Proofs.EvalWalk` (the induction over `eval`).

  What is proved, and how it reads the property:
  * "same value or failure": `same_result`, `same_run` — for EVERY expression, environment and
    fuel; moreover the host calls and prints are the same, in the same order.
  * "exactly the values of the variable, call, member and subscript sub-expressions that were
    actually evaluated, in evaluation order, each attributed to the column of its own term":
    `recorded_node` is the equation of one evaluation step of a recorded node — first its own
    sub-evaluations and operation (`body`), and then, only when that succeeded, ONE entry with the
    node's value and the node's column; `record_on_success`, `no_record_on_failure` are its two
    readings.  Literals and container literals add no entry of their own (`literal_records_nothing`,
    `list_records_nothing` …), and an operand that is not evaluated contributes nothing because it
    does not occur in the equation of that step (`if_records_only_taken`, from C06).  Since the
    log is threaded through the sub-evaluations in evaluation order, the `dbg` events appear in the
    order in which the evaluations of recorded nodes COMPLETE.
  * from events to the record (`Record.Rec`): `rec_free`, `rec_first_free`, `rec_distinct_cols`,
    `recordOf_faithful_partial` — when the recorded columns are pairwise distinct (each recorded
    node evaluated at most once, distinct nodes at distinct columns) the record is exactly the
    sequence of events.  It is NOT so in general: **finding D27** — `Rec` moves an entry whose column
    is already taken to the next free column, so when a lazy host function forces the same thunk
    twice the second evaluation's entries are attributed to the wrong column (`d27_eval`,
    `d27_record`, kernel-checked).
  * "rendering never fails": `Yae.Debug.render` is a total function (no `Option`/`Except`, no
    fuel that can run out: the only fuel, in `recAux`, is shown sufficient by `rec_first_free`);
    there is nothing to state.
  * "keeps the source as its first line": `render_firstline` (string level) and
    `render_first_line` — the report split at its line breaks (`linesOf`: split at every `'\n'`;
    nothing is lost, `render_lines_join`) has the source as its first line (for a `src` without
    `'\n'`, which `newRender` asserts).
  * "shows every recorded value": `render_shows` — when the columns of the record are pairwise
    distinct (which `recordOf_distinct_cols` guarantees for the record of every run:
    `recordOf_shown`), every entry with a column `≥ 1` whose text has no line break stands, whole
    and on ONE line of the report (so no line break is introduced inside it; moreover
    `render_no_break`: no line below the source contains `'\n'` or `'\r'` at all), below the source
    line and the `|` line, starting at its (1-based, rune) column.  `render_shows_lines` is the
    same for every text: its pieces (as split by `splitLines` at `\r\n`, `\r`, `\n`) stand on
    consecutive lines, each starting at the column.  Without the distinctness hypothesis:
    `render_shows_last` — of the entries of one column the LAST recorded one is shown; and the
    others are exactly the ones `renderValues` skips: `render_hidden` — an entry with column `< 1`
    (`Pos.unknown`) or with a later entry of the same column has no influence on the report at all
    (`hidden_duplicate`, `hidden_unknown`: kernel-checked instances).  So the property's
    "shows every recorded value" holds for every entry of a real record with a known column; no
    counterexample exists (the odd `startCols[j] = startCol + 1` after a `|`, and `startCols[1] = 0`
    for the `|` line, are harmless: a later entry has a smaller column, and writes its text on a
    line only when it ends strictly left of that line's `start`, which is never right of any text
    already there; proofs: `Yae.Proofs.DebugRender`, `DebugRenderReport`).
    NOT proved: that nothing ELSE is on the value lines (e.g. that the cells between the values
    are blanks or `|`), and that the `|` above a value is at the value's column on every line
    between the source and the value.
-/
import Yae.Proofs.DebugEval
import Yae.Proofs.EvalWalk
import Yae.Proofs.DebugRenderReport
import Yae.Props.C06
namespace Yae.C19
open Yae Yae.DebugEval Yae.Debug Yae.DebugRender

/-- Debug mode only ADDS debug entries: from corresponding logs, the debug run and the plain run
return the same value or the same failure, and the plain log is the debug log without its `dbg`
entries (same host-function calls, same prints, same order). -/
theorem same_result (fuel : Nat) (ρ : REnv) (e : Expr) (log : List Event) :
    (eval fuel true ρ e log).1 = (eval fuel false ρ e (stripDbg log)).1 ∧
    stripDbg (eval fuel true ρ e log).2 = (eval fuel false ρ e (stripDbg log)).2 :=
  -- `Walk` (`Proofs/EvalWalk`) with `L` = "equal after `stripDbg`", debug on against debug off, the
  -- same environment and no side conditions.
  have keep : PrintOK fun l₁ l₂ => stripDbg l₁ = l₂ := fun _ _ _ h => congrArg _ h
  have W : Walk (fun l₁ l₂ => stripDbg l₁ = l₂) (fun _ => True) true false ρ ρ (fun _ => True)
      (fun _ _ => True) True :=
    { val := .top, ext := rfl, call := fun _ _ _ _ h => congrArg _ h, dbg := fun _ _ _ _ h => h,
      var := fun _ _ => ⟨rfl, fun _ _ => trivial⟩, fn := fun _ _ _ => ⟨rfl, fun _ _ => .inl keep⟩,
      dyn := fun _ _ _ _ _ => .inl keep }
  have h := W.eval fuel e (EngineEval.All.top e) log _ rfl
  ⟨h.1, h.2.1⟩

/-- for a whole run (`runEval`: from the empty log, events oldest first) -/
theorem same_run (ρ : REnv) (e : Expr) :
    (runEval true ρ e).1 = (runEval false ρ e).1 ∧
    stripDbg (runEval true ρ e).2 = (runEval false ρ e).2 := by
  have h := same_result (e.depth + 1) ρ e []
  rw [stripDbg_nil] at h
  unfold runEval
  refine ⟨h.1, ?_⟩
  show stripDbg (eval (e.depth + 1) true ρ e []).2.reverse = (eval (e.depth + 1) false ρ e []).2.reverse
  rw [← h.2]
  simp [stripDbg, List.filter_reverse]

/-- One evaluation step of a recorded node (`recCol e = some c`: variable, call, subscript,
member): its body — its own sub-evaluations, in order, then its own operation — and then, only if
the body succeeded, exactly one entry: the node's value under the node's own column. -/
theorem recorded_node (f : Nat) (ρ : REnv) (e : Expr) (c : Int) (hc : recCol e = some c)
    (log : List Event) :
    eval (f+1) true ρ e log =
      seq (body f true ρ e log) fun v l => (.ok v, Event.dbg v (c + 1) :: l) := by
  show _ = seq (body f true ρ e log) fun v l => recDbg true v c l
  cases e <;> simp only [recCol, Option.some.injEq, reduceCtorEq] at hc
  case ident p name =>
    subst hc
    rw [eval_ident']
    simp only [body]
    cases ρ.lookupVar name <;> rfl
  case call p col callee args cty resolved index =>
    subst hc
    rw [eval, EvalM.bind_apply]
    rfl
  case subscript p col var idx vty =>
    subst hc
    rw [C06.subscript_order]
    simp only [body]
    rcases eval f true ρ var log with ⟨r, l⟩
    cases r <;> rfl
  case member p col obj field fp oty index =>
    subst hc
    rw [eval, EvalM.bind_apply]
    simp only [body]
    rw [EvalM.bind_apply]
    rcases eval f true ρ obj log with ⟨r, l⟩
    cases r with
    | error x => rfl
    | ok o => simp only [seq_ok]; rw [EvalM.bind_apply]; rfl

example : recCol (.ident ⟨0, 1, 7, 1⟩ "x") = some 7 := rfl
example : recCol (.call Pos.unknown 3 (.ident Pos.unknown "f") .nil none "" (-1)) = some 3 := rfl
example : recCol (.subscript Pos.unknown 5 (.ident Pos.unknown "m") (.str Pos.unknown "k") none)
    = some 5 := rfl
example : recCol (.member Pos.unknown 9 (.ident Pos.unknown "o") "a" Pos.unknown none 0) = some 9 :=
  rfl

/-- a recorded node that evaluates to `v`: the LAST event is its own entry `(v, column)`, and
everything before it is the log of its body -/
theorem record_on_success {f : Nat} {ρ : REnv} {e : Expr} {c : Int} (hc : recCol e = some c)
    {log l : List Event} {v : Val} (h : eval (f+1) true ρ e log = (.ok v, l)) :
    ∃ l', body f true ρ e log = (.ok v, l') ∧ l = Event.dbg v (c + 1) :: l' := by
  rw [recorded_node f ρ e c hc log] at h
  exact seq_dbg_ok h

/-- a recorded node whose evaluation fails records nothing for itself -/
theorem no_record_on_failure {f : Nat} {ρ : REnv} {e : Expr} {c : Int} (hc : recCol e = some c)
    {log l : List Event} {x : Fail} (h : eval (f+1) true ρ e log = (.error x, l)) :
    body f true ρ e log = (.error x, l) := by
  rw [recorded_node f ρ e c hc log] at h
  exact seq_dbg_error h

/-- a variable: found — one entry, its value at its column; not found — failure, no entry -/
theorem record_ident (f : Nat) (ρ : REnv) (p : Pos) (name : String) (log : List Event) :
    eval (f+1) true ρ (.ident p name) log =
      match ρ.lookupVar name with
      | some v => (.ok v, Event.dbg v (p.col + 1) :: log)
      | none => (.error (.stuck "missing-var"), log) := by
  rw [eval_ident']
  cases ρ.lookupVar name <;> simp [recDbg_apply]

/-- the four literal kinds record nothing -/
theorem literal_records_nothing (f : Nat) (ρ : REnv) (e : Expr) (log : List Event)
    (h : match e with | .str .. | .num .. | .time .. | .bool .. => True | _ => False) :
    (eval (f+1) true ρ e log).2 = log := by
  cases e <;> simp only at h <;> simp only [eval] <;> rfl

example : (match Expr.str Pos.unknown "s" with
    | .str .. | .num .. | .time .. | .bool .. => True | _ => False) := trivial

/-- a list literal records nothing of its own: its log is the log of its elements -/
theorem list_records_nothing (f : Nat) (ρ : REnv) (p : Pos) (a : Expr) (as : ExprList)
    (ty : Option Ty) (log : List Event) :
    (eval (f+1) true ρ (.list p (.cons a as) ty) log).2 =
      (evalList f true ρ (.cons a as) log).2 := by
  rw [C06.list_order]
  rcases evalList f true ρ (.cons a as) log with ⟨r, l⟩
  cases r <;> cases ty <;> rfl

/-- a map literal records nothing of its own: its log is the log of its entries -/
theorem map_records_nothing (f : Nat) (ρ : REnv) (p : Pos) (k v : Expr) (ps : PairList)
    (t : Ty) (log : List Event) :
    (eval (f+1) true ρ (.map p (.cons k v ps) (some t)) log).2 =
      (evalPairs f true ρ (.cons k v ps) .nil log).2 := by
  rw [C06.map_order]
  rcases evalPairs f true ρ (.cons k v ps) .nil log with ⟨r, l⟩
  cases r <;> rfl

/-- an object literal records nothing of its own: its log is the log of its field values -/
theorem obj_records_nothing (f : Nat) (ρ : REnv) (p : Pos) (n : String) (a : Expr)
    (fs : FieldEList) (ty : Option Ty) (log : List Event) :
    (eval (f+1) true ρ (.obj p (.cons n a fs) ty) log).2 =
      (evalFields f true ρ (.cons n a fs) log).2 := by
  rw [C06.obj_order]
  rcases evalFields f true ρ (.cons n a fs) log with ⟨r, l⟩
  cases r <;> cases ty <;> rfl

/-- operands are recorded left to right: first everything the first operand records, then the
rest (the log is threaded); `C06.operands_in_order` at `dbg := true` -/
theorem operands_in_order (f : Nat) (ρ : REnv) (a : Expr) (as : ExprList) (log : List Event) :
    evalList f true ρ (.cons a as) log =
      seq (eval f true ρ a log) fun v l1 =>
      seq (evalList f true ρ as l1) fun vs l2 => (.ok (.cons v vs), l2) :=
  C06.operands_in_order f true ρ a as log

/-- the branch of `if` that is not taken is not evaluated, so nothing of it is recorded: with the
condition `true` the step is the taken branch `t` followed by the entry of the `if` itself; `e`
does not occur (`Yae.C06.if_true`; likewise `if_false`, `and_lazy`, `or_lazy` there) -/
theorem if_records_only_taken (f : Nat) (ρ : REnv) (p : Pos) (col : Int) (callee c t e : Expr)
    (cty : Option Ty) (resolved : String) (index : Int) (d : FunDecl) (idx : Nat)
    (b : BuiltinDecl) (log l1 : List Event)
    (hres : resolved ≠ "") (hd : resolveStatic ρ.funs resolved index = some d)
    (href : d.ref = .builtin idx) (hlazy : d.isLazy = true)
    (hb : builtins[idx]? = some b) (hid : b.id = .IF_BOOL_ANY_ANY)
    (hc : eval f true ρ c log = (.ok (.bool true), l1)) :
    eval (f+1) true ρ (.call p col callee (.cons c (.cons t (.cons e .nil))) cty resolved index) log =
      seq (eval f true ρ t l1) fun v l => (.ok v, Event.dbg v (col + 1) :: l) := by
  rw [Yae.C06.if_true f true ρ p col callee c t e cty resolved index d idx b log l1 hres hd href
    hlazy hb hid hc]
  congr 1

/-- non-vacuity: as for `Yae.C06.if_true` (the built-in table resolves `if`/3 to the lazy
built-in) with a condition evaluating to `true` -/
example : eval 1 true ⟨[], builtinFuns, {}⟩ (.bool Pos.unknown true) [] = (.ok (.bool true), []) := by
  rw [eval]; rfl

/-- the entry lands at its own column when that column is free -/
theorem rec_free (r : Record) (v : Val) (col : Int) (h : r.hasCol col = false) :
    Debug.rec r v col = r ++ [⟨v.render, col⟩] :=
  recText_free r v.render col h

example : Record.hasCol [⟨"1", 3⟩] 5 = false := by decide +kernel

/-- in general: the entry is appended (earlier entries are untouched) at the FIRST free column
at or to the right of its own — such a column is always found (the fuel of `recAux` suffices) -/
theorem rec_first_free (r : Record) (v : Val) (col : Int) :
    ∃ k : Nat, Debug.rec r v col = r ++ [⟨v.render, col + k⟩] ∧
      (∀ i : Nat, i < k → r.hasCol (col + i) = true) ∧ r.hasCol (col + k) = false :=
  recText_spec r v.render col

/-- the own column is taken: the entry is attributed to a column further right (D27) -/
theorem rec_shifted (r : Record) (v : Val) (col : Int) (h : r.hasCol col = true) :
    ∃ k : Nat, 0 < k ∧ Debug.rec r v col = r ++ [⟨v.render, col + k⟩] :=
  recText_taken r v.render col h

example : Record.hasCol [⟨"1", 3⟩] 3 = true := by decide +kernel

/-- recorded columns stay pairwise distinct -/
theorem rec_distinct_cols (r : Record) (v : Val) (col : Int) (h : (r.map (·.col)).Nodup) :
    ((Debug.rec r v col).map (·.col)).Nodup :=
  recText_nodup r v.render col h

example : (([⟨"1", 3⟩, ⟨"2", 4⟩] : Record).map (·.col)).Nodup := by decide +kernel

/-- the record of a run never has two entries under one column, and has one entry per event -/
theorem recordOf_distinct_cols (evs : List Event) :
    ((recordOf evs).map (·.col)).Nodup ∧ (recordOf evs).length = (entriesOf evs).length := by
  rw [recordOf_eq_foldl]
  refine ⟨foldl_recEntry_nodup _ [] (by simp [cols]), ?_⟩
  rw [foldl_recEntry_length]; simp

/-- **faithful record, partial**: when the columns of the debug events are pairwise distinct, the
record is exactly the sequence of `(rendered value, column)` of the events, in order.

The full statement — `recordOf evs = entriesOf evs` for the events of every run — is FALSE
(`d27_record` below). -/
theorem recordOf_faithful_partial (evs : List Event)
    (h : ((entriesOf evs).map (·.col)).Nodup) : recordOf evs = entriesOf evs := by
  rw [recordOf_eq_foldl, foldl_recEntry_faithful _ [] (by simpa [cols] using h)]
  rfl

example : ((entriesOf [.dbg (.bool true) 2, .call "f" [], .dbg (.bool false) 5]).map (·.col)).Nodup := by
  decide +kernel

/-- `lz2(x)` with `x` at column 4 (0-based; recorded under 5), the call at column 3, `lz2` a lazy
host function that forces its argument twice -/
def d27Env : REnv :=
  ⟨[("x", .bool true),
    ("lz2", .fn (.fn "lz2" (.cons .bool .nil) .bool) (.host "lz2" (.force [0, 0])) true)], [], {}⟩
def d27Expr : Expr :=
  .call ⟨0, 2, 1, 1⟩ 3 (.ident ⟨0, 2, 1, 1⟩ "lz2") (.cons (.ident ⟨3, 4, 4, 1⟩ "x") .nil) none "" (-1)

/-- the debug run: `x` is evaluated twice and both evaluations are reported under column 5 -/
theorem d27_eval : eval 3 true d27Env d27Expr [] =
    (.ok (.bool true),
     [.dbg (.bool true) 4, .dbg (.bool true) 5, .dbg (.bool true) 5, .call "lz2" [],
      .dbg (.fn (.fn "lz2" (.cons .bool .nil) .bool) (.host "lz2" (.force [0, 0])) true) 2]) := by
  unfold d27Expr
  rw [C06.dynamic_call_order, eval_ident']
  have h1 : d27Env.lookupVar "lz2" =
    some (.fn (.fn "lz2" (.cons .bool .nil) .bool) (.host "lz2" (.force [0, 0])) true) := rfl
  have hx : d27Env.lookupVar "x" = some (.bool true) := rfl
  simp only [h1, recDbg_apply, seq_ok, if_true]
  rw [C06.lazy_host, C06.lazy_host_step _ _ _ _ _ _ _ _ rfl, eval_ident']
  simp only [hx, recDbg_apply, seq_ok, if_true]
  rw [C06.lazy_host_step _ _ _ _ _ _ _ _ rfl, eval_ident']
  simp only [hx, recDbg_apply, seq_ok, if_true]
  rw [forceSeq]
  rfl

/-- D27: of the two events at column 5 in `d27_eval`, the record (`recordOf`) attributes the second
to column 6, where no term is. -/
theorem d27_record :
    recordOf [.dbg (.bool true) 5, .dbg (.bool true) 5] = [⟨"true", 5⟩, ⟨"true", 6⟩] ∧
    entriesOf [.dbg (.bool true) 5, .dbg (.bool true) 5] = [⟨"true", 5⟩, ⟨"true", 5⟩] := by
  decide +kernel

/-- the report starts with the source text, and whatever follows starts on a new line: the
source is the first line (for a `src` without line break, as `render` assumes) -/
theorem render_firstline (src : String) (r : Record) :
    ∃ rest, render src r = src ++ rest ∧ (rest = "" ∨ ∃ rest', rest = "\n" ++ rest') :=
  DebugEval.render_firstline src r

/-! ### the lines of the report

`linesOf s` (`Yae.DebugRender.linesOf`) is `s` split at every `'\n'`. -/

example : linesOf "ab\n\ncd" = [['a', 'b'], [], ['c', 'd']] := by decide +kernel

/-- splitting the report into its lines loses nothing: joined by `"\n"` they are the report -/
theorem render_lines_join (src : String) (r : Record) (hsrc : ∀ x ∈ src.toList, x ≠ '\n') :
    "\n".intercalate ((linesOf (render src r)).map String.ofList) = render src r := by
  rw [linesOf_render src r hsrc, List.map_cons, String.ofList_toList, List.map_map]
  rfl

/-- `render_firstline` in terms of `linesOf`: the first of the lines of the report is the source -/
theorem render_first_line (src : String) (r : Record) (hsrc : ∀ x ∈ src.toList, x ≠ '\n') :
    (linesOf (render src r))[0]? = some src.toList := by
  rw [linesOf_render src r hsrc]; rfl

/-- below the source line no line of the report contains a line break character (`'\n'`, `'\r'`):
`render` breaks a value only where the value's own text has a line break -/
theorem render_no_break (src : String) (r : Record) (hsrc : ∀ x ∈ src.toList, x ≠ '\n') :
    ∀ line ∈ (linesOf (render src r)).tail, ∀ x ∈ line, x ≠ '\n' ∧ x ≠ '\r' := by
  rw [linesOf_render src r hsrc, List.tail_cons]
  exact List.forall_mem_map.2 (valueLines_clean r)

/-- **shows every recorded value** (columns pairwise distinct, text without line break): the
report has a line — below the source line and the `|` line — that carries the whole text of the
entry, starting at the entry's column (1-based, counted in characters).  In particular the text
is on ONE line: no line break is introduced inside it. -/
theorem render_shows (src : String) (r : Record) (hsrc : ∀ x ∈ src.toList, x ≠ '\n')
    (hd : (r.map (·.col)).Nodup) (e : Entry) (he : e ∈ r) (hc : 1 ≤ e.col)
    (hone : ∀ x ∈ e.text.toList, x ≠ '\n' ∧ x ≠ '\r') :
    ∃ i line, 2 ≤ i ∧ (linesOf (render src r))[i]? = some line ∧
      (line.drop (e.col.toNat - 1)).take e.text.length = e.text.toList := by
  have h := DebugRender.render_shows_lines src r hsrc hd e he hc
  have hsp : splitLines e.text.toList [] = [e.text.toList] := splitLines_of_noBreak _ _ hone
  rw [hsp] at h
  obtain ⟨i, hi, h⟩ := h
  obtain ⟨line, h1, h2⟩ := h 0 Nat.zero_lt_one
  rw [List.getElem_cons_zero, String.length_toList] at h2
  exact ⟨i, line, hi, h1, h2⟩

/-- `render_shows` for every text: its pieces — the text split at `\r\n`, `\r`, `\n` (`splitLines`)
— stand on consecutive lines of the report, each starting at the entry's column -/
theorem render_shows_lines (src : String) (r : Record) (hsrc : ∀ x ∈ src.toList, x ≠ '\n')
    (hd : (r.map (·.col)).Nodup) (e : Entry) (he : e ∈ r) (hc : 1 ≤ e.col) :
    ∃ i, 2 ≤ i ∧ ∀ k (hk : k < (splitLines e.text.toList []).length), ∃ line,
      (linesOf (render src r))[i + k]? = some line ∧
      (line.drop (e.col.toNat - 1)).take ((splitLines e.text.toList [])[k]).length =
        (splitLines e.text.toList [])[k] :=
  DebugRender.render_shows_lines src r hsrc hd e he hc

/-- `render_shows_lines` for every record: of the entries of one column `≥ 1`, the one recorded LAST
is shown. -/
theorem render_shows_last (src : String) (r1 : Record) (e : Entry) (r2 : Record)
    (hsrc : ∀ x ∈ src.toList, x ≠ '\n') (hc : 1 ≤ e.col) (hne : ∀ y ∈ r2, y.col ≠ e.col) :
    ∃ i, 2 ≤ i ∧ ∀ k (hk : k < (splitLines e.text.toList []).length), ∃ line,
      (linesOf (render src (r1 ++ e :: r2)))[i + k]? = some line ∧
      (line.drop (e.col.toNat - 1)).take ((splitLines e.text.toList [])[k]).length =
        (splitLines e.text.toList [])[k] :=
  DebugRender.render_shows_last src r1 e r2 hsrc hc hne

/-- The entries `render_shows_last` does not cover — unknown column (`< 1`), or a later entry of the
record has the same column — are the ones `renderValues` skips: they have no influence on the
report -/
theorem render_hidden (src : String) (r1 : Record) (e : Entry) (r2 : Record)
    (h : e.col < 1 ∨ ∃ y ∈ r2, y.col = e.col) :
    render src (r1 ++ e :: r2) = render src (r1 ++ r2) :=
  DebugRender.render_hidden src r1 e r2 h

/-- the record of a run (`recordOf`, columns pairwise distinct by `recordOf_distinct_cols`):
every entry with a known column and a text without line break is shown at its column -/
theorem recordOf_shown (src : String) (evs : List Event) (hsrc : ∀ x ∈ src.toList, x ≠ '\n')
    (e : Entry) (he : e ∈ recordOf evs) (hc : 1 ≤ e.col)
    (hone : ∀ x ∈ e.text.toList, x ≠ '\n' ∧ x ≠ '\r') :
    ∃ i line, 2 ≤ i ∧ (linesOf (render src (recordOf evs)))[i]? = some line ∧
      (line.drop (e.col.toNat - 1)).take e.text.length = e.text.toList :=
  render_shows src (recordOf evs) hsrc (recordOf_distinct_cols evs).1 e he hc hone

theorem recordOf_shown_lines (src : String) (evs : List Event) (hsrc : ∀ x ∈ src.toList, x ≠ '\n')
    (e : Entry) (he : e ∈ recordOf evs) (hc : 1 ≤ e.col) :
    ∃ i, 2 ≤ i ∧ ∀ k (hk : k < (splitLines e.text.toList []).length), ∃ line,
      (linesOf (render src (recordOf evs)))[i + k]? = some line ∧
      (line.drop (e.col.toNat - 1)).take ((splitLines e.text.toList [])[k]).length =
        (splitLines e.text.toList [])[k] :=
  render_shows_lines src (recordOf evs) hsrc (recordOf_distinct_cols evs).1 e he hc

/-! non-vacuity: `a + b` with `a = 1` (column 1) and `b = 2` (column 5) -/

example : render "a + b" [⟨"1", 1⟩, ⟨"2", 5⟩] = "a + b\n|   |\n1   2" := by decide +kernel

example : linesOf (render "a + b" [⟨"1", 1⟩, ⟨"2", 5⟩]) =
    ["a + b".toList, "|   |".toList, "1   2".toList] := by decide +kernel

/-- the hypotheses of `render_shows` hold for both entries of that record -/
example : (([⟨"1", 1⟩, ⟨"2", 5⟩] : Record).map (·.col)).Nodup ∧
    (∀ x ∈ "a + b".toList, x ≠ '\n') ∧
    (∀ e ∈ ([⟨"1", 1⟩, ⟨"2", 5⟩] : Record), 1 ≤ e.col ∧ ∀ x ∈ e.text.toList, x ≠ '\n' ∧ x ≠ '\r') := by
  decide +kernel

/-- the conclusion of `render_shows` for the entry at column 5: line 2 -/
example : (linesOf (render "a + b" [⟨"1", 1⟩, ⟨"2", 5⟩]))[2]? = some "1   2".toList ∧
    (("1   2".toList).drop ((5 : Int).toNat - 1)).take "2".length = "2".toList := by decide +kernel

/-- a text with a line break always gets fresh lines, one per piece, each at the column; a value
may end directly in front of a `|` (`startCols[j] = startCol + 1`) -/
example : render "ab.c + d" [⟨"100", 1⟩, ⟨"x\ny", 4⟩, ⟨"7", 8⟩] =
    "ab.c + d\n|  |   |\n100|   7\n   x\n   y" := by decide +kernel

/-- a value may not end directly in front of another value: it goes to the next line with room -/
example : render "ab.c + d" [⟨"100", 1⟩, ⟨"55", 4⟩, ⟨"7", 8⟩] =
    "ab.c + d\n|  |   |\n|  55  7\n100" := by decide +kernel

example : splitLines "x\r\ny\rz\n".toList [] = [['x'], ['y'], ['z'], []] := by decide +kernel

/-- two entries under one column (which `Rec` never produces): only the later one is shown, the
report is that of the record without the earlier one (`render_hidden`) -/
theorem hidden_duplicate :
    render "abc" [⟨"1", 3⟩, ⟨"2", 3⟩] = "abc\n  |\n  2" ∧
    render "abc" [⟨"2", 3⟩] = "abc\n  |\n  2" := by decide +kernel

/-- an entry with an unknown column is not shown -/
theorem hidden_unknown : render "abc" [⟨"1", 0⟩] = "abc\n" ∧ render "abc" [] = "abc\n" := by decide +kernel

end Yae.C19

#print axioms Yae.C19.same_result
#print axioms Yae.C19.same_run
#print axioms Yae.C19.recorded_node
#print axioms Yae.C19.record_on_success
#print axioms Yae.C19.no_record_on_failure
#print axioms Yae.C19.record_ident
#print axioms Yae.C19.literal_records_nothing
#print axioms Yae.C19.list_records_nothing
#print axioms Yae.C19.map_records_nothing
#print axioms Yae.C19.obj_records_nothing
#print axioms Yae.C19.operands_in_order
#print axioms Yae.C19.if_records_only_taken
#print axioms Yae.C19.rec_free
#print axioms Yae.C19.rec_first_free
#print axioms Yae.C19.rec_shifted
#print axioms Yae.C19.rec_distinct_cols
#print axioms Yae.C19.recordOf_distinct_cols
#print axioms Yae.C19.recordOf_faithful_partial
#print axioms Yae.C19.d27_eval
#print axioms Yae.C19.d27_record
#print axioms Yae.C19.render_firstline
#print axioms Yae.C19.render_lines_join
#print axioms Yae.C19.render_first_line
#print axioms Yae.C19.render_no_break
#print axioms Yae.C19.render_shows
#print axioms Yae.C19.render_shows_lines
#print axioms Yae.C19.render_shows_last
#print axioms Yae.C19.render_hidden
#print axioms Yae.C19.recordOf_shown
#print axioms Yae.C19.recordOf_shown_lines
#print axioms Yae.C19.hidden_duplicate
#print axioms Yae.C19.hidden_unknown
