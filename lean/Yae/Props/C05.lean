/-
  C05. "Compilation succeeds if and only if the expression is well-typed under the language's
  typing rules (homogeneous lists and maps with primitive keys, objects with distinct fields,
  field access only on objects that have the field, subscripts only on lists by number and on maps
  by their key type, calls resolved to an exactly matching monomorphic overload first and
  otherwise to the first registered polymorphic overload whose parameters can be instantiated to
  the argument types with a fully concrete result), and the inferred type is the one the rules
  assign. Ill-typed expressions are rejected at compile time, never at run time."

  Specification: `Yae.Spec.Typing` (`Typed Γ e T`, the declarative rules; `instantiate`, matching
  of a parameter list against the argument types; `Typed'`, the natural variant of the overload
  rule).  Model: `Yae.Model.Check` (`check`).  Proofs: `Yae.Proofs.TypingCheck`,
  `Yae.Proofs.TypingNatural`, `Yae.Proofs.TypingD22`.

  What is proved, and under which hypotheses (`Yae.EnvOK Γ`, `Yae.Proofs.TypingCheck`: a condition
  on the static environment alone, not the run-time check `Sound.EnvOK Γ ρ` of C01–C03):
  * variable types are variable free, well formed and contain no function type (so the rule for
    calling a function-*valued expression* is never applicable: that rule is stated in `Typed`,
    but the theorems do not exercise it);
  * every registered function has a function type, a monomorphic one a result type as above;
  * every registered polymorphic signature satisfies `PolyOK`: `inferFun` (the unifier-based
    instantiation of the checker, for *every* value of the type-variable counter) returns what
    the specification's `instantiate` returns, unless its internal fuel runs out.
  The theorems of this file named `_partial` take `EnvOK Γ`, hence `PolyOK`, as a hypothesis, and
  those that conclude an acceptance keep the fuel alternative (`complete_partial`,
  `counter_irrelevant_partial`; a hypothesis in `accepts_iff_typed_partial`).  The others
  (`unique`, `erase`, the D22 witnesses, `mono_key_not_injective`, `natural_rule_contains`,
  `overload_rules_coincide`) need neither.  `Yae/Props/C05b.lean` (same namespace) derives
  `PolyOK` from the decidable condition `sigOK` on the signature (`C05.sigOK_polyOK`,
  `C05.sigOK_inferFun`), excludes the fuel failure (`C05.never_fuel`) and states `C05.sound`,
  `C05.complete`, `C05.accepts_iff_typed` for `SigEnv Γ` without either.  C17's
  `match_sound`/`match_complete` do not give `PolyOK`: they relate `unify` to `⊑`, which is too
  coarse (the `example` on `('a, 'a)` against `(list[⊥], list[num])` below), and require a
  globally ground substitution.
  The internal fuel is a model artefact; here it is kept visible: completeness says "accepted, or
  the fuel ran out", never hiding a fuel failure behind a rejection.
-/
import Yae.Proofs.TypingCheck
import Yae.Proofs.TypingD22
import Yae.Proofs.TypingNatural
import Yae.Proofs.TyUnify
namespace Yae.C05
open Yae

/-- Whatever `check` accepts is well typed, and the type it returns is the type the rules
assign (exactly, not only up to `tyEq`).  Under `EnvOK Γ` (no function-typed variables; `PolyOK`
for the polymorphic signatures); `C05.sound` has it for `SigEnv Γ`. -/
theorem sound_partial {Γ : TEnv} {c c' : Nat} {e e' : Expr} {T : Ty} (hΓ : EnvOK Γ)
    (h : check Γ c e = .ok (T, e', c')) : Typed Γ e T :=
  check_sound hΓ e c T e' c' h

/-- In the wording of the property: some assigned type is equal (`tyEq`) to the inferred one. -/
theorem sound_tyEq_partial {Γ : TEnv} {c c' : Nat} {e e' : Expr} {T : Ty} (hΓ : EnvOK Γ)
    (h : check Γ c e = .ok (T, e', c')) : ∃ T', Typed Γ e T' ∧ tyEq T T' = true :=
  ⟨T, check_sound hΓ e c T e' c' h,
    tyEq_refl' (TyOK_iff.1 (typed_tyOK hΓ e T (check_sound hΓ e c T e' c' h))).2.1⟩

/-- Ill-typed expressions are rejected at compile time: no run of the checker accepts them. -/
theorem illTyped_rejected_partial {Γ : TEnv} {e : Expr} (hΓ : EnvOK Γ)
    (h : ¬ ∃ T, Typed Γ e T) (c : Nat) : ∀ r, check Γ c e ≠ .ok r := by
  rintro ⟨T, e', c'⟩ hr
  exact h ⟨T, check_sound hΓ e c T e' c' hr⟩

/-- A well-typed expression is accepted, with exactly the assigned type, for *every* value of
the type-variable counter — or the checker's internal fuel ran out.  `C05.complete` (for
`SigEnv Γ`) has no fuel alternative: `C05.never_fuel` excludes it. -/
theorem complete_partial {Γ : TEnv} {e : Expr} {T : Ty} (hΓ : EnvOK Γ) (h : Typed Γ e T)
    (c : Nat) : check Γ c e = .error .fuel ∨ ∃ e' c', check Γ c e = .ok (T, e', c') :=
  check_complete hΓ e T h c

/-- The type-variable counter is not observable: if one run accepts with type `T`, every run
(from any counter value) accepts with the same type `T`, or runs out of fuel. -/
theorem counter_irrelevant_partial {Γ : TEnv} {c c' : Nat} {e e' : Expr} {T : Ty} (hΓ : EnvOK Γ)
    (h : check Γ c e = .ok (T, e', c')) (c₂ : Nat) :
    check Γ c₂ e = .error .fuel ∨ ∃ e'' c'', check Γ c₂ e = .ok (T, e'', c'') :=
  check_complete hΓ e T (check_sound hΓ e c T e' c' h) c₂

/-- "Compilation succeeds if and only if the expression is well typed" (when the fuel does not
run out). -/
theorem accepts_iff_typed_partial {Γ : TEnv} {e : Expr} (hΓ : EnvOK Γ) (c : Nat)
    (hfuel : check Γ c e ≠ .error .fuel) :
    (∃ T e' c', check Γ c e = .ok (T, e', c')) ↔ ∃ T, Typed Γ e T :=
  check_accepts_iff hΓ c hfuel

/-- The rules assign at most one type, whatever the environment. -/
theorem unique {Γ : TEnv} {e : Expr} {T₁ T₂ : Ty} (h₁ : Typed Γ e T₁) (h₂ : Typed Γ e T₂) :
    T₁ = T₂ := typed_unique e T₁ T₂ h₁ h₂

/-- In the wording of the property: two assigned types are equal in the sense of `tyEq`
(`tyEq_refl'` asks for a well-formed type; `EnvOK Γ` gives it). -/
theorem unique_tyEq_partial {Γ : TEnv} {e : Expr} {T₁ T₂ : Ty} (hΓ : EnvOK Γ)
    (h₁ : Typed Γ e T₁) (h₂ : Typed Γ e T₂) : tyEq T₁ T₂ = true := by
  rw [typed_unique e T₁ T₂ h₁ h₂]
  exact tyEq_refl' (TyOK_iff.1 (typed_tyOK hΓ e T₂ h₂)).2.1

/-- The annotated tree is the input tree plus attachments. -/
theorem erase {Γ : TEnv} {c c' : Nat} {e e' : Expr} {T : Ty}
    (h : check Γ c e = .ok (T, e', c')) : Yae.erase e' = Yae.erase e :=
  check_erase Γ e c T e' c' h

/-- non-vacuity: the checker accepts `x + x` with type `num` (computed by the kernel) -/
theorem exExpr_checked : ∃ e', check exEnv 0 exExpr = .ok (.num, e', 0) := _root_.Yae.exExpr_checked

example : EnvOK exEnv := exEnv_ok
example : Typed exEnv exExpr .num := exExpr_typed

/-- The hypotheses of `sound_partial`, `complete_partial`, `counter_irrelevant_partial`,
`accepts_iff_typed_partial`, `erase` are satisfiable (by `x + x` in `exEnv`), and in
`complete_partial` it is the acceptance (not the fuel alternative) that holds there. -/
example : Typed exEnv exExpr .num :=
  let ⟨_, h⟩ := exExpr_checked; sound_partial exEnv_ok h

example : check exEnv 0 exExpr ≠ .error .fuel := by
  obtain ⟨_, h⟩ := exExpr_checked; rw [h]; intro h'; cases h'

/-- an ill-typed expression (`x[x]`: subscript on a number) -/
example : ¬ ∃ T, Typed exEnv
    (.subscript Pos.unknown 0 (.ident Pos.unknown "x") (.ident Pos.unknown "x") none) T := by
  rintro ⟨T, h⟩
  cases h with
  | subList h1 _ _ => cases h1 with | ident _ hl => cases hl
  | subMap h1 _ _ => cases h1 with | ident _ hl => cases hl

/-! ## the overload rule the checker implements is not the natural one (finding D22)

`Typed'` differs from `Typed` only in the polymorphic call rule: the first overload that can be
instantiated *and* whose instantiated parameters equal the argument types.  With the overloads
`f(list['a]) num`, `f('a) str` (in this order) and the call `f([][0])` (argument type `⊥`):
`list['a]` absorbs `⊥`, the checker commits to the first overload, then rejects the program
because `list['a]` is not `⊥`; the natural rule picks the second overload. -/

theorem d22_natural_rule_accepts : Typed' d22Env d22Expr .str := by
  refine .callPoly (As := .cons .bot .nil) (ps' := .cons .bot .nil)
    (.cons (.subList (.listNil _ _) (.num _ _) rfl) .nil) d22_mono ?_
  rw [d22_poly]
  exact .later rfl (fun qs U h => by rw [d22_inst1] at h; cases h; rfl) (.here rfl d22_inst2 rfl)

theorem d22_checker_rule_rejects : ¬ ∃ T, Typed d22Env d22Expr T := by
  rintro ⟨T, h⟩
  obtain ⟨_, _, a, hch, hte⟩ := typed_static_iff.1 h
  cases d22_args a
  rcases hch with ⟨_, _, hm, _⟩ | ⟨_, hfi⟩
  · rw [d22_mono] at hm; cases hm
  · rw [d22_poly] at hfi
    cases hfi with
    | here hd hi =>
      cases hd
      rw [d22_inst1] at hi; cases hi
      cases hte
    | later hd hi _ =>
      cases hd
      rw [d22_inst1] at hi; cases hi

/-- The rendered key of a monomorphic overload does not determine its parameter types (equal
renderings do not imply `tyEq`); the monomorphic rule therefore has the equality of parameters and
argument types as a premise of its own, as the checker tests it (`assertParams`). -/
theorem mono_key_not_injective :
    (Ty.obj (.cons "a" .num (.cons "b" .str .nil))).render =
      (Ty.obj (.cons "a: num, b" .str .nil)).render ∧
    tyEq (.obj (.cons "a" .num (.cons "b" .str .nil))) (.obj (.cons "a: num, b" .str .nil)) = false := by
  decide

/-- Why `instantiate` is not stated as "`∃ σ`, `σ(params) ⊑ args`" (`⊑` of C17): that condition
holds for `('a, 'a)` against `(list[⊥], list[num])` with `σ 'a = list[num]`, but the parameters
cannot be instantiated (`'a` is bound to `list[⊥]` first, which is not equal to `list[num]`), so
the checker moves on to the next overload.  "First overload satisfying the `⊑` condition" would
select a different overload than the checker does. -/
example :
    (Ty.tuple (.cons (.list .num) (.cons (.list .num) .nil))) ⊑
      (Ty.tuple (.cons (.list .bot) (.cons (.list .num) .nil))) ∧
    instantiate (.cons (.var "a") (.cons (.var "a") .nil)) (.var "a")
      (.cons (.list .bot) (.cons (.list .num) .nil)) = none :=
  ⟨.tuple (.cons (.list (.botR _)) (.cons (.list .num) .nil)), rfl⟩

/-- Everything the checker's rules type, the natural rules type, with the same type. -/
theorem natural_rule_contains {Γ : TEnv} {e : Expr} {T : Ty} (h : Typed Γ e T) : Typed' Γ e T :=
  typed_imp_typed' e T h

/-- The two polymorphic-overload rules coincide (same overload, same instantiated parameters,
same result) when no argument type contains `⊥`/`⊤` and no candidate parameter contains `⊤`:
then an instantiation that succeeds is exact, so "first that can be instantiated, then must be
equal" and "first that can be instantiated and is equal" select the same candidate.
(The two systems differ in this rule only; the lifting of the converse inclusion to whole
expressions, under the side condition for every call inside, is not stated.) -/
theorem overload_rules_coincide {cands : List FunDecl} {As ps' : TyList} {T : Ty}
    (hA : noBTList As = true) (hw : wfList As = true) (hc : CandsNoTop cands) :
    (FirstInst cands As ps' T ∧ tyEqList ps' As = true) ↔ FirstAccepted cands As ps' T :=
  ⟨fun h => firstInst_accepted h.1 h.2, firstAccepted_inst hA hw hc⟩

/-- non-vacuity: the D22 overloads applied to an argument of type `num` — here both rules select
the second overload (`f('a) str`) -/
example : noBTList (.cons .num .nil) = true ∧ wfList (.cons .num .nil) = true ∧
    CandsNoTop d22Env.funs ∧
    FirstAccepted d22Env.funs (.cons .num .nil) (.cons .num .nil) .str := by
  refine ⟨rfl, rfl, ?_, .later rfl (fun qs U h => by cases h) (.here rfl rfl rfl)⟩
  intro d hd name ps ret hty
  simp only [d22Env, List.mem_cons, List.not_mem_nil, or_false] at hd
  rcases hd with rfl | rfl <;> cases hty <;> rfl

end Yae.C05

#print axioms Yae.C05.sound_partial
#print axioms Yae.C05.sound_tyEq_partial
#print axioms Yae.C05.illTyped_rejected_partial
#print axioms Yae.C05.complete_partial
#print axioms Yae.C05.counter_irrelevant_partial
#print axioms Yae.C05.accepts_iff_typed_partial
#print axioms Yae.C05.unique
#print axioms Yae.C05.unique_tyEq_partial
#print axioms Yae.C05.erase
-- the witnesses of the non-vacuity examples, proved in `Proofs/TypingD22.lean`
#print axioms Yae.exEnv_ok
#print axioms Yae.exExpr_typed
#print axioms Yae.C05.exExpr_checked
#print axioms Yae.C05.d22_natural_rule_accepts
#print axioms Yae.C05.d22_checker_rule_rejects
#print axioms Yae.C05.mono_key_not_injective
#print axioms Yae.C05.natural_rule_contains
#print axioms Yae.C05.overload_rules_coincide
