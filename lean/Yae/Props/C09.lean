/-
  C09. "Lexing any input either fails with a syntax error or yields tokens that appear in source
  order, do not overlap, are separated only by white space, and whose recorded index range, line
  and column reproduce exactly the token's text. Among registered symbolic operators the longest
  one that matches is chosen, identifier-like operators and the literals true / false are
  recognised only as whole words, the built-in '.' and '?' are never split out of a longer
  operator, and each numeric, string and time literal form is read as a single token."

  Model: `Yae.Model.Lexer` (`lex ops input`, input = the runes of the source).
  Proofs: `Yae.Proofs.Lex` (loop invariant `Lexed`), `Yae.Proofs.LexRules` (lexicon),
  `Yae.Proofs.LexRegex*` (recognisers = regular expressions), `Yae.Proofs.LexLiteral`.

  * "either fails with a syntax error or yields tokens": `lex` is a total function into
    `Except LexErr _`; `lex_no_fuel` excludes the model-only outcome `.fuel` (Go: endless loop)
    for every operator table without an operator of empty kind.
  * order / no overlap / white space only / positions: `lex_partition` (the gaps),
    `lex_token_at` (per token: prefix, recorded `Pos`), `lex_ordered`, `lex_slice`.
  * whole words: `lex_words`.   built-in `.`/`?`: `lex_prim` (needs: the user did not register
    `.` / `?` himself; counterexample `prim_needs_hyp`).
  * longest symbolic operator: `lex_longest`.  The unrestricted sentence is FALSE for the
    lexicon of the Go code (finding D25): the eight punctuation rules `: , ( ) [ ] { }` and then the
    built-in `.` `?` are tried BEFORE the user operators, so a registered `:=` is never lexed
    (`d25_colon_operator`).  `lex_longest` says exactly that: either one of those ten kinds
    won, or the winner is a registered operator at least as long as every registered symbolic
    operator that matches at that place.  `sortOps_perm` / `sortOps_sorted` / `sortOps_stable`
    specify `oper.Sort`.
  * literal forms: the ten literal rules of the lexicon are Go regular expressions.  They are
    given as terms `reOf p : Re` (`Yae.Spec.Regex`; `Re.show` prints the pattern texts of
    `factory.go` character for character) with a formal semantics: the language `Re.Matches`
    and the reference matcher `Re.matchLen` (backtracking, leftmost-first: ordered alternation,
    greedy quantifiers; sound and complete for the language, `Re.matchLen_sound/_complete`).
    `literal_forms`: every literal rule matches EXACTLY what its regular expression matches
    under the reference semantics, on every input (the hand-written recognisers of the model
    are proved equal to the reference matcher, `Pat.run_eq_matchLen`, the two float patterns
    included, where greedy and leftmost-first have to be seen to agree).
    `keyword_form` / `identOp_form`: the same for `keywordPostfix` and `oper.IsIdentOp`.
    "read as a single token" in both directions:
      - `lex_literal`: a token of a literal kind is the leftmost-first match of the first
        literal pattern (in lexicon order) that matches at all there: a word of that pattern's
        language, with no prefix of the remaining input in the language of an earlier pattern;
      - `literal_single_token`: a word `d` of the language of a literal pattern, followed by
        something that cannot continue it (`LitEnd`: anything after a string / raw string /
        time literal; no identifier character after a symbol; no identifier character and no
        `.` after a number), is the next token as a whole, if no earlier rule matches;
        `quoted_single_token`, `number_single_token` discharge "no earlier rule" (only the
        user's operators remain as a hypothesis), `symbol_single_token` the earlier literal
        rules; `lex_quoted_first` / `lex_number_first` say it for `lex` at the start of the
        input.
      - Not every word of a NUM language is one token even before a blank: the first float
        pattern allows one exponent and comes first, so `1.5e3e4` (in the language of the
        second) is lexed `1.5e3`, `e4` (`two_exponents`).  That is the lexicon's rule order
        (Go behaves the same), not a defect of the model; it is why `number_single_token`
        excludes words of the second float pattern that have a fraction (with one exponent
        they are words of the first; with more they are not one token).
    What remains trusted: that Go's `regexp` implements leftmost-first matching of these ten
    expressions as `Re.m` defines it (`regexp/syntax`'s parser/simplifier and the matching
    engines are not modelled; for loops whose body can match the empty word Go's engines
    deviate from every simple backtracking rule, see `Yae.Spec.Regex`; the only such loop in
    the lexer is in the string pattern, whose language has at most one word among the prefixes
    of any input, `string_unique`, so there it cannot matter; for the other nine
    `Pat.run_eq_policy` shows that no decision about empty iterations changes the match).
    `Re.show` and `Re.matchLen` are executable: the pattern texts of the Go source are compared
    with `Re.show` in `Yae.GenTie.lex_regex_tie` (`Yae/Props/GenTie/Lexer.lean`), and the driver
    answers `(regex k s)` requests from the reference matcher (`Yae/Driver/Lex.lean`,
    `handleRegex`) for the differential test against `regexp`.
-/
import Yae.Proofs.LexRules
import Yae.Proofs.LexLiteral
namespace Yae.C09
open Yae

/-- The tokens partition the input up to white space: there are runs of white space
`gaps₀ … gapsₙ₋₁`, `last` with
`s = gaps₀ ++ lexeme₀ ++ gaps₁ ++ lexeme₁ ++ … ++ gapsₙ₋₁ ++ lexemeₙ₋₁ ++ last`. -/
theorem lex_partition {ops : List Operator} {s : List Char} {ts : List Token}
    (h : lex ops s = .ok ts) :
    ∃ (gaps : List (List Char)) (last : List Char), gaps.length = ts.length ∧
      (∀ w ∈ gaps, ∀ c ∈ w, isSpace c = true) ∧ (∀ c ∈ last, isSpace c = true) ∧
      s = (List.zipWith (fun w (t : Token) => w ++ t.lexeme.toList) gaps ts).flatten ++ last :=
  (lex_lexed h).partition

/-- Per token: the input is `pre ++ lexeme ++ post`; the lexeme is not empty and does not start
with white space; the recorded position is: `idx` = number of runes before the token, `idxEnd` =
`idx` + length of the lexeme, `col` = number of runes since the last newline before the token
(`colOf pre`), `line` = number of newlines before it; and the token is exactly what the first
matching rule of the lexicon matched on the remaining input `lexeme ++ post` (its kind, and its
`n` runes). -/
theorem lex_token_at {ops : List Operator} {s : List Char} {ts : List Token}
    (h : lex ops s = .ok ts) {t : Token} (ht : t ∈ ts) :
    ∃ pre post n, s = pre ++ t.lexeme.toList ++ post ∧ t.lexeme.toList ≠ [] ∧
      (∀ c r, t.lexeme.toList = c :: r → isSpace c = false) ∧
      t.pos = ⟨pre.length, pre.length + t.lexeme.toList.length, colOf pre, pre.count '\n'⟩ ∧
      firstMatch (newLexicon ops) (t.lexeme.toList ++ post) = some (t.kind, n) ∧
      t.lexeme.toList = (t.lexeme.toList ++ post).take n := by
  obtain ⟨pre, post, n, h1, h2, h3, h4, h5, h6⟩ := (lex_lexed h).tokAt ht
  exact ⟨pre, post, n, h1, h2, h3, by rw [h4, tokPos_zero], h5, h6⟩

/-- The cursor is `Pos.move` folded over the consumed prefix (the form the proof uses). -/
theorem lex_token_cursor {ops : List Operator} {s : List Char} {ts : List Token}
    (h : lex ops s = .ok ts) {t : Token} (ht : t ∈ ts) :
    ∃ pre post, s = pre ++ t.lexeme.toList ++ post ∧
      t.pos = { pre.foldl Pos.move Pos.zero with
                idxEnd := ((pre ++ t.lexeme.toList).foldl Pos.move Pos.zero).idx } := by
  obtain ⟨pre, post, n, h1, _, _, h4, _, _⟩ := (lex_lexed h).tokAt ht
  exact ⟨pre, post, h1, by rw [h4]; simp [tokPos, Pos.moves, List.foldl_append]⟩

/-- Source order, no overlap, inside the input, non-empty, `idxEnd - idx` = length of the text. -/
theorem lex_ordered {ops : List Operator} {s : List Char} {ts : List Token}
    (h : lex ops s = .ok ts) :
    (∀ t ∈ ts, 0 ≤ t.pos.idx ∧ t.pos.idx < t.pos.idxEnd ∧ t.pos.idxEnd ≤ s.length ∧
      t.pos.idxEnd = t.pos.idx + t.lexeme.toList.length) ∧
    ts.Pairwise (fun a b => a.pos.idxEnd ≤ b.pos.idx) := by
  have := (lex_lexed h).bounds
  simpa [Pos.zero] using this

/-- The recorded index range reproduces exactly the token's text. -/
theorem lex_slice {ops : List Operator} {s : List Char} {ts : List Token}
    (h : lex ops s = .ok ts) {t : Token} (ht : t ∈ ts) :
    (s.drop t.pos.idx.toNat).take (t.pos.idxEnd - t.pos.idx).toNat = t.lexeme.toList := by
  obtain ⟨pre, post, n, h1, _, _, h4, _, _⟩ := lex_token_at h ht
  rw [h4, h1]
  simp only [List.append_assoc, Int.toNat_natCast, List.drop_left]
  rw [Int.add_comm, Int.add_sub_cancel, Int.toNat_natCast, List.take_left]

/-- non-vacuity of the layout theorems (and a look at the recorded positions):
`"a\n  +b"` gives `a` at line 0 col 0, `+` at line 1 col 2, `b` at line 1 col 3. -/
example : lex [⟨"+", 7, fixInfixL⟩] "a\n  +b".toList = .ok
    [⟨"<sym>", "a", ⟨0, 1, 0, 0⟩⟩, ⟨"+", "+", ⟨4, 5, 2, 1⟩⟩, ⟨"<sym>", "b", ⟨5, 6, 3, 1⟩⟩] := by
  decide +kernel

/-- With no operator of empty kind the lexer never runs out of fuel: the result is a token list
or the syntax error. -/
theorem lex_no_fuel {ops : List Operator} (hops : ∀ o ∈ ops, o.kind ≠ "") (s : List Char) :
    lex ops s ≠ .error .fuel :=
  Yae.lex_no_fuel hops s

example : ∀ o ∈ [(⟨"+", 7, fixInfixL⟩ : Operator)], o.kind ≠ "" := by simp

/-- The hypothesis is needed: an operator of empty kind matches the empty string everywhere (Go
loops for ever; the model reports `.fuel`). -/
example : lex [⟨"", 7, fixInfixL⟩] "a".toList = .error .fuel := by decide +kernel

/-- A token whose kind is identifier-like (an identifier-like operator, `true`, `false`) is that
word exactly, and the character after it, if any, cannot continue an identifier. -/
theorem lex_words {ops : List Operator} {s : List Char} {ts : List Token}
    (h : lex ops s = .ok ts) {t : Token} (ht : t ∈ ts) (hk : isIdentOp t.kind.toList = true) :
    t.lexeme = t.kind ∧
    ∃ pre post, s = pre ++ t.lexeme.toList ++ post ∧ t.pos.idx = pre.length ∧
      ∀ c r, post = c :: r → isIdentCont c = false := by
  have hl : t.kind ∉ literalKinds := fun hm => (literalKinds_spec _ hm).1 hk
  obtain ⟨e, pre, post, m, h1, h4, hm, hg⟩ := lex_text_token h ht hl
  obtain rfl : m = .keyword t.kind.toList := newLexicon_ident_rule hm hk
  refine ⟨e, pre, post, h1, h4, ?_⟩
  rintro c r rfl
  simpa [Matcher.guard] using hg

/-- `true` and `false` are identifier-like kinds, so `lex_words` applies to them. -/
example : isIdentOp "true".toList = true ∧ isIdentOp "false".toList = true := by decide

/-- `truex` is one identifier, `true x` is the literal followed by an identifier. -/
example : lex [] "truex".toList = .ok [⟨"<sym>", "truex", ⟨0, 5, 0, 0⟩⟩] ∧
    lex [] "true x".toList
      = .ok [⟨"true", "true", ⟨0, 4, 0, 0⟩⟩, ⟨"<sym>", "x", ⟨5, 6, 5, 0⟩⟩] := by decide +kernel

/-- A `.` (resp. `?`) token is never followed by an operator character, i.e. it is never split
out of a longer run of operator characters, provided the user has not registered an operator
of that very kind. -/
theorem lex_prim {ops : List Operator} {s : List Char} {ts : List Token}
    (h : lex ops s = .ok ts) {t : Token} (ht : t ∈ ts) (hk : t.kind = "." ∨ t.kind = "?")
    (hops : ∀ o ∈ ops, o.kind ≠ t.kind) :
    t.lexeme = t.kind ∧
    ∃ pre post, s = pre ++ t.lexeme.toList ++ post ∧ t.pos.idx = pre.length ∧
      operHasPrefix post = false := by
  have hl : t.kind ∉ literalKinds := fun hm => (literalKinds_spec _ hm).2 hk
  obtain ⟨e, pre, post, m, h1, h4, hm, hg⟩ := lex_text_token h ht hl
  obtain rfl : m = .primOper t.kind.toList := newLexicon_prim_rule hm hk hops
  exact ⟨e, pre, post, h1, h4, by simpa [Matcher.guard] using hg⟩

example : ∀ o ∈ [(⟨".^.", 7, fixInfixL⟩ : Operator)], o.kind ≠ "." := by decide

/-- `a.^.b` with `.^.` registered is three tokens; `a.b` has the built-in `.`. -/
example : (lex [⟨".^.", 7, fixInfixL⟩] "a.^.b".toList).map (·.map (·.kind)) = .ok ["<sym>", ".^.", "<sym>"] ∧
    (lex [⟨".^.", 7, fixInfixL⟩] "a.b".toList).map (·.map (·.kind)) = .ok ["<sym>", ".", "<sym>"] := by
  decide +kernel

/-- The hypothesis of `lex_prim` is needed: if the user registers `.` himself (and `+`), then in
`a.+b` the built-in rule refuses `.` (an operator character follows) but the user's own `.` rule
takes it: a `.` token directly followed by `+`. -/
theorem prim_needs_hyp :
    (lex [⟨".", 7, fixInfixL⟩, ⟨"+", 7, fixInfixL⟩] "a.+b".toList).map (·.map (·.kind))
      = .ok ["<sym>", ".", "+", "<sym>"] := by decide +kernel

/-- `oper.Sort` permutes the table. -/
theorem sortOps_perm (ops : List Operator) : (sortOps ops).Perm ops := Yae.sortOps_perm ops

/-- `oper.Sort` orders the table by descending byte length of the kind. -/
theorem sortOps_sorted (ops : List Operator) :
    (sortOps ops).Pairwise (fun a b => a.kind.utf8ByteSize ≥ b.kind.utf8ByteSize) :=
  Yae.sortOps_sorted ops

/-- `oper.Sort` is stable: operators of equal byte length keep their registration order. -/
theorem sortOps_stable (ops : List Operator) (n : Nat) :
    (sortOps ops).filter (fun o => o.kind.utf8ByteSize == n)
      = ops.filter (fun o => o.kind.utf8ByteSize == n) :=
  sortOps_eq ops ▸ sortBy_filter (fun x y hx hy => by
    simp only [beq_iff_eq] at hx hy
    exact decide_eq_true (Nat.le_of_eq (hy.trans hx.symm))) ops

/-- Longest match.  Let `o` be any registered SYMBOLIC operator (not identifier-like) whose kind
is a prefix of the input at the place where token `t` starts.  Then `t` is one of the eight
punctuation tokens, or the built-in `.` / `?`, or `t` is a registered operator whose kind is at
least as long (in bytes, the sort key) as `o`'s.

Full statement ("the longest registered symbolic operator that matches is chosen") is FALSE
because of the first three alternatives: see `d25_colon_operator`. -/
theorem lex_longest {ops : List Operator} {s : List Char} {ts : List Token}
    (h : lex ops s = .ok ts) {t : Token} (ht : t ∈ ts) :
    ∃ pre post, s = pre ++ t.lexeme.toList ++ post ∧ t.pos.idx = pre.length ∧
      ∀ o ∈ ops, isIdentOp o.kind.toList = false →
        o.kind.toList.isPrefixOf (t.lexeme.toList ++ post) = true →
        t.kind ∈ [":", ",", "(", ")", "[", "]", "{", "}"] ∨ t.kind = "." ∨ t.kind = "?" ∨
        ∃ o' ∈ ops, o'.kind = t.kind ∧ o.kind.utf8ByteSize ≤ o'.kind.utf8ByteSize := by
  obtain ⟨pre, post, n, h1, _, _, h4, h5, _⟩ := lex_token_at h ht
  exact ⟨pre, post, h1, by rw [h4], fun o ho hs hp => firstMatch_longest h5 ho hs hp⟩

/-- non-vacuity / illustration: with `<`, `<=`, `<=>` registered in any order, `a<=>b` has the
single operator token `<=>`. -/
example : (lex [⟨"<", 7, fixInfixL⟩, ⟨"<=>", 7, fixInfixL⟩, ⟨"<=", 7, fixInfixL⟩]
    "a<=>b".toList).map (·.map (·.kind)) = .ok ["<sym>", "<=>", "<sym>"] := by decide +kernel

/-- **D25**: a registered operator that starts with `:` (or any other of the eight punctuation
characters) is never lexed: the punctuation rules come first and do not look ahead.
`a := b` with `:=` and `=` registered lexes as `a`, `:`, `=`, `b`. -/
theorem d25_colon_operator :
    (lex [⟨":=", 7, fixInfixL⟩, ⟨"=", 7, fixInfixL⟩] "a := b".toList).map (·.map (·.kind))
      = .ok ["<sym>", ":", "=", "<sym>"] := by decide +kernel

/-- The lexicon is the early rules (punctuation, built-in and registered operators, `true`,
`false`) followed by the ten literal rules, `litPats` = kind and pattern in this order:
`<num>` floatA, floatB, bin, hex, oct, int; `<str>` str, raw; `<time>` time; `<sym>` sym. -/
theorem literal_rules (ops : List Operator) :
    newLexicon ops = earlyRules ops ++ litPats.map litRule := newLexicon_split ops

/-- **Each literal rule matches exactly what its regular expression matches under the
reference semantics**: `lexer.regex(kind, pattern)` is `FindString` of `^(?:pattern)` with the
empty match counting as no match (`Re.find`); that never happens (`= Re.matchLen`); a match is
a non-empty prefix of the input in the language of the pattern; and the rule fails exactly when
no prefix of the input is in the language. -/
theorem literal_forms (p : Pat) (s : List Char) :
    (Matcher.regex p).run s = (reOf p).find s ∧
    (reOf p).find s = (reOf p).matchLen s ∧
    (∀ n, (Matcher.regex p).run s = some n →
      0 < n ∧ n ≤ s.length ∧ (reOf p).Matches (s.take n)) ∧
    ((Matcher.regex p).run s = none ↔ ∀ u v, s = u ++ v → ¬ (reOf p).Matches u) :=
  ⟨regex_run p s, Re.find_eq_matchLen (reOf_not_nullable p) s, fun _ => regex_run_some, regex_run_none⟩

/-- The printed regular expressions are the pattern texts of `factory.go` (more in
`Yae.Spec.Regex`). -/
example : (reOf .floatB).show = "(?:0|[1-9][0-9]*)(?:[.][0-9]+)?(?:[eE][-+]?[0-9]+)+" ∧
    (reOf .str).show = "\"(?:[^\"\\\\]*|\\\\[\"\\\\trnbf\\/]|\\\\u[0-9a-fA-F]{4})*\"" := by decide +kernel

/-- The keyword rule: the word is a prefix of the input and `keywordPostfix`
(`^[a-zA-Z\d\p{L}_]+`) does not match what follows. -/
theorem keyword_form (kw s : List Char) :
    (Matcher.keyword kw).run s =
      if kw.isPrefixOf s = true ∧ reKeywordPostfix.matchPrefix (s.drop kw.length) = false
      then some kw.length else none := by
  rw [Matcher.run_text (m := .keyword kw) rfl, Re.keywordPostfix_matchPrefix]
  cases s.drop kw.length <;> simp [Matcher.guard]

/-- `oper.IsIdentOp` is a whole-string match of `^[a-zA-Z\p{L}_][a-zA-Z0-9\p{L}_]*$`. -/
theorem identOp_form (s : List Char) : isIdentOp s = reIdent.matchWhole s := by
  rw [show reIdent = reOf .sym from rfl, Re.scans_sym.matchWhole]
  cases s with
  | nil => rfl
  | cons c cs =>
    cases hc : isIdentStart c
    · simp [isIdentOp, Re.sCat, Re.sChar, hc]
    · rw [Bool.eq_iff_iff]
      simp [isIdentOp, Re.sCat, Re.sChar, Re.sStar, hc, Re.skipWhile_rest_nil]

/-- At most one prefix of any input is a string literal (resp. raw string, time literal): no
priority and no convention about empty iterations enters for these three patterns. -/
theorem string_unique : Re.UniquePrefix (reOf .str) ∧ Re.UniquePrefix (reOf .raw) ∧
    Re.UniquePrefix (reOf .time) :=
  ⟨Re.str_uniquePrefix, Re.raw_uniquePrefix, Re.time_uniquePrefix⟩

/-- **token ⇒ language.**  A token of a literal kind (which is not also the kind of a registered
operator) is the leftmost-first match, at the place where it starts, of a literal pattern `p` of
that kind: `n` = its length; it is a word of the language of `p`; and no prefix of the remaining
input is in the language of a literal pattern that the lexicon tries before `p`. -/
theorem lex_literal {ops : List Operator} {s : List Char} {ts : List Token}
    (h : lex ops s = .ok ts) {t : Token} (ht : t ∈ ts)
    (hk : t.kind ∈ ["<num>", "<str>", "<time>", "<sym>"]) (hops : ∀ o ∈ ops, o.kind ≠ t.kind) :
    ∃ pre post before after p, s = pre ++ t.lexeme.toList ++ post ∧ t.pos.idx = pre.length ∧
      litPats = before ++ (t.kind, p) :: after ∧
      (reOf p).matchLen (t.lexeme.toList ++ post) = some t.lexeme.toList.length ∧
      (reOf p).Matches t.lexeme.toList ∧
      ∀ kq ∈ before, ∀ u v, t.lexeme.toList ++ post = u ++ v → ¬ (reOf kq.2).Matches u := by
  obtain ⟨pre, post, n, h1, _, _, h4, h5, h6⟩ := lex_token_at h ht
  obtain ⟨before, after, p, hl, hm, hb⟩ := firstMatch_literal_inv h5 hk hops
  obtain ⟨hle, hmat⟩ := Re.matchLen_take hm
  have hn : t.lexeme.toList.length = n := by
    have := congrArg List.length h6
    rw [List.length_take] at this; omega
  exact ⟨pre, post, before, after, p, h1, by rw [h4], hl, by rw [hn]; exact hm,
    by rw [h6]; exact hmat, hb⟩

/-- **language ⇒ token.**  Let `d` be a word of the language of the literal pattern `p` (of
kind `k`) and `post` something that cannot continue it.  If no early rule matches `d ++ post`
and no prefix of `d ++ post` is in the language of a literal pattern tried before `p`, then
the first matching rule at `d ++ post` is `p`'s and it matches exactly `d`; so (`lex_token_at`)
when the lexer stands there the next token is `d`, of kind `k`. -/
theorem literal_single_token {ops : List Operator} {k : String} {p : Pat}
    {before after : List (String × Pat)} (hsplit : litPats = before ++ (k, p) :: after)
    {d post : List Char} (hd : (reOf p).Matches d) (hpost : LitEnd p post)
    (hearly : firstMatch (earlyRules ops) (d ++ post) = none)
    (hbefore : ∀ kq ∈ before, ∀ u v, d ++ post = u ++ v → ¬ (reOf kq.2).Matches u) :
    firstMatch (newLexicon ops) (d ++ post) = some (k, d.length) :=
  firstMatch_literal hsplit hd hpost hearly fun kq hkq =>
    (regex_run_eq kq.2 _).symm.trans (regex_run_none.2 (hbefore kq hkq))

/-- A string, raw-string or time literal followed by ANYTHING is one token, provided no
registered operator's kind is a prefix of the input there. -/
theorem quoted_single_token {ops : List Operator} {k : String} {p : Pat}
    (hkp : (k, p) ∈ [("<str>", Pat.str), ("<str>", Pat.raw), ("<time>", Pat.time)])
    {d : List Char} (hd : (reOf p).Matches d) (post : List Char)
    (hops : ∀ o ∈ ops, o.kind.toList.isPrefixOf (d ++ post) = false) :
    firstMatch (newLexicon ops) (d ++ post) = some (k, d.length) := by
  simp only [List.mem_cons, List.not_mem_nil, or_false, Prod.mk.injEq] at hkp
  rcases hkp with ⟨rfl, rfl⟩ | ⟨rfl, rfl⟩ | ⟨rfl, rfl⟩ <;>
    exact firstMatch_lit_ops (by decide) hd trivial nofun hops

/-- A numeric literal (a word of the language of one of the six numeric patterns), followed by
the end of the input or by a character that is neither an identifier character nor `.`, is one
`<num>` token, provided no registered operator's kind is a prefix of the input there; for the
second float pattern this is claimed for words without a fraction only (with a fraction and
one exponent the word is in the language of the first float pattern; with a fraction and more
exponents it is NOT one token: `two_exponents`). -/
theorem number_single_token {ops : List Operator} {p : Pat}
    (hp : p ∈ [Pat.floatA, .floatB, .bin, .hex, .oct, .int])
    {d : List Char} (hd : (reOf p).Matches d) {post : List Char} (hpost : Re.NumEnd post)
    (hB : p = .floatB → '.' ∉ d)
    (hops : ∀ o ∈ ops, o.kind.toList.isPrefixOf (d ++ post) = false) :
    firstMatch (newLexicon ops) (d ++ post) = some ("<num>", d.length) := by
  simp only [List.mem_cons, List.not_mem_nil, or_false] at hp
  rcases hp with rfl | rfl | rfl | rfl | rfl | rfl <;>
    exact firstMatch_lit_ops (by decide) hd hpost hB hops

/-- A symbol followed by the end of the input or by a character that is not an identifier
character is one `<sym>` token, provided no early rule matches there (`true`, `false` and
identifier-like operators are words of the symbol pattern too, and their rules come first:
`lex_words`). -/
theorem symbol_single_token {ops : List Operator} {d : List Char} (hd : (reOf .sym).Matches d)
    {post : List Char} (hpost : Re.NoHead isIdentCont post)
    (hearly : firstMatch (earlyRules ops) (d ++ post) = none) :
    firstMatch (newLexicon ops) (d ++ post) = some ("<sym>", d.length) :=
  firstMatch_lit .sym hd hpost nofun hearly

/-- `quoted_single_token` for `lex` at the start of the input: the first token is the literal. -/
theorem lex_quoted_first {ops : List Operator} {k : String} {p : Pat}
    (hkp : (k, p) ∈ [("<str>", Pat.str), ("<str>", Pat.raw), ("<time>", Pat.time)])
    {d : List Char} (hd : (reOf p).Matches d) (post : List Char)
    (hops : ∀ o ∈ ops, o.kind.toList.isPrefixOf (d ++ post) = false)
    {ts : List Token} (h : lex ops (d ++ post) = .ok ts) :
    ∃ t ts', ts = t :: ts' ∧ t.kind = k ∧ t.lexeme.toList = d ∧
      t.pos = ⟨0, d.length, 0, 0⟩ := by
  have hp : p ≠ .sym := by
    simp only [List.mem_cons, List.not_mem_nil, or_false, Prod.mk.injEq] at hkp
    rcases hkp with ⟨_, rfl⟩ | ⟨_, rfl⟩ | ⟨_, rfl⟩ <;> decide
  exact lex_first_lit hp hd (quoted_single_token hkp hd post hops) h

theorem lex_number_first {ops : List Operator} {p : Pat}
    (hp : p ∈ [Pat.floatA, .floatB, .bin, .hex, .oct, .int])
    {d : List Char} (hd : (reOf p).Matches d) {post : List Char} (hpost : Re.NumEnd post)
    (hB : p = .floatB → '.' ∉ d)
    (hops : ∀ o ∈ ops, o.kind.toList.isPrefixOf (d ++ post) = false)
    {ts : List Token} (h : lex ops (d ++ post) = .ok ts) :
    ∃ t ts', ts = t :: ts' ∧ t.kind = "<num>" ∧ t.lexeme.toList = d ∧
      t.pos = ⟨0, d.length, 0, 0⟩ :=
  lex_first_lit (by rintro rfl; revert hp; decide) hd (number_single_token hp hd hpost hB hops) h

/-- `12.5e+3` is in the language of the first float pattern, `42` of the integer pattern,
`"a\"b"` of the string pattern (by completeness of the reference matcher: it finds them). -/
example : (reOf .floatA).Matches "12.5e+3".toList ∧ (reOf .int).Matches "42".toList ∧
    (reOf .str).Matches "\"a\\\"b\"".toList := by
  refine ⟨?_, ?_, ?_⟩
  · have h : (reOf .floatA).matchLen "12.5e+3".toList = some 7 := by decide +kernel
    simpa using (Re.matchLen_take h).2
  · have h : (reOf .int).matchLen "42".toList = some 2 := by decide +kernel
    simpa using (Re.matchLen_take h).2
  · have h : (reOf .str).matchLen "\"a\\\"b\"".toList = some 6 := by decide +kernel
    simpa using (Re.matchLen_take h).2

/-- the hypotheses of `number_single_token` / `quoted_single_token` hold for `42 + x` with `+`
registered, and for a string followed directly by a letter -/
example : Re.NumEnd " + x".toList ∧
    (∀ o ∈ [(⟨"+", 7, fixInfixL⟩ : Operator)], o.kind.toList.isPrefixOf "42 + x".toList = false) := by
  refine ⟨?_, by decide⟩
  intro c t e
  have : c = ' ' := by
    have := congrArg List.head? e
    simpa using this.symm
  subst this; decide

/-- the reference matcher on the lexer's patterns (kernel-evaluated): the leftmost-first match
of the first float pattern in `1.5e3e4` is `1.5e3`, of the second `1.5e3e4`; the integer
pattern finds `0` in `007`; the hex pattern `0x1F` in `0x1Fg`. -/
example : (reOf .floatA).matchLen "1.5e3e4".toList = some 5 ∧
    (reOf .floatB).matchLen "1.5e3e4".toList = some 7 ∧
    (reOf .int).matchLen "007".toList = some 1 ∧
    (reOf .hex).matchLen "0x1Fg".toList = some 4 ∧
    (reOf .floatB).matchLen "1.e5".toList = none := by decide +kernel

/-- `1.5e3e4` is a word of the second float pattern's language, yet it is lexed as two tokens
even before a blank: the first float pattern is tried first and stops after one exponent. -/
theorem two_exponents :
    (reOf .floatB).Matches "1.5e3e4".toList ∧
    (lex [] "1.5e3e4 ".toList).map (·.map (fun t => (t.kind, t.lexeme)))
      = .ok [("<num>", "1.5e3"), ("<sym>", "e4")] := by
  refine ⟨?_, by decide +kernel⟩
  have h : (reOf .floatB).matchLen "1.5e3e4".toList = some 7 := by decide
  simpa using (Re.matchLen_take h).2

/-- Each numeric, string and time literal form is one token (kernel-checked instances). -/
theorem literal_examples :
    (lex [] "12.5e+3".toList).map (·.map (fun t => (t.kind, t.lexeme))) = .ok [("<num>", "12.5e+3")] ∧
    (lex [] "1e5".toList).map (·.map (fun t => (t.kind, t.lexeme))) = .ok [("<num>", "1e5")] ∧
    (lex [] "0x1F".toList).map (·.map (fun t => (t.kind, t.lexeme))) = .ok [("<num>", "0x1F")] ∧
    (lex [] "0b101".toList).map (·.map (fun t => (t.kind, t.lexeme))) = .ok [("<num>", "0b101")] ∧
    (lex [] "0o17".toList).map (·.map (fun t => (t.kind, t.lexeme))) = .ok [("<num>", "0o17")] ∧
    (lex [] "42".toList).map (·.map (fun t => (t.kind, t.lexeme))) = .ok [("<num>", "42")] ∧
    (lex [] "\"a\\\"b c\"".toList).map (·.map (fun t => (t.kind, t.lexeme)))
      = .ok [("<str>", "\"a\\\"b c\"")] ∧
    (lex [] "`a \" b`".toList).map (·.map (fun t => (t.kind, t.lexeme))) = .ok [("<str>", "`a \" b`")] ∧
    (lex [] "'2020-01-01 10:00'".toList).map (·.map (fun t => (t.kind, t.lexeme)))
      = .ok [("<time>", "'2020-01-01 10:00'")] := by
  decide +kernel

end Yae.C09

#print axioms Yae.C09.lex_partition
#print axioms Yae.C09.lex_token_at
#print axioms Yae.C09.lex_token_cursor
#print axioms Yae.C09.lex_ordered
#print axioms Yae.C09.lex_slice
#print axioms Yae.C09.lex_no_fuel
#print axioms Yae.C09.lex_words
#print axioms Yae.C09.lex_prim
#print axioms Yae.C09.prim_needs_hyp
#print axioms Yae.C09.sortOps_perm
#print axioms Yae.C09.sortOps_sorted
#print axioms Yae.C09.sortOps_stable
#print axioms Yae.C09.lex_longest
#print axioms Yae.C09.d25_colon_operator
#print axioms Yae.C09.literal_examples
#print axioms Yae.C09.literal_rules
#print axioms Yae.C09.literal_forms
#print axioms Yae.C09.keyword_form
#print axioms Yae.C09.identOp_form
#print axioms Yae.C09.string_unique
#print axioms Yae.C09.lex_literal
#print axioms Yae.C09.literal_single_token
#print axioms Yae.C09.quoted_single_token
#print axioms Yae.C09.number_single_token
#print axioms Yae.C09.symbol_single_token
#print axioms Yae.C09.lex_quoted_first
#print axioms Yae.C09.lex_number_first
#print axioms Yae.C09.two_exponents
