/-
  C07 at the level of the engine object (`Yae/Model/Engine.lean`, `facade.go` `makeCallable`):
  "Invoking a compiled expression with an environment in which any name known at compile time is
  missing, or bound to a value of a different type, returns an error AND EVALUATES NOTHING;
  invoking it with any environment whose bindings have equal types … is accepted and evaluates
  normally."

  `Yae/Props/C07.lean` decides WHEN the environment check accepts; this file states what the
  Callable does with the verdict, for every engine, compiler, Callable and environment:
    * rejected: the outcome is the environment error and the event log is EMPTY — no host call,
      no print line, no debug entry (`reject_evaluates_nothing`, and in terms of the bindings
      `missing_or_mistyped_evaluates_nothing`);
    * accepted: the outcome is exactly the compiled tree evaluated on the run-time bindings
      (`accept_evaluates_normally`); in terms of the bindings only the weaker "the outcome is not
      an environment error" is stated (`equal_types_evaluate_normally`);
    * extra run-time names neither change the verdict nor the evaluation
      (`C13.extra_bindings_irrelevant`, `C07.extra_names_ok`).
-/
import Yae.Props.C07
import Yae.Model.Engine
namespace Yae.C07
open Yae Yae.Facade

/-- rejected ⇒ the error, and nothing was evaluated (empty event log) -/
theorem reject_evaluates_nothing (e : Engine) (c : Callable) (venv : List (String × Val))
    (ext : Externs) {err : EnvErr} (h : envCheck c.tenv venv = .error err) :
    e.invoke c venv ext = (.error (.env err), []) := by
  simp [Engine.invoke, h]

/-- accepted ⇒ the compiled tree evaluated on the run-time bindings, nothing else -/
theorem accept_evaluates_normally (e : Engine) (c : Callable) (venv : List (String × Val))
    (ext : Externs) (h : envCheck c.tenv venv = .ok ()) :
    e.invoke c venv ext =
      match runEval c.backend.dbg ⟨venv, e.tableFor c, ext⟩ c.tree with
      | (.ok v, evs) => (.ok v, evs)
      | (.error f, evs) => (.error (.fail f), evs) := by
  unfold Engine.invoke
  rw [h]
  rfl

/-- a compile-time name missing at run time, or bound to a value of another type: an environment
error is returned and the event log is empty -/
theorem missing_or_mistyped_evaluates_nothing (e : Engine) (c : Callable)
    (venv : List (String × Val)) (ext : Externs) {n : String} {t : Ty} (hm : (n, t) ∈ c.tenv)
    (hbad : lookupVal venv n = none ∨ ∃ v, lookupVal venv n = some v ∧ tyEq t v.typeOf = false) :
    ∃ err, e.invoke c venv ext = (.error (.env err), []) := by
  obtain ⟨err, herr⟩ := (reject_iff c.tenv venv).2 ⟨n, t, hm, hbad⟩
  exact ⟨err, reject_evaluates_nothing e c venv ext herr⟩

/-- every compile-time name bound to a value of an equal type (extra names allowed): accepted,
and the outcome is never an environment error -/
theorem equal_types_evaluate_normally (e : Engine) (c : Callable) (venv : List (String × Val))
    (ext : Externs)
    (h : ∀ n t, (n, t) ∈ c.tenv → ∃ v, lookupVal venv n = some v ∧ tyEq t v.typeOf = true) :
    ∀ err, (e.invoke c venv ext).1 ≠ .error (.env err) := by
  intro err
  rw [accept_evaluates_normally e c venv ext ((accept_iff c.tenv venv).2 h)]
  split <;> simp

-- non-vacuity: the tree `x : num` compiled against {x: num}, invoked without `x`
example : ∃ err, (Engine.new.invoke ⟨[("x", .num)], .num, .ident default "x", [], .vm⟩ [("y", .num 1.0)]) =
    (.error (.env err), []) :=
  missing_or_mistyped_evaluates_nothing _ _ _ {} (n := "x") (t := .num) (by simp) (Or.inl rfl)

end Yae.C07

#print axioms Yae.C07.reject_evaluates_nothing
#print axioms Yae.C07.accept_evaluates_normally
#print axioms Yae.C07.missing_or_mistyped_evaluates_nothing
#print axioms Yae.C07.equal_types_evaluate_normally
