/-
  C10. "Operator applications, the ?: conditional, method-call syntax and parentheses are pure
  notation: x op y, op x, c ? a : b, o.f(args) and (e) have the same type and value (or fail
  alike) as the explicit calls op(x,y), op(x), if(c,a,b), f(o,args) and e. After desugaring a
  tree contains only core forms, desugaring again changes nothing, the original tree is left
  untouched, and receiver and arguments keep their source order."

  Model: `Yae.Model.Desugar` (`desugar` = `trans.Desugar`, total; `desugarGo` adds the Go panic
  on a ternary not named `?`).  Proofs: `Yae.Proofs.Desugar`.

  How the sentences map to theorems

  * "pure notation … same type and value (or fail alike)": the type checker, the compiler and
    the evaluator of the model (`check`, `compile`, `eval`) are only ever applied to
    `desugar e` (on a sugar node they answer `unreachable`).  So two source trees have the same
    type / value / failure as soon as they have the same desugaring.  `shape_binary`,
    `shape_unary`, `shape_ternary`, `shape_method`, `shape_group` give the desugaring of each
    notation; `notation_binary` … `notation_group` restate them as "the sugared tree and the
    explicit call desugar to the same tree" (the explicit call being the one with the positions
    and the `DBGCol` that `trans.Desugar` copies: call position = position of the sugar node,
    callee identifier at the operator token, `DBGCol` = column of the operator token);
    `same_downstream` (congruence) is the consequence for every function of the desugared tree.
  * "only core forms": `core`, `core_go`.
  * "desugaring again changes nothing": FALSE in general (finding D18, kept visible):
    `not_idempotent` is the kernel-checked witness `(o.f)(x)`; `idem_partial` proves
    idempotence for every tree without a call whose callee is a parenthesised member access.
    `core_fixed` says what `desugar` does to a core tree: it rebuilds every node with the
    checker attachments erased, and `core_method_rewritten` that a core call whose callee is a
    bare `Member` IS rewritten (the method-call rule does not distinguish sugar from core).
  * "the original tree is left untouched": `desugar : Expr → Expr` is a function on immutable
    values; nothing can be stated beyond that in a pure model.  (For the Go code the
    differential harness serialises the input tree AFTER `Desugar` returned; a mutation would
    show up as a disagreement.  See `Yae/Driver/Parse.lean`.)
  * "receiver and arguments keep their source order": `shape_method` (receiver first, then the
    arguments), `args_order` (the argument list is mapped element by element), `shape_binary`
    (left operand, right operand), `shape_ternary` (condition, then-branch, else-branch).
-/
import Yae.Proofs.Desugar
import Yae.Model.Check
namespace Yae.C10
open Yae

/-- `x op y ↦ op(x, y)`: call at the node's position, callee identifier and `DBGCol` from the
operator token, left operand before right operand, fixity forgotten. -/
theorem shape_binary (p : Pos) (name : String) (np : Pos) (fx : Nat) (l r : Expr) :
    desugar (.binary p name np fx l r)
      = .call p np.col (.ident np name) (.cons (desugar l) (.cons (desugar r) .nil)) none "" (-1) :=
  rfl

/-- `op x` / `x op` `↦ op(x)` (prefix and postfix alike). -/
theorem shape_unary (p : Pos) (name : String) (np : Pos) (e : Expr) (isPrefix : Bool) :
    desugar (.unary p name np e isPrefix)
      = .call p np.col (.ident np name) (.cons (desugar e) .nil) none "" (-1) :=
  rfl

/-- `c ? a : b ↦ if(c, a, b)`; the callee identifier `if` sits at the `?` token. -/
theorem shape_ternary (p : Pos) (name : String) (np : Pos) (c a b : Expr) :
    desugar (.ternary p name np c a b)
      = .call p np.col (.ident np "if")
          (.cons (desugar c) (.cons (desugar a) (.cons (desugar b) .nil))) none "" (-1) :=
  rfl

/-- `o.f(args) ↦ f(o, args)`: the callee identifier sits at the field-name token, the call keeps
its position and `DBGCol`, the receiver comes first, the attachments of both nodes are dropped. -/
theorem shape_method (p : Pos) (col : Int) (mp : Pos) (mcol : Int) (o : Expr) (f : String)
    (fp : Pos) (oty : Option Ty) (mi : Int) (args : ExprList) (cty : Option Ty) (res : String)
    (idx : Int) :
    desugar (.call p col (.member mp mcol o f fp oty mi) args cty res idx)
      = .call p col (.ident fp f) (.cons (desugar o) (desugarList args)) none "" (-1) :=
  rfl

/-- `(e) ↦ e` -/
theorem shape_group (p : Pos) (e : Expr) : desugar (.group p e) = desugar e := rfl

/-- Any other call: callee and arguments are desugared in place. -/
theorem shape_call {p : Pos} {col : Int} {callee : Expr} {args : ExprList} {cty : Option Ty}
    {res : String} {idx : Int} (h : callee.isMember = false) :
    desugar (.call p col callee args cty res idx)
      = .call p col (desugar callee) (desugarList args) none "" (-1) := by
  cases callee <;> first | rfl | (simp [Expr.isMember] at h)

example : (Expr.ident Pos.zero "f").isMember = false := rfl

/-- The argument list keeps its length and order: it is mapped element by element. -/
theorem args_order (es : ExprList) : (desugarList es).toList = es.toList.map desugar := by
  match es with
  | .nil => rfl
  | .cons e es => simp only [desugarList, ExprList.toList, List.map_cons, args_order es]

/-- Map pairs keep their length and order, key before value (list elements go through
`args_order`, object fields through `fields_order`). -/
theorem pairs_order (ps : PairList) :
    (desugarPairs ps).toList = ps.toList.map (fun kv => (desugar kv.1, desugar kv.2)) := by
  match ps with
  | .nil => rfl
  | .cons k v ps => simp only [desugarPairs, PairList.toList, List.map_cons, pairs_order ps]

theorem fields_order (fs : FieldEList) :
    (desugarFields fs).toList = fs.toList.map (fun ne => (ne.1, desugar ne.2)) := by
  match fs with
  | .nil => rfl
  | .cons n e fs => simp only [desugarFields, FieldEList.toList, List.map_cons, fields_order fs]

/-- `x op y` and the explicit call `op(x, y)` desugar to the same tree. -/
theorem notation_binary (p : Pos) (name : String) (np : Pos) (fx : Nat) (l r : Expr)
    (cty : Option Ty) (res : String) (idx : Int) :
    desugar (.binary p name np fx l r)
      = desugar (.call p np.col (.ident np name) (.cons l (.cons r .nil)) cty res idx) := rfl

theorem notation_unary (p : Pos) (name : String) (np : Pos) (e : Expr) (isPrefix : Bool)
    (cty : Option Ty) (res : String) (idx : Int) :
    desugar (.unary p name np e isPrefix)
      = desugar (.call p np.col (.ident np name) (.cons e .nil) cty res idx) := rfl

theorem notation_ternary (p : Pos) (name : String) (np : Pos) (c a b : Expr)
    (cty : Option Ty) (res : String) (idx : Int) :
    desugar (.ternary p name np c a b)
      = desugar (.call p np.col (.ident np "if") (.cons c (.cons a (.cons b .nil))) cty res idx) :=
  rfl

theorem notation_method (p : Pos) (col : Int) (mp : Pos) (mcol : Int) (o : Expr) (f : String)
    (fp : Pos) (oty : Option Ty) (mi : Int) (args : ExprList) (cty cty' : Option Ty)
    (res res' : String) (idx idx' : Int) :
    desugar (.call p col (.member mp mcol o f fp oty mi) args cty res idx)
      = desugar (.call p col (.ident fp f) (.cons o args) cty' res' idx') := rfl

/-- The statement of `shape_group`, repeated so that the five `notation_*` stand together. -/
theorem notation_group (p : Pos) (e : Expr) : desugar (.group p e) = desugar e := rfl

/-- Congruence, stated for reference: any function `F` of the desugared tree (type checking,
compilation, evaluation are only applied to `desugar e`) takes equal values on two trees with the
same desugaring: same type, same value, same failure. -/
theorem same_downstream {α : Type} (F : Expr → α) {e₁ e₂ : Expr} (h : desugar e₁ = desugar e₂) :
    F (desugar e₁) = F (desugar e₂) := by rw [h]

/-- Instance: the type checker on `x op y` and on `op(x, y)`. -/
theorem same_type_binary (env : TEnv) (ctr : Nat) (p : Pos) (name : String) (np : Pos) (fx : Nat)
    (l r : Expr) :
    check env ctr (desugar (.binary p name np fx l r))
      = check env ctr (desugar (.call p np.col (.ident np name) (.cons l (.cons r .nil)) none "" (-1))) :=
  same_downstream (check env ctr) (notation_binary p name np fx l r none "" (-1))

/-- After desugaring a tree contains only core forms (no `Unary`, `Binary`, `Ternary`, `Group`).
No hypothesis is needed for the total function. -/
theorem core (e : Expr) : (desugar e).isCore = true := desugar_isCore_all.1 e

/-- Whenever Go's `Desugar` returns (does not panic) its result is core. -/
theorem core_go {e e' : Expr} (h : desugarGo e = some e') : e'.isCore = true := by
  unfold desugarGo at h
  split at h
  · cases h; exact core e
  · cases h

/-- non-vacuity of `core_go` -/
example : desugarGo (.group Pos.zero (.ident Pos.zero "x")) = some (.ident Pos.zero "x") := by
  simp [desugarGo, Expr.ternariesOk, desugar]

/-- `desugarGo` fails exactly on a ternary that is not named `?` (unreachable from the parser,
which names the node after the lexeme of the `?` token). -/
theorem go_defined_iff (e : Expr) : (desugarGo e).isSome = e.ternariesOk := by
  unfold desugarGo; split <;> simp_all

/-- On a core tree without method-call syntax `desugar` rebuilds every node and erases the
checker attachments (`Expr.eraseAtt`: `Type`, `VarType`, `ObjType`, `CalleeType` := nil,
`Resolved` := "", `Index` := -1); nothing else changes. -/
theorem core_fixed {e : Expr} (hc : e.isCore = true) (hm : e.noMemberCallee = true) :
    desugar e = e.eraseAtt :=
  desugar_core_fixed_all.1 e hc hm

/-- non-vacuity: `f(x)[i]` with attachments -/
example :
    let e : Expr := .subscript Pos.zero 0
      (.call Pos.zero 0 (.ident Pos.zero "f") (.cons (.ident Pos.zero "x") .nil) (some .num) "f" 3)
      (.ident Pos.zero "i") (some .str)
    e.isCore = true ∧ e.noMemberCallee = true ∧ desugar e ≠ e := by
  simp [Expr.isCore, isCoreList, Expr.noMemberCallee, noMemberCalleeList, Expr.isMember, desugar,
    desugarList]

/-- `noMemberCallee` cannot be dropped: a CORE call whose callee is a bare `Member` is rewritten
again (the method-call rule), so core trees are not fixed points of `desugar` in general. -/
theorem core_method_rewritten :
    let e : Expr := .call Pos.zero 0 (.member Pos.zero 0 (.ident Pos.zero "o") "f" Pos.zero none (-1))
      (.cons (.ident Pos.zero "x") .nil) none "" (-1)
    e.isCore = true ∧ e.eraseAtt = e ∧
    desugar e = .call Pos.zero 0 (.ident Pos.zero "f")
      (.cons (.ident Pos.zero "o") (.cons (.ident Pos.zero "x") .nil)) none "" (-1) := by
  simp [Expr.isCore, isCoreList, Expr.eraseAtt, eraseAttList, desugar, desugarList]

/-- The output of `desugar` carries no attachments. -/
theorem output_no_attachments (e : Expr) : (desugar e).eraseAtt = desugar e :=
  eraseAtt_desugar_all.1 e

/-- The tree of `(o.f)(x)`: a call whose callee is a `Group` around a `Member`. -/
def d18 : Expr :=
  .call Pos.zero 0
    (.group Pos.zero (.member Pos.zero 0 (.ident Pos.zero "o") "f" Pos.zero none (-1)))
    (.cons (.ident Pos.zero "x") .nil) none "" (-1)

/-- **D18**: `Desugar` is NOT idempotent.  `(o.f)(x)` desugars to the core tree "call of the
member node `o.f` with argument `x`" (the group is dropped, the method-call rule is not applied
because the callee was a `Group`); desugaring that tree again applies the method-call rule and
yields `f(o, x)`.  Both steps succeed in Go (`desugarGo` is defined on both). -/
theorem not_idempotent :
    desugar d18 = .call Pos.zero 0 (.member Pos.zero 0 (.ident Pos.zero "o") "f" Pos.zero none (-1))
        (.cons (.ident Pos.zero "x") .nil) none "" (-1) ∧
    desugar (desugar d18) = .call Pos.zero 0 (.ident Pos.zero "f")
        (.cons (.ident Pos.zero "o") (.cons (.ident Pos.zero "x") .nil)) none "" (-1) ∧
    desugar (desugar d18) ≠ desugar d18 ∧
    (desugarGo d18).isSome = true ∧ (desugarGo (desugar d18)).isSome = true := by
  simp [d18, desugar, desugarList, desugarGo, Expr.ternariesOk, ternariesOkList]

/-- Idempotence under the weakest structural hypothesis excluding D18: no call node whose callee
is a `Group` (possibly nested `Group`s) around a `Member`.

Full statement (FALSE, see `not_idempotent`): `∀ e, desugar (desugar e) = desugar e`. -/
theorem idem_partial {e : Expr} (h : e.noGroupMemberCallee = true) :
    desugar (desugar e) = desugar e := by
  rw [desugar_core_fixed_all.1 _ (core e) ((desugar_noMemberCallee_all.1 e).trans h)]
  exact eraseAtt_desugar_all.1 e

/-- non-vacuity: `(a + b).f(c ? d : e)` satisfies the hypothesis (method call on a group is fine,
only a group AS CALLEE around a member is excluded). -/
example :
    (Expr.call Pos.zero 0
      (.member Pos.zero 0
        (.group Pos.zero (.binary Pos.zero "+" Pos.zero fixInfixL (.ident Pos.zero "a") (.ident Pos.zero "b")))
        "f" Pos.zero none (-1))
      (.cons (.ternary Pos.zero "?" Pos.zero (.ident Pos.zero "c") (.ident Pos.zero "d") (.ident Pos.zero "e")) .nil)
      none "" (-1)).noGroupMemberCallee = true := by
  simp [Expr.noGroupMemberCallee, noGroupMemberCalleeList, Expr.isGroupedMember]

/-- The hypothesis is exactly what is needed at the top node: the excluded shape is the only way a
callee that is not a `Member` can desugar to a `Member`. -/
theorem desugars_to_member_iff (c : Expr) :
    (desugar c).isMember = c.stripGroups.isMember := desugar_isMember c

/-- The hypothesis of `idem_partial` fails on the D18 witness. -/
example : d18.noGroupMemberCallee = false := by
  simp [d18, Expr.noGroupMemberCallee, Expr.isGroupedMember, Expr.stripGroups, Expr.isMember]

/-- Under the same hypothesis the output contains no method-call syntax at all. -/
theorem output_no_member_callee {e : Expr} (h : e.noGroupMemberCallee = true) :
    (desugar e).noMemberCallee = true :=
  (desugar_noMemberCallee_all.1 e).trans h

end Yae.C10

#print axioms Yae.C10.shape_binary
#print axioms Yae.C10.shape_unary
#print axioms Yae.C10.shape_ternary
#print axioms Yae.C10.shape_method
#print axioms Yae.C10.shape_group
#print axioms Yae.C10.shape_call
#print axioms Yae.C10.args_order
#print axioms Yae.C10.pairs_order
#print axioms Yae.C10.fields_order
#print axioms Yae.C10.notation_binary
#print axioms Yae.C10.notation_unary
#print axioms Yae.C10.notation_ternary
#print axioms Yae.C10.notation_method
#print axioms Yae.C10.notation_group
#print axioms Yae.C10.same_downstream
#print axioms Yae.C10.same_type_binary
#print axioms Yae.C10.core
#print axioms Yae.C10.core_go
#print axioms Yae.C10.go_defined_iff
#print axioms Yae.C10.core_fixed
#print axioms Yae.C10.core_method_rewritten
#print axioms Yae.C10.output_no_attachments
#print axioms Yae.C10.not_idempotent
#print axioms Yae.C10.idem_partial
#print axioms Yae.C10.desugars_to_member_iff
#print axioms Yae.C10.output_no_member_callee
