/-
  C11.  "Every bytecode program the compiler emits (including the bodies of deferred
  arguments) decodes completely into known instructions with in-range constant, size and
  argument-count operands of the right kind; every jump targets a later instruction boundary
  inside the code; the evaluation stack depth at each instruction is the same on every path,
  never negative, and exactly one at the final return.  Consequently execution of an
  expression needs at most one step per emitted instruction and cannot underflow the stack or
  loop."

  The first sentence is what the executable verifier `Yae.VmVerify.verify` checks (theorem
  `verify_decodes` says so declaratively); it is run on the bytes the Go compiler emits by the
  `vm` correspondence stream.  The "consequently" clause is `verify_sound`.

  That `compile` only emits code the verifier accepts is in `Yae/Props/C11b.lean` (same
  namespace): `C11.compile_verified_partial`, and `C11.compile_verified_checked` for the tree the
  checker returns.  It is false for unchecked trees (`compile [] (.list p .nil none)` yields
  `NEW_LIST` with a name constant, which `verify` rejects), so it has the checker's invariants
  as hypotheses.
-/
import Yae.Proofs.VmVerify
namespace Yae.C11
open Yae Yae.Vm Yae.VmVerify

/-- **Soundness of the verifier** (the "consequently" clause).  If the main code and every
deferred body in the pool verify, then for every environment, every fuel and every initial
log, running the code from offset 0 on the empty stack never fails with a stack underflow, an
undecodable / truncated instruction, a constant of the wrong kind, an instruction form the
machine does not know, or a deferred argument where a value is expected (or conversely); and
it does not run out of fuel when the fuel is at least the number of emitted bytes (main code
plus all deferred bodies; every instruction is at least one byte). -/
theorem verify_sound {code : Code} {pool : Pool} (h : VmVerify.verify code pool = true)
    (env : REnv) (fuel : Nat) (log : List Event) (f : Fail)
    (hf : (run fuel env pool code 0 [] log).1 = .error f) :
    f ≠ .stuck "stack-underflow" ∧ f ≠ .stuck "bad-opcode-or-truncated" ∧
    f ≠ .stuck "const-kind" ∧ f ≠ .stuck "decode" ∧
    f ≠ .stuck "cast:thunk-as-value" ∧ f ≠ .stuck "cast:value-as-thunk" ∧
    (totalCodeSize code pool ≤ fuel → f ≠ .fuel) :=
  (verify_good h env fuel log).explicit hf

/-- Step bound per unit: one run of the deferred body stored at constant `i` needs fuel (=
instructions of that unit, plus what nested forcings inside it need) at most its own size plus
the sizes of the deferred bodies stored *before* it -- the only ones it can force.  With
`verify_sound` (main code: its size plus all bodies) this bounds every unit run by the code
size of the unit plus that of the units below it; the machine hands a nested run the fuel the
caller has left, so no bound independent of nesting exists for `run`'s fuel parameter, and the
number of forcings is decided by the host function. -/
theorem verify_sound_thunk {code : Code} {pool : Pool} (h : VmVerify.verify code pool = true)
    (env : REnv) {i : Nat} {body : Code} {ret : Ty} (hb : pool[i]? = some (.thunk body ret))
    (fuel : Nat) (log : List Event) (f : Fail)
    (hf : (run fuel env pool body 0 [] log).1 = .error f) :
    f ≠ .stuck "stack-underflow" ∧ f ≠ .stuck "bad-opcode-or-truncated" ∧
    f ≠ .stuck "const-kind" ∧ f ≠ .stuck "decode" ∧
    f ≠ .stuck "cast:thunk-as-value" ∧ f ≠ .stuck "cast:value-as-thunk" ∧
    (body.size + tsz pool i ≤ fuel → f ≠ .fuel) :=
  (verify_good_thunk h env hb fuel log).explicit hf

/-- `runVm` (the entry point the `vm` stream compares with the Go machine) passes enough fuel. -/
theorem runVm_sound {code : Code} {pool : Pool} (h : VmVerify.verify code pool = true)
    (env : REnv) (f : Fail) (hf : (runVm env code pool).1 = .error f) :
    f ≠ .fuel ∧ f ≠ .stuck "stack-underflow" ∧ f ≠ .stuck "bad-opcode-or-truncated" ∧
    f ≠ .stuck "const-kind" ∧ f ≠ .stuck "decode" ∧
    f ≠ .stuck "cast:thunk-as-value" ∧ f ≠ .stuck "cast:value-as-thunk" := by
  have hs := verify_sound h env (1000 * (totalCodeSize code pool + 1)) [] f (by simpa [runVm] using hf)
  refine ⟨hs.2.2.2.2.2.2 (by omega), hs.1, hs.2.1, hs.2.2.1, hs.2.2.2.1, hs.2.2.2.2.1, hs.2.2.2.2.2.1⟩

/-- **What the verifier checks** (the first sentence of C11).  If `verify code pool` holds then
the main code, with respect to the whole pool, and the body of every deferred argument, with
respect to the constants allocated before it, is well formed: it decodes completely from
offset 0 to its end into instructions `is` (offset, instruction) ending with `RETURN`, and
there is a labelling `d` of the offsets by abstract stacks (the kind of every slot; its
length is the depth), empty at offset 0, such that for every instruction
* its operands are in range and of the right kind (`OperandsOK`, i.e. `effect` is defined),
* it pops no more than the depth (and only slots of the kind it expects: `stepA`),
* a jump goes to a strictly later offset that is one of the decoded instruction boundaries
  inside the code, and the stack there is the one after the jump instruction,
* the next instruction (unless this is `RETURN` or `JUMP`) is labelled with the stack after
  this one -- so the depth at an instruction is the same on every path,
* at `RETURN` the stack is exactly one value, and `RETURN` is the last instruction. -/
theorem verify_decodes {code : Code} {pool : Pool} (h : VmVerify.verify code pool = true) :
    WellFormed pool code ∧
    ∀ i body ret, pool[i]? = some (.thunk body ret) → WellFormed (pool.extract 0 i) body :=
  ⟨verifyUnit_wf (verify_iff.mp h).1, fun i body ret hb => verifyUnit_wf ((verify_iff.mp h).2 i body ret hb)⟩

/-- `WellFormed` spelled out. -/
theorem wellFormed_explicit {pool : Pool} {code : Code} (h : WellFormed pool code) :
    ∃ (is : List (Nat × Instr)) (d : Nat → AStack),
      decodeAll code = some is ∧ d 0 = [] ∧ (∃ o, is.getLast? = some (o, .simple .RETURN)) ∧
      ∀ o ins, (o, ins) ∈ is →
        ∃ next σ' pops pushes, decodeAt code o = some (ins, next) ∧ o < next ∧ next ≤ code.size ∧
          OperandsOK pool ins ∧ effect pool ins = some (pops, pushes) ∧
          stepA pool ins (d o) = some σ' ∧
          pops ≤ (d o).length ∧ σ'.length = (d o).length - pops + pushes ∧
          (ins = .simple .RETURN → d o = [false] ∧ next = code.size) ∧
          (∀ op t, ins = .jump op t → o < t ∧ t < code.size ∧ t ∈ is.map (·.1) ∧ d t = σ') ∧
          (ins ≠ .simple .RETURN → (∀ t, ins ≠ .jump .JUMP t) → next ∈ is.map (·.1) ∧ d next = σ') :=
  h.explicit

/-! Non-vacuity: two programs the verifier accepts (a conditional, a lazy call with two deferred
bodies), and two it rejects although a depth-only or whole-pool check would accept them. -/

/-- `true ? "a" : "b"`: `CONST 0; IF_TRUE 12; CONST 1; JUMP 15; CONST 2; RETURN` -/
def exCondCode : Code := #[2,0,0, 54,0,12, 2,0,1, 56,0,15, 2,0,2, 1]
def exCondPool : Pool := #[.val (.bool true), .val (.str "a"), .val (.str "b")]

def exLazy : FunDecl :=
  { ty := .fn "lz" (.cons .str (.cons .str .nil)) .str, ref := .host "lz" (.force [1, 0, 1]), isLazy := true }
/-- `lz("x", "y")` for a lazy host function: `CONST 1; CONST 3; CALL_BY_NEED 4 2; RETURN`,
the two deferred bodies being `CONST 0; RETURN` and `CONST 2; RETURN` -/
def exLazyCode : Code := #[2,0,1, 2,0,3, 51,0,4,2, 1]
def exLazyPool : Pool :=
  #[.val (.str "x"), .thunk #[2,0,0,1] .str, .val (.str "y"), .thunk #[2,0,2,1] .str, .fn exLazy]

theorem exCond_verified : VmVerify.verify exCondCode exCondPool = true := by decide
theorem exLazy_verified : VmVerify.verify exLazyCode exLazyPool = true := by decide

example : VmVerify.verify exCondCode exCondPool = true := exCond_verified
example : VmVerify.verify exLazyCode exLazyPool = true := exLazy_verified
example : exLazyPool[3]? = some (.thunk #[2,0,2,1] .str) := rfl
example : WellFormed exCondPool exCondCode := (verify_decodes exCond_verified).1
example : WellFormed (exLazyPool.extract 0 3) #[2,0,2,1] :=
  (verify_decodes exLazy_verified).2 3 _ _ rfl
/-- `verify_sound` / `runVm_sound` apply to them: e.g. the lazy call cannot run out of fuel -/
example (env : REnv) : (runVm env exLazyCode exLazyPool).1 ≠ .error .fuel :=
  fun h => (runVm_sound exLazy_verified env .fuel h).1 rfl
/-- a deferred argument left on the stack at `RETURN` is rejected (a depth-only check would
accept it, and the machine would fail with `cast:thunk-as-value`) -/
example : VmVerify.verify #[2,0,1, 1] exLazyPool = false := by decide
/-- a deferred body that forces itself is rejected (a check of every body against the whole
pool would accept it; the machine would recurse until the fuel is gone) -/
def exSelfPool : Pool := #[.thunk #[2,0,0, 51,0,1,1, 1] .str, .fn exLazy]
example : VmVerify.verify #[2,0,0, 51,0,1,1, 1] exSelfPool = false := by decide

end Yae.C11

#print axioms Yae.C11.verify_sound
#print axioms Yae.C11.verify_sound_thunk
#print axioms Yae.C11.runVm_sound
#print axioms Yae.C11.verify_decodes
#print axioms Yae.C11.wellFormed_explicit
