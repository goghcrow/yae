/-
  C16. "A value that may be absent has a distinct optional type; no operator, built-in or field /
  index access accepts it where the underlying type is required, so every such program is
  rejected at compile time. The only way to use it is get(optional, default), which yields the
  payload when present and the default otherwise; hence evaluating an accepted expression over
  host data containing nil pointers, nil slices or nil maps never fails because of the absence."

  Model: `Yae.Model.Unify` (`unify`), `Yae.Model.Check` (`check`), `Yae.Model.Builtins`
  (`builtins`, `applyBuiltin`).  Specification: `Yae.Spec.Typing`.  Proofs:
  `Yae.Proofs.TypingOpt`.

  The last clause ("hence evaluating … never fails because of the absence") has no theorem of its
  own here: it is `Yae.C02.progress` — an accepted expression in a conforming environment yields
  a value or an `Allowed` failure, and no `Allowed` failure is a nil fault — together with the
  first sentence, proved here: nothing that needs the underlying type accepts an optional.
-/
import Yae.Proofs.TypingOpt
import Yae.Proofs.TypingD22
import Yae.Proofs.TyUnify
namespace Yae.C16
open Yae

/-- A parameter pattern that unifies with `maybe[t]` is a type
variable, an optional pattern, or `⊤` — never the underlying type. -/
theorem no_coercion {fuel : Nat} {p t : Ty} {m : Subst} {r : Ty × Subst}
    (h : unify fuel p (.maybe t) m = .ok r) :
    (∃ n, p = .var n) ∨ (∃ a, p = .maybe a) ∨ p = .top := by
  cases fuel with
  | zero => simp [unify] at h
  | succ f =>
    by_cases hp : p.kind = .tyvar
    · cases p <;> simp [Ty.kind] at hp
      exact .inl ⟨_, rfl⟩
    · rw [unify_nonvar f p (.maybe t) m hp (by simp [Ty.kind])] at h
      split at h
      · next hc => cases p <;> simp [Ty.isPrimitive, Ty.kind, Kind.isPrimitive] at hc
      · split at h
        · next hc =>
          cases p <;> simp [Ty.isComposite, Ty.kind, Kind.isComposite] at hc
          exact .inr (.inl ⟨_, rfl⟩)
        · split at h
          · next hc =>
            cases p <;> simp [Ty.kind] at hc
            exact .inr (.inr rfl)
          · exact absurd h Except.throw_ne_ok

/-- non-vacuity: `maybe['a]` unifies with `maybe[num]`; and `num` does not -/
example : unify 2 (.maybe (.var "a")) (.maybe .num) [] = .ok (.maybe .num, [("a", .num)]) := by
  rw [unify_nonvar _ _ _ _ (by decide) (by decide)]
  simp [Ty.isPrimitive, Ty.isComposite, Ty.kind, Kind.isPrimitive, Kind.isComposite,
    unifyComposite]
  rw [unify_var_left _ _ _ _ (by decide)]
  simp [applySubst, freeFrom, Subst.get?, Subst.set]

example (fuel : Nat) (m : Subst) (r : Ty × Subst) : unify fuel .num (.maybe .num) m ≠ .ok r := by
  intro h
  rcases no_coercion h with ⟨_, h⟩ | ⟨_, h⟩ | h <;> cases h

/-- `⊤` occurs in no built-in signature, so for the built-ins the third alternative is void. -/
theorem builtins_no_top : builtins.all (fun b => noTop b.ty) = true := by decide

/-- `no_coercion` for the specification's matching (`pmatch`, what `instantiate` is made of). -/
theorem no_coercion_spec {p t : Ty} {m : Subst} {r : Ty × Subst}
    (h : pmatch p (.maybe t) m = some r) : AcceptsMaybe p := by
  cases p <;> first
    | exact .inl ⟨_, rfl⟩
    | exact .inr (.inl ⟨_, rfl⟩)
    | exact .inr (.inr rfl)
    | (simp [pmatch] at h)

example : pmatch (.maybe (.var "a")) (.maybe .num) [] = some (.maybe .num, [("a", .num)]) := rfl

/-- Lifted to calls: in a well-typed call (by `C05.sound_partial`: in every call the checker
accepts) an argument of type `maybe[t]` meets, in the selected overload `d`, a parameter that is a
type variable, an optional pattern, or `⊤`. -/
theorem call_no_coercion {Γ : TEnv} {p col cp f args cty res idx T}
    (h : Typed Γ (.call p col (.ident cp f) args cty res idx) T) :
    ∃ As d name ps ret, TypedArgs Γ args As ∧ d ∈ Γ.funs ∧ d.ty = .fn name ps ret ∧
      ∀ i t, As.get? i = some (.maybe t) → ∃ q, ps.get? i = some q ∧ AcceptsMaybe q := by
  cases h with
  | callMono ha hm hty hlen hte =>
    rename_i As d name ps
    refine ⟨As, d, name, ps, _, ha, (lookupMono_mem hm).1, hty, fun i t hi => ?_⟩
    obtain ⟨q, hq, he⟩ := tyEqList_get _ _ hte i _ hi
    exact ⟨q, hq, .inr (.inl (tyEq_maybe_right he))⟩
  | callPoly ha hm hfi hte =>
    rename_i As ps'
    obtain ⟨d, hmem, name, ps, ret, hty, hi⟩ := hfi.selected
    obtain ⟨hl, _, hpm, _⟩ := instantiate_some hi
    refine ⟨As, d, name, ps, ret, ha, (lookupPoly_mem hmem).1, hty, fun i t hi => ?_⟩
    obtain ⟨q, m1, r1, hq, hm1⟩ := pmatchList_get _ _ _ _ hl hpm i _ hi
    exact ⟨q, hq, no_coercion_spec hm1⟩
  | callFn hni _ _ _ _ => cases hni

/-- `call_no_coercion` for accepted programs (`EnvOK` is `Yae.EnvOK Γ`, the condition on the
signatures of C05, not the run-time `Sound.EnvOK Γ ρ`) -/
theorem accepted_call_no_coercion {Γ : TEnv} (hΓ : EnvOK Γ) {c c' : Nat} {p col cp f args cty res idx}
    {T : Ty} {e' : Expr}
    (h : check Γ c (.call p col (.ident cp f) args cty res idx) = .ok (T, e', c')) :
    ∃ As d name ps ret, TypedArgs Γ args As ∧ d ∈ Γ.funs ∧ d.ty = .fn name ps ret ∧
      ∀ i t, As.get? i = some (.maybe t) → ∃ q, ps.get? i = some q ∧ AcceptsMaybe q :=
  call_no_coercion (check_sound hΓ _ c T e' c' h)

/-- non-vacuity: `x + x` in `exEnv` -/
example : EnvOK exEnv ∧ ∃ e', check exEnv 0 exExpr = .ok (.num, e', 0) := ⟨exEnv_ok, exExpr_checked⟩

/-- non-vacuity: `get(o, 0)` with `o : maybe[num]` is well typed in the built-in table -/
example : Typed (builtinEnv [("o", .maybe .num)])
    (.call Pos.unknown 0 (.ident Pos.unknown "get")
      (.cons (.ident Pos.unknown "o") (.cons (.num Pos.unknown 0) .nil)) none "" 0) .num := by
  refine .callPoly (As := .cons (.maybe .num) (.cons .num .nil))
    (ps' := .cons (.maybe .num) (.cons .num .nil))
    (.cons (.ident (notReserved_short rfl) rfl) (.cons (.num _ _) .nil)) rfl ?_ rfl
  have : lookupPoly (builtinEnv [("o", .maybe .num)]).funs
      (polyKey "get" (TyList.cons (.maybe .num) (.cons .num .nil)).length) =
      [⟨.fn "get" (.cons (.maybe (.var "a")) (.cons (.var "a") .nil)) (.var "a"), .builtin 17,
        false⟩] := rfl
  rw [this]
  exact .here rfl rfl

/-- The only built-in parameter of the form `maybe[_]` is the first parameter of `get(maybe['a],
'a)`; the built-in parameters that are bare type variables (they accept an optional, as any other
type, without looking inside it) are exactly: the default of the three `get`s, the key of
`get(map)` / `isset`, the branches of `if`, the operands of `print` and `string`. -/
theorem sole_eliminator :
    builtinParamsWhere isMaybeTy = [(.GET_MAYBE, 0)] ∧
    builtinParamsWhere isVarTy =
      [(.GET_LIST_NUM_ANY, 2), (.GET_MAP_ANY_ANY, 1), (.GET_MAP_ANY_ANY, 2), (.GET_MAYBE, 1),
       (.IF_BOOL_ANY_ANY, 1), (.IF_BOOL_ANY_ANY, 2), (.ISSET_MAP_ANY, 1), (.PRINT_ANY, 0),
       (.STRING_ANY, 0)] := by
  constructor <;> decide

/-! ## field and index access on an optional are rejected -/

theorem member_rejected {Γ : TEnv} {c c1 : Nat} {obj obj' : Expr} {t : Ty}
    (h : check Γ c obj = .ok (.maybe t, obj', c1)) (p : Pos) (col : Int) (field : String)
    (fp : Pos) (oty : Option Ty) (i : Int) :
    check Γ c (.member p col obj field fp oty i) = .error .type := by
  rw [check, h]
  rfl

theorem subscript_rejected {Γ : TEnv} {c c1 : Nat} {var var' : Expr} {t : Ty}
    (h : check Γ c var = .ok (.maybe t, var', c1)) (p : Pos) (col : Int) (idx : Expr)
    (vty : Option Ty) :
    check Γ c (.subscript p col var idx vty) = .error .type := by
  rw [check, h]
  rfl

example : check (builtinEnv [("o", .maybe .num)]) 0 (.ident Pos.unknown "o") =
    .ok (.maybe .num, .ident Pos.unknown "o", 0) :=
  check_ident (notReserved_short rfl) rfl

/-- At the level of the rules: no rule gives a type to `o.f` or `o[i]` for `o : maybe[t]` -/
theorem member_untyped {Γ : TEnv} {o : Expr} {t : Ty} (h : Typed Γ o (.maybe t)) (p : Pos)
    (col : Int) (f : String) (fp : Pos) (oty : Option Ty) (i : Int) :
    ¬ ∃ T, Typed Γ (.member p col o f fp oty i) T := by
  rintro ⟨T, h'⟩
  cases h' with
  | member a _ => cases typed_unique o _ _ h a

theorem subscript_untyped {Γ : TEnv} {o : Expr} {t : Ty} (h : Typed Γ o (.maybe t)) (p : Pos)
    (col : Int) (idx : Expr) (vty : Option Ty) :
    ¬ ∃ T, Typed Γ (.subscript p col o idx vty) T := by
  rintro ⟨T, h'⟩
  cases h' with
  | subList a _ _ => cases typed_unique o _ _ h a
  | subMap a _ _ => cases typed_unique o _ _ h a

example : Typed (builtinEnv [("o", .maybe .num)]) (.ident Pos.unknown "o") (.maybe .num) :=
  .ident (notReserved_short rfl) rfl

/-- `get(optional, default)`: the payload when present, the default otherwise (the statement of
`C04.get_maybe`, here where the property names it). -/
theorem get_maybe_spec (ext : Externs) (T : Ty) (v d : Val) :
    applyBuiltin ext .GET_MAYBE [.just T v, d] = .ok (v, []) ∧
    applyBuiltin ext .GET_MAYBE [.nothing T, d] = .ok (d, []) := ⟨rfl, rfl⟩

end Yae.C16

#print axioms Yae.C16.no_coercion
#print axioms Yae.C16.builtins_no_top
#print axioms Yae.C16.no_coercion_spec
#print axioms Yae.C16.call_no_coercion
#print axioms Yae.C16.accepted_call_no_coercion
#print axioms Yae.C16.sole_eliminator
#print axioms Yae.C16.member_rejected
#print axioms Yae.C16.subscript_rejected
#print axioms Yae.C16.member_untyped
#print axioms Yae.C16.subscript_untyped
#print axioms Yae.C16.get_maybe_spec
