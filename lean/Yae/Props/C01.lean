/-
  C01. "Whenever an expression is accepted with inferred type T and evaluated in an environment
  that passed the environment check, any value it produces has type T, and every component of
  that value (list elements, map keys and values, object fields, optional payloads) has the type
  its container declares, with no absent (nil) component. This holds irrespective of the order
  in which object fields were written in literals or supplied by host data."

  Model: `Yae.Model.Check` (`check` returns the inferred type and the annotated tree),
  `Yae.Model.Eval` (`eval`, the reference evaluator of the annotated tree; tags are checked
  dynamically).  Definitions: `Yae.Spec.WF`:
    `WF v`      deep well-formedness (components `WF`, of the component type the container's own
                type declares up to `tyEq`; object arity; map key kinds; no `.nil`; function
                values respect their type),
    `HasTy v T` `WF v ∧ tyEq T v.typeOf`  (`tyEq` compares object fields BY NAME),
    `FunsOK`    every registered function is what its signature says (`declOK`),
    `EnvOK Γ ρ` the environment check,
    `Ann Γ e T` what `check` guarantees about the tree it returns;
  and `slotFree T` (`Yae.Model.Ty`): no type variable occurs in `T`.
  Proofs: `Yae.Proofs.Soundness*`.
-/
import Yae.Proofs.SoundnessMain
import Yae.Proofs.SoundnessExample
import Yae.Proofs.SoundnessExample2
namespace Yae.C01
open Yae Yae.Sound

/-- Every strict built-in, at every ground instance `σ` of its signature, applied to well-formed
arguments of the instantiated parameter types, returns a well-formed value of the instantiated
return type, or fails with a documented failure, or misses the harness' table of external
functions (extern-miss is treated as a separate allowed outcome). -/
theorem builtin_sound (ext : Externs) (b : BuiltinDecl) (hb : b ∈ builtins)
    (hstrict : b.isLazy = false)
    {name : String} {ps : TyList} {ret : Ty} (hty : b.ty = .fn name ps ret)
    (σ : Subst) (hσ : σ.Ground)
    (hw : wfList (substGList σ ps) = true) (hs : slotFreeList (substGList σ ps) = true)
    (vs : List Val) (hvs : HasTyList vs (substGList σ ps)) :
    match applyBuiltin ext b.id vs with
    | .ok (v, _) => HasTy v (substG σ ret)
    | .error f => Documented f ∨ f = .stuck "extern-miss:regex" ∨
        f = .stuck "extern-miss:strtotime" :=
  Yae.Sound.builtin_sound ext b hb hstrict hty σ hσ hw hs vs hvs

theorem ex_ground : Subst.Ground [("a", Ty.str)] := Example.ground_single rfl rfl

/-- non-vacuity: `get(list['a], num, 'a)` at `'a := str` on `["x"]`, index 0, default "d"
(`builtins[15]`) -/
example : ∃ b ∈ builtins, b.isLazy = false ∧ ∃ name ps ret, b.ty = .fn name ps ret ∧
    ∃ σ : Subst, σ.Ground ∧ wfList (substGList σ ps) = true ∧
      slotFreeList (substGList σ ps) = true ∧
      ∃ vs, HasTyList vs (substGList σ ps) := by
  refine ⟨⟨.GET_LIST_NUM_ANY,
    .fn "get" (.cons (.list (.var "a")) (.cons .num (.cons (.var "a") .nil))) (.var "a"), false⟩,
    List.mem_of_getElem? (i := 15) rfl, rfl, _, _, _, rfl, [("a", .str)], ex_ground,
    by decide, by decide,
    [.list (.list .str) (.cons (.str "x") .nil), .num 0, .str "d"], ?_⟩
  simp only [substGList, substG, Subst.get?, HasTyList]
  decide

/-- What `FunsOK` demands of a strict host function (`hostRespects`, a syntactic condition on
the registered signature and the behaviour) means: at every instance of the signature, on
well-formed arguments of the instantiated parameter types, the function returns a well-formed
value of the instantiated return type or fails on purpose. -/
theorem host_respects {n : String} {ps : TyList} {ret : Ty} {name : String} {beh : HostBeh}
    (h : hostRespects (.fn n ps ret) beh false = true) (σ : Subst)
    (vs : List Val) (hvs : HasTyList vs (substGList σ ps)) (log : List Event) :
    match (hostStrict name beh vs log).1 with
    | .ok v => HasTy v (substG σ ret)
    | .error f => f = .hostFail name :=
  hostRespects_sound h σ vs hvs log

example : hostRespects (.fn "id" (.cons (.var "a") .nil) (.var "a")) (.retArg 0) false = true ∧
    HasTyList [.num 1] (substGList [("a", .num)] (.cons (.var "a") .nil)) := by
  refine ⟨by decide, ?_⟩
  simp only [substGList, substG, Subst.get?, HasTyList]
  decide

/-- The tree returned by the checker satisfies `Ann` (list/map/object attachments are the
inferred types; a statically dispatched call resolves at run time to a registered function whose
signature instantiates to the argument types with the inferred result type; a member's object
type has the field; …) and the inferred type is well formed and variable free. -/
theorem check_annotated {Γ : TEnv} (hf : FunsOK Γ.funs) (hv : VarsOK Γ)
    {c : Nat} {e : Expr} {T : Ty} {e' : Expr} {c' : Nat}
    (h : check Γ c e = .ok (T, e', c')) :
    Ann Γ e' T ∧ T.wf = true ∧ slotFree T = true :=
  have hA := check_ann hf hv e c T e' c' h
  ⟨hA, ann_wf hv e' T hA⟩

example : FunsOK Example.Γ.funs ∧ VarsOK Example.Γ ∧
    check Example.Γ 0 Example.prog = .ok (.num, Example.prog', 0) :=
  ⟨Example.funsOK, Example.envOK.tys, Example.checked⟩

/-- evaluation of an annotated tree in a conforming environment yields values of its type -/
theorem annotated_sound {Γ : TEnv} {ρ : REnv} (hf : FunsOK Γ.funs) (henv : EnvOK Γ ρ)
    {e' : Expr} {T : Ty} (hA : Ann Γ e' T)
    {fuel : Nat} {dbg : Bool} {log log' : List Event} {v : Val}
    (he : eval fuel dbg ρ e' log = (.ok v, log')) : HasTy v T :=
  ann_sound hf henv hA he

example : FunsOK Example.Γ.funs ∧ EnvOK Example.Γ Example.ρ ∧ Ann Example.Γ Example.prog' .num ∧
    eval 3 false Example.ρ Example.prog' [] = (.ok (.num ((1 : Float) + 2)), []) :=
  ⟨Example.funsOK, Example.envOK,
    (check_annotated Example.funsOK Example.envOK.tys Example.checked).1, Example.evaluated⟩

/-- non-vacuity on the other paths: `id(h.f(1))` — a polymorphic HOST function (`retArg 0`,
signature `('a) → 'a`) applied to a DYNAMICALLY dispatched call of a function value stored in an
object of the environment; the function table also contains a failing and a lazy host function -/
example : FunsOK Example.Γ2.funs ∧ EnvOK Example.Γ2 Example.ρ2 ∧
    Ann Example.Γ2 Example.idProg' .num ∧
    (eval 5 false Example.ρ2 Example.idProg' []).1 = .ok (.num 7) :=
  ⟨Example.funsOK2, Example.envOK2, Example.idAnn, Example.idEval⟩

/-- non-vacuity with a polymorphic built-in: `get(["x"], 7, "d")` -/
example : FunsOK Example.Γ.funs ∧ EnvOK Example.Γ Example.ρ ∧ Ann Example.Γ Example.getProg' .str :=
  ⟨Example.funsOK, Example.envOK, Example.getAnn⟩

/-- C01: an expression accepted with inferred type `T`, evaluated (with any fuel, with or without
debug recording, from any event log) in an environment that passed the environment check, can
only produce values of type `T`.  `HasTy` is deep (`WF`), and is up to `tyEq`, i.e. object
fields by name: the value may list its fields in any order. -/
theorem preservation {Γ : TEnv} {ρ : REnv} (hf : FunsOK Γ.funs) (henv : EnvOK Γ ρ)
    {c : Nat} {e : Expr} {T : Ty} {e' : Expr} {c' : Nat}
    (hc : check Γ c e = .ok (T, e', c'))
    {fuel : Nat} {dbg : Bool} {log log' : List Event} {v : Val}
    (he : eval fuel dbg ρ e' log = (.ok v, log')) : HasTy v T :=
  annotated_sound hf henv (check_annotated hf henv.tys hc).1 he

/-- non-vacuity: `o.a + 2` with `o : {a: num, b: str}` bound to a value whose own type is
`{b: str, a: num}` is accepted with type `num` and evaluates to a value -/
example : FunsOK Example.Γ.funs ∧ EnvOK Example.Γ Example.ρ ∧
    check Example.Γ 0 Example.prog = .ok (.num, Example.prog', 0) ∧
    eval 3 false Example.ρ Example.prog' [] = (.ok (.num ((1 : Float) + 2)), []) :=
  ⟨Example.funsOK, Example.envOK, Example.checked, Example.evaluated⟩

/-- for the entry point `runEval` (fuel `e'.depth + 1`) -/
theorem preservation_run {Γ : TEnv} {ρ : REnv} (hf : FunsOK Γ.funs) (henv : EnvOK Γ ρ)
    {c : Nat} {e : Expr} {T : Ty} {e' : Expr} {c' : Nat}
    (hc : check Γ c e = .ok (T, e', c'))
    {dbg : Bool} {evs : List Event} {v : Val}
    (he : runEval dbg ρ e' = (.ok v, evs)) : HasTy v T := by
  unfold runEval at he
  rcases hr : eval (e'.depth + 1) dbg ρ e' [] with ⟨r, l⟩
  rw [hr] at he
  simp only [Prod.mk.injEq] at he
  obtain ⟨rfl, _⟩ := he
  exact preservation hf henv hc hr

example : runEval false Example.ρ Example.prog' = (.ok (.num ((1 : Float) + 2)), []) := by
  unfold runEval
  rw [Example.depth_prog']
  show (match eval 4 false Example.ρ Example.prog' [] with | (r, log) => (r, log.reverse)) = _
  have hb : builtins[2]? =
      some ⟨.ADD_NUM_NUM, .fn "+" (.cons .num (.cons .num .nil)) .num, false⟩ := rfl
  have ho : Example.ρ.lookupVar "o" = some Example.oVal := rfl
  simp only [Example.prog', eval, Example.resolved, callFun, hb, evalList, ho, Example.oVal, recDbg]
  rfl

/-! ## What `HasTy v T` says about the components of `v`: the second sentence of the property -/

/-- no absent (nil) component anywhere inside a well-typed value -/
theorem no_nil {v : Val} {T : Ty} (h : HasTy v T) : noNil v = true := WF_noNil v h.1

example : HasTy Example.oVal Example.objT ∧ noNil Example.oVal = true := by decide

/-- list elements have the element type -/
theorem list_components {v : Val} {el : Ty} (h : HasTy v (.list el)) (hel : el.wf = true) :
    ∃ ty vs, v = .list ty vs ∧ ∀ i x, vs.get? i = some x → HasTy x el :=
  h.list_elems hel

example : HasTy (.list (.list .num) (.cons (.num 1) .nil)) (.list .num) ∧ Ty.num.wf = true := by
  decide

/-- map keys have the key kind and map values the value type -/
theorem map_components {v : Val} {K V : Ty} (h : HasTy v (.map K V)) (hV : V.wf = true) :
    ∃ ty es, v = .map ty es ∧
      (∀ t ks x, es.find? t ks = some x → HasTy x V) ∧
      (∀ t ks x, (t, ks, x) ∈ es.toList → t = K.kind) :=
  h.map_entries hV

example : HasTy (.map (.map .str .num) (.cons .str "\"k\"" (.num 1) .nil)) (.map .str .num) ∧
    Ty.num.wf = true := by decide

/-- optional payloads have the payload type -/
theorem maybe_components {v : Val} {el : Ty} (h : HasTy v (.maybe el)) (hel : el.wf = true) :
    (∃ ty x, v = .just ty x ∧ HasTy x el) ∨ (∃ ty, v = .nothing ty) :=
  h.maybe_payload hel

example : HasTy (.just .num (.num 1)) (.maybe .num) ∧ Ty.num.wf = true := by decide

/-- C01, field order: a value of object type `{fs}` may list its fields in ANY order (its own
type `gs` is only `tyEq`, i.e. equal by name, to the static type).  Member access looks the
field up by name in the value's own type (`objGet?`) and finds a value of the field's static
type. -/
theorem field_order {v : Val} {fs : FieldList} {field : String} {T : Ty}
    (h : HasTy v (.obj fs)) (hfs : (Ty.obj fs).wf = true) (hf : fs.find? field = some T) :
    ∃ gs vs x, v = .obj (.obj gs) vs ∧ objGet? (.obj gs) vs field = some x ∧ HasTy x T :=
  h.obj_field hfs hf

/-- non-vacuity, with a permuted object: static type `{a: num, b: str}`, the value's own type is
`{b: str, a: num}` with positional values `["x", 1]`; field `a` is found by name -/
example : HasTy Example.oVal (.obj (.cons "a" .num (.cons "b" .str .nil))) ∧
    Example.oVal.typeOf = .obj (.cons "b" .str (.cons "a" .num .nil)) ∧
    objGet? Example.objT' (.cons (.str "x") (.cons (.num 1) .nil)) "a" = some (.num 1) :=
  ⟨by decide, rfl, rfl⟩

/-- non-vacuity with permuted object LITERALS: `[{a: 1, b: "x"}, {b: "y", a: 2}][1].a` — two object
literals with their fields in different orders in one list — is accepted with type `num`; the second
element of the list value carries its own type `{b: str, a: num}`, and `.a` finds `2` by name -/
example : check Example.Γ 0 Example.mixed = .ok (.num, Example.mixed', 0) ∧
    (eval 5 false Example.ρ Example.mixed' []).1 = .ok (.num 2) :=
  ⟨Example.mixedChecked, Example.mixedEval⟩

/-- `{b: "x", a: 1}` is accepted where `{a: num, b: str}` is the declared type of
an equal value: the two object types are equal by name -/
example : tyEq (.obj (.cons "a" .num (.cons "b" .str .nil)))
               (.obj (.cons "b" .str (.cons "a" .num .nil))) = true := by decide

end Yae.C01

#print axioms Yae.C01.builtin_sound
#print axioms Yae.C01.host_respects
#print axioms Yae.C01.check_annotated
#print axioms Yae.C01.annotated_sound
#print axioms Yae.C01.preservation
#print axioms Yae.C01.preservation_run
#print axioms Yae.C01.no_nil
#print axioms Yae.C01.list_components
#print axioms Yae.C01.map_components
#print axioms Yae.C01.maybe_components
#print axioms Yae.C01.field_order
