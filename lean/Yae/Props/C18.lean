/-
  C18 (equality, map-key identity, set membership and rendering agree).  "For values whose
  numeric parts are either identical or differ by more than the comparison tolerance, two values
  are equal under == exactly when they render to the same text, select the same map entry and
  count as the same element in union / intersect / diff; equality is reflexive and symmetric.
  Rendering is canonical: it does not depend on the order in which object fields or map entries
  were supplied, and distinct numbers - however large - never render alike or collide as map
  keys."

  Proofs: `Yae/Proofs/ValRel*.lean`; the induction for `valEq_refl_iff` is in this file.

  Everything that depends on IEEE arithmetic or on the shortest round-trip formatting algorithm is
  stated relative to an explicit hypothesis `F : FloatFacts` (`Yae/Proofs/ValRelEq.lean`); nothing
  is taken as an axiom.  `Float.toBits` is opaque to the kernel, so numeric facts are about the bit
  patterns `x.toBits`.

  What is NOT claimed (with kernel-checked counterexamples below):
  * `==` ⇒ same text fails for equal instants displayed in different zones, and for optionals
    whose element types are `tyEq` object types with permuted fields;
  * `Val.stringify` (the `string()` built-in) of objects follows declaration order;
  * reflexivity fails for NaN / ±Inf leaves (`|x - x|` is NaN) and, in the model, for function
    values (every occurrence is a distinct pointer).

  "Same text ⇒ `==`" (section 6 of this file, `same_text_imp_equal`) is proved for ALL kinds of
  values — the rendering grammar is unambiguous on values of one type — under hypotheses each of
  which is shown necessary by a kernel-checked counterexample (section 7), except where noted:
  * the two values have `tyEq` types, and their components conform to the declared component
    types (`Val.Typed`): object field names are arbitrary strings, so `{a: true, b: false}` is
    also the text of an object with the single field `a: true, b`; `[]` is the text of the empty
    list of every type;
  * map key texts are the ones `Key()` computes (`KeyGenuine`; the model stores arbitrary strings);
  * no function values (never `==`, but they do render);
  * instants: the zone abbreviation contains none of `,` `]` `}` `)` (the counterexample also
    violates the display clause of `Sep` for instants, which the proof does not use; with that
    clause the condition may be redundant); the zone offset is a whole number of minutes
    (`Time.String()` does not print offset seconds: two different instants in zones `+00:00:01`
    and `+00:00:00` print alike — this is Go's behaviour, not only the model's); nanoseconds
    below `10^9`; the displayed date is not before 0000-03-01 (a limit of the MODEL, inside its
    documented range of years 0..9999: `civilFromDays` is one day off before 0000-02-29 —
    0000-02-28 and 0000-02-29 both print as `0000-02-29` — because Lean's `/` on `Int` rounds down
    where Hinnant's formula expects truncation; and `TimeV.render` prints every negative year as
    `0000`);
  * `Sep x y`: numbers bit-identical or not within tolerance (excludes NaN / ±Inf leaves, whose
    texts `NaN` / `+Inf` are equal to themselves while the values are not `==`; not checkable in
    the kernel, `Float` is opaque).  The clause of `Sep` about the element types of optionals
    (`tyEq` ⇒ same type text) is used to avoid parsing type texts (type variable / function /
    field names are arbitrary strings); no counterexample is known for it in this direction.
  The numeric leaf case alone uses `FloatFacts`; for values without numbers
  (`same_text_imp_equal_no_numbers`) nothing is assumed.

  `x.WF` in this file is `Val.WF` (`Yae/Proofs/ValRelEq.lean`, a `Prop`: own types well formed
  and of the right kind, object arity, distinct map keys of the key kind, no `.nil`, at every
  depth); `x.Typed` adds that the components have the declared component types.  The Bool
  `Yae.Sound.WF` of C01 / C15 (`Yae/Spec/WF.lean`) is another definition, and no lemma relating the
  two is stated: `C15.valOf_wf` does not discharge the hypotheses here.
-/
import Yae.Proofs.ValRelInt
import Yae.Proofs.ValRelSet
import Yae.Proofs.ValRelText
namespace Yae.C18
open Yae

/-! ## sample values for the non-vacuity examples (no numbers: `Float` does not compute) -/

def m1 : Val := .map (.map .str .bool)
  (.cons .str "\"a\"" (.bool true) (.cons .str "\"b\"" (.bool false) .nil))
def m2 : Val := .map (.map .str .bool)
  (.cons .str "\"b\"" (.bool false) (.cons .str "\"a\"" (.bool true) .nil))
def o1 : Val := .obj (.obj (.cons "a" .bool (.cons "b" .str .nil)))
  (.cons (.bool true) (.cons (.str "x") .nil))
def o2 : Val := .obj (.obj (.cons "b" .str (.cons "a" .bool .nil)))
  (.cons (.str "x") (.cons (.bool true) .nil))

theorem m1_wf : m1.WF := by
  simp [m1, Val.WF, Val.All, EntryList.All, Val.LocalWF, EntryList.keys, EntryList.toList, Ty.wf,
    Ty.keyable, Ty.isPrimitive, Ty.kind, Kind.isPrimitive]
theorem m2_wf : m2.WF := by
  simp [m2, Val.WF, Val.All, EntryList.All, Val.LocalWF, EntryList.keys, EntryList.toList, Ty.wf,
    Ty.keyable, Ty.isPrimitive, Ty.kind, Kind.isPrimitive]
theorem o1_wf : o1.WF := by
  simp [o1, Val.WF, Val.All, ValList.All, Val.LocalWF, Ty.wf, wfFields, FieldList.find?,
    FieldList.length, ValList.length]
theorem o2_wf : o2.WF := by
  simp [o2, Val.WF, Val.All, ValList.All, Val.LocalWF, Ty.wf, wfFields, FieldList.find?,
    FieldList.length, ValList.length]
theorem m1_selfEq : m1.SelfEq := by
  simp [m1, Val.SelfEq, Val.All, EntryList.All, Val.LocalSelfEq]
theorem sep_m1_m2 : Sep m1 m2 := by
  refine Sep.map_of_entries ?_
  simp [EntryList.toList]
  exact ⟨Sep.bool _ _, Sep.bool _ _⟩
theorem sep_o1_o2 : Sep o1 o2 := by
  refine Sep.obj_of_pairs ?_
  simp [objPairs, FieldList.names, ValList.toList]
  exact ⟨Sep.bool _ _, Sep.str _ _⟩
theorem o1_eq_o2 : valEq o1 o2 = true := by
  simp [o1, o2, valEq_obj, tyEq, valEqFields, objGet?, FieldList.indexOf?, ValList.get?,
    FieldList.find?, tyEqFields, FieldList.length, ValList.length, valEq, Val.typeOf]

/-! ## 1  `==` is symmetric and (where it can be) reflexive -/

/-- `==` is symmetric on well-formed values, given the one IEEE fact it needs
(`|x - y| = |y - x|`) as a bare hypothesis. -/
theorem valEq_symm_of_numEQ_symm (NumEqSymm : ∀ a b : Float, numEQ a b = numEQ b a) {x y : Val}
    (hx : x.WF) (hy : y.WF) : valEq x y = valEq y x := by
  rw [Bool.eq_iff_iff]
  exact ⟨valEq_symm_imp NumEqSymm hx hy, valEq_symm_imp NumEqSymm hy hx⟩

theorem valEq_symm (F : FloatFacts) {x y : Val} (hx : x.WF) (hy : y.WF) :
    valEq x y = valEq y x :=
  valEq_symm_of_numEQ_symm F.numEQ_symm hx hy

example (F : FloatFacts) : valEq o1 o2 = valEq o2 o1 := valEq_symm F o1_wf o2_wf

/-- A well-formed value is `==` to itself exactly when every number inside is within tolerance
of itself and no function value occurs inside. -/
theorem valEq_refl_iff {v : Val} (hv : v.WF) : valEq v v = true ↔ v.SelfEq := by
  induction v using Val.induct_mem with
  | nil => exact absurd (Val.All.self hv) (by simp [Val.LocalWF])
  | nothing el =>
    simp [valEq_nothing, Val.SelfEq, Val.All, Val.LocalSelfEq, tyEq_refl' (Val.All.self hv)]
  | just el v ih =>
    rw [valEq_just, tyEq_refl' (Val.all_just.1 hv).1, Bool.true_and, ih (Val.all_just.1 hv).2]
    simp [Val.SelfEq, Val.All, Val.LocalSelfEq]
  | list tx xs ih =>
    have hv' := Val.all_list.1 hv
    rw [valEq_list, tyEq_refl' (t := tx) hv.typeOf_wf, Val.SelfEq, Val.all_list]
    simp only [Bool.true_and, beq_self_eq_true, valEqList_iff, true_and, Val.LocalSelfEq]
    constructor
    · intro h v hv
      obtain ⟨i, hi⟩ := List.mem_iff_getElem?.1 hv
      exact (ih v hv (hv'.2 v hv)).1 (h i v v hi hi)
    · intro h i v w hv hw
      rw [hv] at hw; cases hw
      have hvm : v ∈ xs.toList := List.mem_of_getElem? hv
      exact (ih v hvm (hv'.2 v hvm)).2 (h v hvm)
  | map tx xs ih =>
    have hv' := Val.all_map.1 hv
    have hnd : xs.keys.Nodup := hv'.1.2.1
    rw [valEq_map, tyEq_refl' (t := tx) hv.typeOf_wf, beq_self_eq_true, Bool.true_and,
      Bool.true_and, valEqEntries_iff_matches hnd, matches_self_iff hnd, Val.SelfEq, Val.all_map]
    simp only [true_and, Val.LocalSelfEq]
    exact forall₂_congr fun e he => ih e he (hv'.2 e he)
  | obj tx xs ih =>
    have hv' := Val.all_obj.1 hv
    obtain ⟨hwx, fs, rfl, hlx⟩ := hv'.1
    have hnd := wf_obj_nodup hwx
    rw [valEq_obj, tyEq_refl' hwx, beq_self_eq_true, Bool.true_and, Bool.true_and,
      valEqFields_iff_matches hnd, matches_self_iff (objPairs_nodup xs hnd), Val.SelfEq,
      Val.all_obj]
    simp only [true_and, Val.LocalSelfEq]
    rw [← objPairs_snd fs xs hlx, List.forall_mem_map]
    exact forall₂_congr fun p hp =>
      ih p.2 (List.of_mem_zip hp).2 (hv'.2 _ (List.of_mem_zip hp).2)
  | _ =>
    simp [valEq_num, valEq_str, valEq_bool, valEq_time, valEq_fn, TimeV.equal, Val.SelfEq, Val.All,
      Val.LocalSelfEq]

theorem valEq_refl {v : Val} (hv : v.WF) (hs : v.SelfEq) : valEq v v = true :=
  (valEq_refl_iff hv).2 hs

example : valEq m1 m1 = true := valEq_refl m1_wf m1_selfEq

/-- function values are never `==` (model: distinct occurrences are distinct pointers) -/
theorem fn_not_self_equal (ty : Ty) (r : FunRef) (l : Bool) :
    valEq (.fn ty r l) (.fn ty r l) = false := valEq_fn ..

/-! ## 2  rendering is canonical -/

/-- Rendering a map value does not depend on the insertion order of its entries. -/
theorem render_map_perm {ty : Ty} {es₁ es₂ : EntryList} (hp : es₁.toList.Perm es₂.toList)
    (hnd : es₁.keyTexts.Nodup) : Val.render (.map ty es₁) = Val.render (.map ty es₂) :=
  (PermEq.of_perm hnd hp).texts.1

/-- the key texts are pairwise distinct in every well-formed map value (distinct keys, one tag) -/
theorem wf_map_keyTexts_nodup {ty : Ty} {es : EntryList} (h : (Val.map ty es).WF) :
    es.keyTexts.Nodup := by
  obtain ⟨_, hnd, k, v, _, ht⟩ := (Val.all_map.1 h).1
  exact EntryList.keyTexts_nodup_of_tag ht hnd

theorem render_map_perm_wf {ty : Ty} {es₁ es₂ : EntryList} (h : (Val.map ty es₁).WF)
    (hp : es₁.toList.Perm es₂.toList) : Val.render (.map ty es₁) = Val.render (.map ty es₂) :=
  render_map_perm hp (wf_map_keyTexts_nodup h)

example : m1.render = m2.render :=
  render_map_perm_wf m1_wf (by simp [EntryList.toList]; exact List.Perm.swap _ _ _)

/-- Distinct key *texts* are needed: a (never well-typed) map with a string key and a time key of
the same text renders in insertion order. -/
example :
    Val.render (.map (.map .str .bool)
      (.cons .str "\"k\"" (.bool true) (.cons .time "\"k\"" (.bool false) .nil))) ≠
    Val.render (.map (.map .str .bool)
      (.cons .time "\"k\"" (.bool false) (.cons .str "\"k\"" (.bool true) .nil))) := by decide +kernel

/-- `==` on maps does not depend on the insertion order. -/
theorem valEq_map_perm {ty : Ty} {es₁ es₂ : EntryList} (hp : es₁.toList.Perm es₂.toList)
    (hnd : es₁.keys.Nodup) (hself : valEq (.map ty es₁) (.map ty es₁) = true) :
    valEq (.map ty es₁) (.map ty es₂) = true := by
  rw [valEq_map] at hself ⊢
  simp only [Bool.and_eq_true, beq_iff_eq] at hself ⊢
  refine ⟨hself.1, ?_, ?_⟩
  · rw [← EntryList.length_toList, ← EntryList.length_toList]; exact hp.length_eq
  · rw [valEqEntries_iff] at hself ⊢
    intro e he
    rw [← EntryList.find?_perm hp hnd]
    exact hself.2.2 e he

example : valEq m1 m2 = true :=
  valEq_map_perm (by simp [EntryList.toList]; exact List.Perm.swap _ _ _)
    (by simp [EntryList.keys, EntryList.toList]) (valEq_refl m1_wf m1_selfEq)

/-- Rendering an object depends only on the set of (field name, value) pairs. -/
theorem render_obj_perm {fs₁ fs₂ : FieldList} {vs₁ vs₂ : ValList}
    (hp : (objPairs fs₁ vs₁).Perm (objPairs fs₂ vs₂)) (hnd : fs₁.names.Nodup) :
    Val.render (.obj (.obj fs₁) vs₁) = Val.render (.obj (.obj fs₂) vs₂) := by
  rw [render_obj, render_obj, objPairs_render, objPairs_render]
  apply objText_perm (hp.map _)
  simpa [List.map_map, Function.comp_def] using objPairs_nodup vs₁ hnd

example : o1.render = o2.render :=
  render_obj_perm (by simp [objPairs, FieldList.names, ValList.toList]; exact List.Perm.swap _ _ _)
    (by simp [FieldList.names])

/-! ## 3  `==` ⇒ same text -/

/- Full statement (FALSE for the model and for the implementation):
     `x.WF → y.WF → (numeric leaves identical or separated) → valEq x y = true → x.render = y.render`.
   Counterexamples: -/

/-- equal instants displayed in different zones are `==` but render differently
(`val.Equals` uses `time.Equal`, `String()` prints the zone) -/
theorem time_equal_render_differs :
    valEq (.time ⟨0, 0, 0, "UTC"⟩) (.time ⟨0, 0, 3600, "CET"⟩) = true ∧
    (Val.time ⟨0, 0, 0, "UTC"⟩).render ≠ (Val.time ⟨0, 0, 3600, "CET"⟩).render ∧
    (Val.time ⟨0, 0, 0, "UTC"⟩).key? ≠ (Val.time ⟨0, 0, 3600, "CET"⟩).key? := by
  have hr : (Val.time ⟨0, 0, 0, "UTC"⟩).render ≠ (Val.time ⟨0, 0, 3600, "CET"⟩).render := by
    decide +kernel
  refine ⟨by simp [valEq_time, TimeV.equal], hr, fun h => hr ?_⟩
  -- the key of an instant is its quoted text
  simp only [Val.key?, Option.some.injEq, Prod.mk.injEq, true_and] at h
  exact Num.quote_injective h

/-- optionals over `tyEq` object types with permuted fields are `==` but render differently
(`(*Type).String()` lists object fields in declaration order) -/
theorem nothing_equal_render_differs :
    valEq (.nothing (.obj (.cons "a" .num (.cons "b" .num .nil))))
          (.nothing (.obj (.cons "b" .num (.cons "a" .num .nil)))) = true ∧
    (Val.nothing (.obj (.cons "a" .num (.cons "b" .num .nil)))).render ≠
    (Val.nothing (.obj (.cons "b" .num (.cons "a" .num .nil)))).render := by
  refine ⟨by simp [valEq_nothing, tyEq, tyEqFields, FieldList.find?, FieldList.length],
    by decide +kernel⟩

/-- Under the weakest hypothesis excluding both (`Sep` asks, besides the separation of numbers,
that equal instants are displayed in the same zone and that `tyEq` element types of optionals
render alike): well-formed values that are `==` render to the same text. -/
theorem equal_imp_same_text_partial {x y : Val} (hx : x.WF) (hy : y.WF) (hs : Sep x y)
    (h : valEq x y = true) : x.render = y.render :=
  valEq_imp_render' x y hx hy hs h

example : o1.render = o2.render := equal_imp_same_text_partial o1_wf o2_wf sep_o1_o2 o1_eq_o2

/-- Values that are `==` (under the hypotheses of `equal_imp_same_text_partial`) count as the same
element in `union` / `intersect` / `diff`: set membership is by rendering. -/
theorem equal_imp_same_set_element {x y : Val} (hx : x.WF) (hy : y.WF) (hs : Sep x y)
    (h : valEq x y = true) (s : List (String × Val)) : setHas s x.render = setHas s y.render := by
  rw [equal_imp_same_text_partial hx hy hs h]

example (s : List (String × Val)) : setHas s o1.render = setHas s o2.render :=
  equal_imp_same_set_element o1_wf o2_wf sep_o1_o2 o1_eq_o2 s

/-- One of the two ways a pair of numbers is "separated" (`Sep`): bit-identical, and within
tolerance of itself, i.e. not NaN / ±Inf. -/
theorem sep_num_identical {a b : Float} (hb : a.toBits = b.toBits) (hs : numEQ a b = true) :
    Sep (.num a) (.num b) :=
  Sep.num ⟨fun _ => hb, fun _ => hs⟩

/-- The other way a pair of numbers is "separated": different and further apart than the
tolerance. -/
theorem sep_num_apart {a b : Float} (hb : a.toBits ≠ b.toBits) (hs : numEQ a b = false) :
    Sep (.num a) (.num b) :=
  Sep.num ⟨fun h => by rw [hs] at h; exact absurd h (by decide), fun h => absurd h hb⟩

/-! ## 4  numbers, strings, booleans: `==` ⇔ same text ⇔ same map key -/

/-- For separated numbers (and for strings and booleans): `==` holds exactly when the renderings
are equal.  Assumed: `F.fmtFloat_injective`, `F.fmtInt_ne_fmtFloat`, `F.nan_bits_unique`,
`F.numEQ_zeros`. -/
theorem prim_equal_iff_same_text (F : FloatFacts) {x y : Val} (hp : x.isNSB) (hs : Sep x y) :
    valEq x y = true ↔ x.render = y.render :=
  prim_valEq_iff_render F hp hs

/-- For separated numbers (and for strings and booleans): `==` holds exactly when they are the
same map key.  Same assumptions as `prim_equal_iff_same_text`. -/
theorem prim_equal_iff_same_key (F : FloatFacts) {x y : Val} (hp : x.isNSB) (hs : Sep x y) :
    valEq x y = true ↔ x.key? = y.key? :=
  prim_valEq_iff_key F hp hs

/-- same text ⇔ same key needs no assumption -/
theorem prim_same_text_iff_same_key {x y : Val} (hp : x.isNSB) (hs : Sep x y) :
    x.render = y.render ↔ x.key? = y.key? :=
  prim_render_iff_key hp hs

example (F : FloatFacts) : valEq (.str "a") (.str "b") = true ↔
    (Val.str "a").key? = (Val.str "b").key? :=
  prim_equal_iff_same_key F trivial (Sep.str _ _)

/-- equal instants displayed in the same zone are the same key -/
theorem time_equal_imp_same_key {a b : TimeV} (hs : Sep (.time a) (.time b))
    (h : valEq (.time a) (.time b) = true) : (Val.time a).key? = (Val.time b).key? :=
  time_valEq_imp_key hs h

example : (Val.time ⟨5, 0, 0, "UTC"⟩).key? = (Val.time ⟨5, 0, 0, "UTC"⟩).key? :=
  time_equal_imp_same_key (Sep.time (fun _ => ⟨rfl, rfl⟩))
    (by simp [valEq_time, TimeV.equal])

/-- `m[x]` and `m[y]` select the same entry when `x == y`. -/
theorem equal_keys_select_same_entry (F : FloatFacts) {x y : Val} (hp : x.isNSB) (hs : Sep x y)
    (h : valEq x y = true) (es : EntryList) {t t' : Kind} {k k' : String}
    (hx : x.key? = some (t, k)) (hy : y.key? = some (t', k')) :
    es.find? t k = es.find? t' k' := by
  have := (prim_valEq_iff_key F hp hs).1 h
  rw [hx, hy] at this
  cases this; rfl

example (F : FloatFacts) (es : EntryList) : es.find? .bool "true" = es.find? .bool "true" :=
  equal_keys_select_same_entry F (x := .bool true) (y := .bool true) trivial (Sep.bool _ _)
    (by simp [valEq_bool]) es rfl rfl

/-! ## 5  distinct numbers never render alike or collide as keys -/

/-- Bit level: two doubles that render alike are bit-identical or are `+0` and `-0`
(NaN payloads are not observable through `Float.toBits`). -/
theorem numbers_render_apart (F : FloatFacts) (x y : Float)
    (h : Num.renderNum x = Num.renderNum y) :
    x.toBits = y.toBits ∨ (Num.bitsIsZero x.toBits = true ∧ Num.bitsIsZero y.toBits = true) :=
  renderNum_inj F x y h

/-- Two numbers with the same map key (`Key()` is the rendering) are bit-identical, or `+0` and
`-0`. -/
theorem numbers_keys_apart (F : FloatFacts) (x y : Float)
    (h : (Val.num x).key? = (Val.num y).key?) :
    x.toBits = y.toBits ∨ (Num.bitsIsZero x.toBits = true ∧ Num.bitsIsZero y.toBits = true) := by
  simp only [Val.key?, Option.some.injEq, Prod.mk.injEq, true_and] at h
  exact renderNum_inj F x y h

/-- Unconditionally (no `FloatFacts`): integral doubles inside the int64 range (`isIntBits`: up to
`2^63`, far beyond `2^53`) render apart — equal renderings mean bit-identical, or `+0` / `-0`. -/
theorem int_range_numbers_render_apart (a b : UInt64) (ha : Num.isIntBits a = true)
    (hb : Num.isIntBits b = true) (h : Num.renderNumBits a = Num.renderNumBits b) :
    a = b ∨ (Num.bitsIsZero a = true ∧ Num.bitsIsZero b = true) := by
  unfold Num.renderNumBits at h
  rw [ha, hb] at h
  exact Num.toInt64Bits_injective a b ha hb (Num.fmtInt_injective h)

/-- `int64(x)` is injective on those doubles (so they do not collide as keys either). -/
theorem toInt64_injective (a b : UInt64) (ha : Num.isIntBits a = true)
    (hb : Num.isIntBits b = true) (h : Num.toInt64Bits a = Num.toInt64Bits b) :
    a = b ∨ (Num.bitsIsZero a = true ∧ Num.bitsIsZero b = true) :=
  Num.toInt64Bits_injective a b ha hb h

example : Num.isIntBits (Num.intToBits 7) = true := by decide

/-- Unconditionally (no `FloatFacts`): integers of magnitude below `2^53` render apart. -/
theorem small_ints_render_apart (a b : Int) (ha : a.natAbs < 2 ^ 53) (hb : b.natAbs < 2 ^ 53)
    (h : Num.renderNumBits (Num.intToBits a) = Num.renderNumBits (Num.intToBits b)) : a = b :=
  Num.renderNumBits_intToBits_injective a b ha hb h

example : (3 : Int) = 3 := small_ints_render_apart 3 3 (by decide) (by decide) rfl

/-- The rendering of the Go code before the repair of defect D5 (`renderNumPinnedBits`: integral ⇒
through `int64`) did collide: every integral double beyond the int64 range, and ±Inf, rendered
as `-9223372036854775808`.  `renderNumBits` uses the repaired rule (`isIntBits` = integral *and*
in range); on that range the two agree. -/
theorem pinned_rendering_agrees_in_range (b : UInt64) (h : Num.isIntBits b = true) :
    Num.renderNumPinnedBits b = Num.renderNumBits b :=
  Num.renderNumPinnedBits_eq b h

/-! ## 6  same text ⇒ `==`: the rendering grammar is unambiguous on values of one type -/

/-- **Same text ⇒ `==`**, for all kinds of values (numbers, strings, booleans, instants, lists,
maps, objects, optionals, nested to any depth).  If two values
* have types that are equal (`types.Equals`) and are built in conformance with them (`Typed`),
* contain no function value, only genuine map keys and displayable instants (`TextOK`),
* and have corresponding numbers either bit-identical or not within tolerance (`Sep`),
then rendering to the same text makes them `==`.
Assumed (`F`, for number leaves only): `fmtFloat_injective`, `fmtInt_ne_fmtFloat`,
`nan_bits_unique`, `numEQ_zeros`. -/
theorem same_text_imp_equal (F : FloatFacts) {x y : Val} (hx : x.Typed) (hy : y.Typed)
    (hox : x.TextOK) (hoy : y.TextOK) (hty : tyEq x.typeOf y.typeOf = true) (hs : Sep x y)
    (h : x.render = y.render) : valEq x y = true :=
  render_imp_valEq F timeText (hx.good hox) (hy.good hoy)
    hty hs h

/-- `same_text_imp_equal` for values without numbers: nothing about `Float` is assumed. -/
theorem same_text_imp_equal_no_numbers {x y : Val} (hx : x.Typed) (hy : y.Typed)
    (hox : x.TextOK) (hoy : y.TextOK) (hn : x.NoNum) (hty : tyEq x.typeOf y.typeOf = true)
    (hs : Sep x y) (h : x.render = y.render) : valEq x y = true :=
  render_imp_valEq_noNum timeText (hx.good hox) hn
    (hy.good hoy) hty hs h

/-- The underlying fact: the text of a value, followed by one of `,` `]` `}` `)` or by nothing,
determines where the value's text ends (and the value up to `==`). -/
theorem text_determines_value_and_rest (F : FloatFacts) {x y : Val} (hx : x.Typed) (hy : y.Typed)
    (hox : x.TextOK) (hoy : y.TextOK) (hty : tyEq x.typeOf y.typeOf = true) (hs : Sep x y)
    (s s' : List Char) (ht : Term stopV s) (ht' : Term stopV s')
    (h : x.render.toList ++ s = y.render.toList ++ s') : valEq x y = true ∧ s = s' :=
  text_unique (N := fun _ => True) (fun a _ => numTextInj_of_floatFacts F a) timeText x y
    (hx.good hox) (numsSat_true x) (hy.good hoy) hty hs s s'
    ht ht' h

/-- **`==` ⇔ same text**, for well-typed separated values of equal type. -/
theorem equal_iff_same_text (F : FloatFacts) {x y : Val} (hx : x.Typed) (hy : y.Typed)
    (hox : x.TextOK) (hoy : y.TextOK) (hty : tyEq x.typeOf y.typeOf = true) (hs : Sep x y) :
    valEq x y = true ↔ x.render = y.render :=
  ⟨equal_imp_same_text_partial hx.1 hy.1 hs, same_text_imp_equal F hx hy hox hoy hty hs⟩

/-- `equal_iff_same_text` without the assumption on the types: `==` ⇔ equal types and same text. -/
theorem equal_iff_same_type_and_text (F : FloatFacts) {x y : Val} (hx : x.Typed) (hy : y.Typed)
    (hox : x.TextOK) (hoy : y.TextOK) (hs : Sep x y) :
    valEq x y = true ↔ (tyEq x.typeOf y.typeOf = true ∧ x.render = y.render) :=
  valEq_iff_render F (hx.good hox) (hy.good hoy) hs

theorem equal_iff_same_text_no_numbers {x y : Val} (hx : x.Typed) (hy : y.Typed)
    (hox : x.TextOK) (hoy : y.TextOK) (hn : x.NoNum) (hty : tyEq x.typeOf y.typeOf = true)
    (hs : Sep x y) : valEq x y = true ↔ x.render = y.render :=
  ⟨equal_imp_same_text_partial hx.1 hy.1 hs,
    same_text_imp_equal_no_numbers hx hy hox hoy hn hty hs⟩

/-! ### the same element in `union` / `intersect` / `diff` -/

/-- `x` is comparable with the members of `l`: they are well-typed values of `x`'s type that
satisfy the text conditions and are separated from `x`. -/
def ComparableWith (x : Val) (l : List Val) : Prop :=
  ∀ v ∈ l, v.Typed ∧ v.TextOK ∧ tyEq x.typeOf v.typeOf = true ∧ Sep x v

theorem ComparableWith.comparable {x : Val} {l : List Val} (h : ComparableWith x l) :
    Comparable x l :=
  fun v hv => ⟨(h v hv).1.good (h v hv).2.1, (h v hv).2.2⟩

/-- The set functions key their elements by text (`valSetOf`).  An element is found in the set
of a list exactly when the list has an `==` element. -/
theorem set_member_iff_equal_element (F : FloatFacts) {x : Val} {ys : ValList} (hx : x.Typed)
    (hox : x.TextOK) (hl : ComparableWith x ys.toList) :
    setHas (valSetOf ys) x.render = true ↔ ∃ v ∈ ys.toList, valEq x v = true :=
  setHas_valSetOf_iff F (hx.good hox) hl.comparable

/-- Two elements are merged into one set element exactly when they are `==`. -/
theorem merged_iff_equal (F : FloatFacts) {x y : Val} (hx : x.Typed) (hy : y.Typed)
    (hox : x.TextOK) (hoy : y.TextOK) (hty : tyEq x.typeOf y.typeOf = true) (hs : Sep x y) :
    (valSetOf (.cons x (.cons y .nil))).length = 1 ↔ valEq x y = true :=
  valSetOf_pair_merged_iff F (hx.good hox) (hy.good hoy) hty hs

/-- `x` counts as an element of `union(xs, ys)` iff it is `==` to an element of `xs` or of `ys` -/
theorem union_has_iff (F : FloatFacts) {x : Val} {xs ys : ValList} (hx : x.Typed)
    (hox : x.TextOK) (hlx : ComparableWith x xs.toList) (hly : ComparableWith x ys.toList) :
    x.render ∈ renders (setUnion (valSetOf xs) (valSetOf ys)) ↔
      (∃ v ∈ xs.toList, valEq x v = true) ∨ (∃ v ∈ ys.toList, valEq x v = true) := by
  have hg := hx.good hox
  rw [mem_renders_union, render_mem_iff F hg hlx.comparable, render_mem_iff F hg hly.comparable]

/-- `x` counts as an element of `intersect(xs, ys)` iff it is `==` to an element of `xs` and to one
of `ys` -/
theorem intersect_has_iff (F : FloatFacts) {x : Val} {xs ys : ValList} (hx : x.Typed)
    (hox : x.TextOK) (hlx : ComparableWith x xs.toList) (hly : ComparableWith x ys.toList) :
    x.render ∈ renders (setIntersect (valSetOf xs) (valSetOf ys)) ↔
      (∃ v ∈ xs.toList, valEq x v = true) ∧ (∃ v ∈ ys.toList, valEq x v = true) := by
  have hg := hx.good hox
  rw [mem_renders_intersect, render_mem_iff F hg hlx.comparable,
    render_mem_iff F hg hly.comparable]

/-- `x` counts as an element of `diff(xs, ys)` iff it is `==` to an element of `xs` and to none of
`ys` -/
theorem diff_has_iff (F : FloatFacts) {x : Val} {xs ys : ValList} (hx : x.Typed)
    (hox : x.TextOK) (hlx : ComparableWith x xs.toList) (hly : ComparableWith x ys.toList) :
    x.render ∈ renders (setDiff (valSetOf xs) (valSetOf ys)) ↔
      (∃ v ∈ xs.toList, valEq x v = true) ∧ ¬ (∃ v ∈ ys.toList, valEq x v = true) := by
  have hg := hx.good hox
  rw [mem_renders_diff, render_mem_iff F hg hlx.comparable, render_mem_iff F hg hly.comparable]

/-! ### the same map entry -/

/-- Two keys (numbers, strings, booleans or instants) are the same map key exactly when they
are `==`. -/
theorem same_key_iff_equal (F : FloatFacts) {x y : Val} (hk : x.key?.isSome = true)
    (hox : x.TextOK) (hoy : y.TextOK) (hs : Sep x y) : x.key? = y.key? ↔ valEq x y = true :=
  key_eq_iff_valEq F hk hox hoy hs

/-- `m[x]` and `m[y]` select the same entry in every map exactly when `x == y`. -/
theorem select_same_entry_iff_equal (F : FloatFacts) {x y : Val} {t t' : Kind} {k k' : String}
    (hkx : x.key? = some (t, k)) (hky : y.key? = some (t', k')) (hox : x.TextOK)
    (hoy : y.TextOK) (hs : Sep x y) :
    (∀ es : EntryList, es.find? t k = es.find? t' k') ↔ valEq x y = true :=
  select_same_entry_iff F hkx hky hox hoy hs

/-- instants included: the text of an instant determines it -/
theorem time_same_text_imp_equal {a b : TimeV} (ha : a.TextOK) (hb : b.TextOK)
    (h : a.render = b.render) : a.equal b = true :=
  timeText.inj a b ha hb h

/-! ### non-vacuity: nested values whose strings contain the delimiters (no numbers, nothing
assumed) -/

def T1 : Ty := .obj (.cons "name" .str (.cons "tags" (.list .str) .nil))
def T2 : Ty := .obj (.cons "tags" (.list .str) (.cons "name" .str .nil))
def tags : Val :=
  .list (.list .str) (.cons (.str "]") (.cons (.str "\"") (.cons (.str ", ") .nil)))
def p1 : Val := .obj T1 (.cons (.str "a, b: c}") (.cons tags .nil))
def p2 : Val := .obj T2 (.cons tags (.cons (.str "a, b: c}") .nil))
def l1 : Val := .list (.list T1) (.cons p1 (.cons p1 .nil))
def l2 : Val := .list (.list T2) (.cons p2 (.cons p2 .nil))

example : l1.render =
    "[{name: \"a, b: c}\", tags: [\"]\", \"\\\"\", \", \"]}, {name: \"a, b: c}\", tags: [\"]\", \"\\\"\", \", \"]}]" := by
  decide +kernel

theorem l1_typed : l1.Typed := by
  refine ⟨?_, ?_⟩
  · simp [l1, p1, tags, T1, Val.WF, Val.All, ValList.All, Val.LocalWF, Ty.wf, wfFields,
      FieldList.find?, FieldList.length, ValList.length]
  · simp only [l1, p1, tags, T1, Val.All, ValList.All, localTyped_obj_cons, localTyped_obj_nil,
      localTyped_list]
    simp only [Val.LocalTyped, and_true]
    decide
theorem l2_typed : l2.Typed := by
  refine ⟨?_, ?_⟩
  · simp [l2, p2, tags, T2, Val.WF, Val.All, ValList.All, Val.LocalWF, Ty.wf, wfFields,
      FieldList.find?, FieldList.length, ValList.length]
  · simp only [l2, p2, tags, T2, Val.All, ValList.All, localTyped_obj_cons, localTyped_obj_nil,
      localTyped_list]
    simp only [Val.LocalTyped, and_true]
    decide
theorem l1_textOK : l1.TextOK := by
  simp [l1, p1, tags, Val.TextOK, Val.All, ValList.All, Val.LocalTextOK]
theorem l2_textOK : l2.TextOK := by
  simp [l2, p2, tags, Val.TextOK, Val.All, ValList.All, Val.LocalTextOK]
theorem l1_noNum : l1.NoNum := by
  simp [l1, p1, tags, Val.NoNum, Val.NumsSat, Val.All, ValList.All, Val.LocalNums]

theorem sep_tags : Sep tags tags := by
  refine Sep.list_of_mem fun v h1 w h2 => ?_
  simp only [ValList.toList, List.mem_cons, List.not_mem_nil, or_false] at h1 h2
  rcases h1 with rfl | rfl | rfl <;> rcases h2 with rfl | rfl | rfl <;> exact Sep.str _ _
theorem sep_p1_p2 : Sep p1 p2 := by
  refine Sep.obj_of_pairs ?_
  simp [objPairs, FieldList.names, ValList.toList]
  exact ⟨Sep.str _ _, sep_tags⟩
theorem sep_l1_l2 : Sep l1 l2 := by
  refine Sep.list_of_mem fun v h1 w h2 => ?_
  simp only [ValList.toList, List.mem_cons, List.not_mem_nil, or_false, or_self] at h1 h2
  rw [h1, h2]; exact sep_p1_p2

/-- the two lists render alike, hence — by the theorem, not by computing `==` — they are `==` -/
example : valEq l1 l2 = true :=
  same_text_imp_equal_no_numbers l1_typed l2_typed l1_textOK l2_textOK l1_noNum (by decide +kernel)
    sep_l1_l2 (by decide +kernel)

example : valEq l1 l2 = true ↔ l1.render = l2.render :=
  equal_iff_same_text_no_numbers l1_typed l2_typed l1_textOK l2_textOK l1_noNum (by decide +kernel)
    sep_l1_l2

/-- maps: `m1` and `m2` (entries in different insertion order) have genuine string keys -/
theorem m1_typed : m1.Typed :=
  ⟨m1_wf, by simp [m1, Val.All, EntryList.All, Val.LocalTyped, EntryList.toList, Val.typeOf, tyEq]⟩
theorem m2_typed : m2.Typed :=
  ⟨m2_wf, by simp [m2, Val.All, EntryList.All, Val.LocalTyped, EntryList.toList, Val.typeOf, tyEq]⟩
theorem key_a : KeyGenuine .str "\"a\"" := ⟨.str "a", by decide⟩
theorem key_b : KeyGenuine .str "\"b\"" := ⟨.str "b", by decide⟩
theorem m1_textOK : m1.TextOK := by
  simp [m1, Val.TextOK, Val.All, EntryList.All, Val.LocalTextOK, EntryList.toList, key_a, key_b]
theorem m2_textOK : m2.TextOK := by
  simp [m2, Val.TextOK, Val.All, EntryList.All, Val.LocalTextOK, EntryList.toList, key_a, key_b]
theorem m1_noNum : m1.NoNum := by
  simp [m1, Val.NoNum, Val.NumsSat, Val.All, EntryList.All, Val.LocalNums]

example : valEq m1 m2 = true :=
  same_text_imp_equal_no_numbers m1_typed m2_typed m1_textOK m2_textOK m1_noNum (by decide +kernel)
    sep_m1_m2 (by decide +kernel)

/-- instants: a displayable instant, and two keys that are instants -/
theorem t5_textOK : (⟨5, 0, 0, "UTC"⟩ : TimeV).TextOK :=
  ⟨by decide, by decide, by decide, by decide⟩

example : (⟨5, 0, 0, "UTC"⟩ : TimeV).equal ⟨5, 0, 0, "UTC"⟩ = true :=
  time_same_text_imp_equal t5_textOK t5_textOK rfl

/-! ## 7  each hypothesis of `same_text_imp_equal` is needed

Every statement below exhibits two values that render to the same text and are not `==`; the
hypotheses of `same_text_imp_equal` other than the one named hold (they are part of the
statement where they are not evident; for the instants see the individual remarks). -/

/-- **equal types** are needed: `[]` is the text of the empty list of every type -/
theorem needs_equal_types_empty_lists :
    (Val.list (.list .str) .nil).Typed ∧ (Val.list (.list .bool) .nil).Typed ∧
    (Val.list (.list .str) .nil).TextOK ∧ (Val.list (.list .bool) .nil).TextOK ∧
    Sep (.list (.list .str) .nil) (.list (.list .bool) .nil) ∧
    (Val.list (.list .str) .nil).render = (Val.list (.list .bool) .nil).render ∧
    valEq (.list (.list .str) .nil) (.list (.list .bool) .nil) = false := by
  refine ⟨⟨?_, ?_⟩, ⟨?_, ?_⟩, ?_, ?_, Sep.list ?_, by decide +kernel,
    by simp [valEq_list, tyEq]⟩
  all_goals first
    | (intro i v w h; simp [ValList.toList] at h; done)
    | simp [Val.WF, Val.All, ValList.All, Val.LocalWF, Val.LocalTyped, Val.TextOK,
        Val.LocalTextOK, Ty.wf, ValList.toList]

/-- an object with the fields `a` and `b` -/
def ob2 : Val := .obj (.obj (.cons "a" .bool (.cons "b" .bool .nil)))
  (.cons (.bool true) (.cons (.bool false) .nil))
/-- an object with the single field `a: true, b`; it renders like `ob2` -/
def ob1 : Val := .obj (.obj (.cons "a: true, b" .bool .nil)) (.cons (.bool false) .nil)

theorem ob2_typed : ob2.Typed := by
  refine ⟨?_, ?_⟩
  · simp [ob2, Val.WF, Val.All, ValList.All, Val.LocalWF, Ty.wf, wfFields, FieldList.find?,
      FieldList.length, ValList.length]
  · simp only [ob2, Val.All, ValList.All, localTyped_obj_cons, localTyped_obj_nil]
    simp [Val.LocalTyped, Val.typeOf, tyEq]
theorem ob1_typed : ob1.Typed := by
  refine ⟨?_, ?_⟩
  · simp [ob1, Val.WF, Val.All, ValList.All, Val.LocalWF, Ty.wf, wfFields, FieldList.find?,
      FieldList.length, ValList.length]
  · simp only [ob1, Val.All, ValList.All, localTyped_obj_cons, localTyped_obj_nil]
    simp [Val.LocalTyped, Val.typeOf, tyEq]
theorem sep_ob2_ob1 : Sep ob2 ob1 := by
  refine Sep.obj_of_pairs ?_
  simp [objPairs, FieldList.names, ValList.toList]

theorem ob2_ne_ob1 : valEq ob2 ob1 = false := by
  simp [ob2, ob1, valEq_obj, tyEq, FieldList.length]

/-- **equal types** are needed, even among objects: field names are arbitrary strings, so
`{a: true, b: false}` has two readings -/
theorem needs_equal_types_objects :
    ob2.Typed ∧ ob1.Typed ∧ ob2.TextOK ∧ ob1.TextOK ∧ Sep ob2 ob1 ∧
    ob2.render = ob1.render ∧ ob2.render = "{a: true, b: false}" ∧ valEq ob2 ob1 = false := by
  refine ⟨ob2_typed, ob1_typed, ?_, ?_, sep_ob2_ob1, by decide +kernel, by decide +kernel, ob2_ne_ob1⟩
  · simp [ob2, Val.TextOK, Val.All, ValList.All, Val.LocalTextOK]
  · simp [ob1, Val.TextOK, Val.All, ValList.All, Val.LocalTextOK]

/-- **conformance to the declared component types** (`Typed`, not only `WF`) is needed: two lists
of the same declared type `list[bool]`, holding the two objects above -/
theorem needs_typed :
    (Val.list (.list .bool) (.cons ob2 .nil)).WF ∧ (Val.list (.list .bool) (.cons ob1 .nil)).WF ∧
    (Val.list (.list .bool) (.cons ob2 .nil)).TextOK ∧
    (Val.list (.list .bool) (.cons ob1 .nil)).TextOK ∧
    (Val.list (.list .bool) (.cons ob2 .nil)).typeOf =
      (Val.list (.list .bool) (.cons ob1 .nil)).typeOf ∧
    Sep (.list (.list .bool) (.cons ob2 .nil)) (.list (.list .bool) (.cons ob1 .nil)) ∧
    (Val.list (.list .bool) (.cons ob2 .nil)).render =
      (Val.list (.list .bool) (.cons ob1 .nil)).render ∧
    valEq (.list (.list .bool) (.cons ob2 .nil)) (.list (.list .bool) (.cons ob1 .nil)) = false := by
  have wf : ∀ {v : Val}, v.WF → (Val.list (.list .bool) (.cons v .nil)).WF := fun h =>
    Val.all_list.2 ⟨⟨rfl, _, rfl⟩, fun w hw => by rw [List.mem_singleton.1 hw]; exact h⟩
  refine ⟨wf ob2_typed.1, wf ob1_typed.1, ?_, ?_, rfl, Sep.list_of_mem ?_, by decide +kernel, ?_⟩
  · simp [ob2, Val.TextOK, Val.All, ValList.All, Val.LocalTextOK]
  · simp [ob1, Val.TextOK, Val.All, ValList.All, Val.LocalTextOK]
  · intro v h1 w h2
    rw [List.mem_singleton.1 h1, List.mem_singleton.1 h2]
    exact sep_ob2_ob1
  · rw [valEq_list]
    simp [valEqList, ob2_ne_ob1]

/-- a map with the two string keys `a`, `b` (it is `m1`) -/
def mk2 : Val := m1
/-- a map whose single key text was not produced by `Key()`; it renders like `mk2` -/
def mk1 : Val := .map (.map .str .bool) (.cons .str "\"a\": true, \"b\"" (.bool false) .nil)

/-- **genuine key texts** are needed (the model's entry lists store arbitrary strings; the
evaluator only ever stores `Key()` texts) -/
theorem needs_genuine_keys :
    mk2.Typed ∧ mk1.Typed ∧ mk2.TextOK ∧ tyEq mk2.typeOf mk1.typeOf = true ∧ Sep mk2 mk1 ∧
    mk2.render = mk1.render ∧ valEq mk2 mk1 = false := by
  refine ⟨m1_typed, ⟨?_, ?_⟩, m1_textOK, by decide +kernel,
    Sep.map_of_entries (by simp [EntryList.toList]), by decide +kernel,
    by simp [mk2, m1, mk1, valEq_map, EntryList.length]⟩
  · simp [mk1, Val.WF, Val.All, EntryList.All, Val.LocalWF, EntryList.keys, EntryList.toList,
      Ty.wf, Ty.keyable, Ty.isPrimitive, Ty.kind, Kind.isPrimitive]
  · simp [mk1, Val.All, EntryList.All, Val.LocalTyped, EntryList.toList, Val.typeOf, tyEq]

/-- **no function values**: a function value renders like itself and is not `==` to itself -/
theorem needs_no_functions (ty : Ty) (r : FunRef) (l : Bool) :
    Sep (.fn ty r l) (.fn ty r l) ∧ (Val.fn ty r l).render = (Val.fn ty r l).render ∧
    valEq (.fn ty r l) (.fn ty r l) = false :=
  ⟨Sep.fn _ _ _ _ _ _, rfl, fn_not_self_equal ty r l⟩

/-- **zone abbreviations without `,` `]` `}` `)`**: one instant whose zone "abbreviation" contains
`, ` and the text of a second instant, against a list of two instants.  (`time.FixedZone` accepts
any name.)  The display clause of `Sep` for instants fails here as well (see the header). -/
theorem needs_plain_zone :
    (Val.list (.list .time)
      (.cons (.time ⟨5, 0, 0, "UTC, 1970-01-01 00:00:07 +0000 UTC"⟩) .nil)).render =
    (Val.list (.list .time)
      (.cons (.time ⟨5, 0, 0, "UTC"⟩) (.cons (.time ⟨7, 0, 0, "UTC"⟩) .nil))).render ∧
    valEq (.list (.list .time)
      (.cons (.time ⟨5, 0, 0, "UTC, 1970-01-01 00:00:07 +0000 UTC"⟩) .nil))
      (.list (.list .time)
      (.cons (.time ⟨5, 0, 0, "UTC"⟩) (.cons (.time ⟨7, 0, 0, "UTC"⟩) .nil))) = false := by
  refine ⟨by decide +kernel, by simp [valEq_list, ValList.length]⟩

/-- **zone offsets in whole minutes**: `Time.String()` prints the offset as `-0700`, without
seconds; an instant displayed in a zone one second east of UTC and the instant one second later
displayed in UTC print alike. -/
theorem needs_whole_minute_offsets :
    (⟨0, 0, 1, "Z"⟩ : TimeV).render = (⟨1, 0, 0, "Z"⟩ : TimeV).render ∧
    Sep (.time ⟨0, 0, 1, "Z"⟩) (.time ⟨1, 0, 0, "Z"⟩) ∧
    valEq (.time ⟨0, 0, 1, "Z"⟩) (.time ⟨1, 0, 0, "Z"⟩) = false :=
  ⟨by decide +kernel, Sep.time (fun h => absurd h (by decide)),
    by simp [valEq_time, TimeV.equal]⟩

/-- **nanoseconds below `10^9`** (an invariant of Go's `time.Time`; the model's `TimeV` does not
enforce it) -/
theorem needs_nsec_in_range :
    (⟨0, 1000000000, 0, "UTC"⟩ : TimeV).render = (⟨0, 100000000, 0, "UTC"⟩ : TimeV).render ∧
    valEq (.time ⟨0, 1000000000, 0, "UTC"⟩) (.time ⟨0, 100000000, 0, "UTC"⟩) = false := by
  have d1 : Nat.toDigits 10 1000000000 = ['1', '0', '0', '0', '0', '0', '0', '0', '0', '0'] := by
    simp [Nat.toDigits_of_base_le, Nat.toDigits_of_lt_base]
  have d2 : Nat.toDigits 10 100000000 = ['1', '0', '0', '0', '0', '0', '0', '0', '0'] := by
    simp [Nat.toDigits_of_base_le, Nat.toDigits_of_lt_base]
  have f1 : fracStr 1000000000 = fracStr 100000000 := by
    apply String.toList_inj.1
    rw [fracStr_toList, fracStr_toList]
    simp [fracL, padL, d1, d2]
  exact ⟨by unfold TimeV.render; rw [f1], by simp [valEq_time, TimeV.equal]⟩

/-- **dates from 0000-03-01 on** (a limit of the model): `TimeV.render` prints 0000-02-28 as
`0000-02-29` -/
theorem needs_date_from_march_of_year_0 :
    (⟨-62162208000, 0, 0, "UTC"⟩ : TimeV).render = (⟨-62162121600, 0, 0, "UTC"⟩ : TimeV).render ∧
    (⟨-62162121600, 0, 0, "UTC"⟩ : TimeV).render = "0000-02-29 00:00:00 +0000 UTC" ∧
    valEq (.time ⟨-62162208000, 0, 0, "UTC"⟩) (.time ⟨-62162121600, 0, 0, "UTC"⟩) = false :=
  ⟨by decide +kernel, by decide +kernel, by simp [valEq_time, TimeV.equal]⟩

/-- `TimeV.render` prints every negative year as `0000`: the last day of year -1 and a day one year
earlier print alike -/
theorem needs_year_in_range :
    (⟨-62167305600, 0, 0, "UTC"⟩ : TimeV).render = (⟨-62198841600, 0, 0, "UTC"⟩ : TimeV).render ∧
    valEq (.time ⟨-62167305600, 0, 0, "UTC"⟩) (.time ⟨-62198841600, 0, 0, "UTC"⟩) = false :=
  ⟨by decide +kernel, by simp [valEq_time, TimeV.equal]⟩

#print axioms valEq_symm
#print axioms valEq_symm_of_numEQ_symm
#print axioms valEq_refl_iff
#print axioms valEq_refl
#print axioms fn_not_self_equal
#print axioms render_map_perm
#print axioms wf_map_keyTexts_nodup
#print axioms render_map_perm_wf
#print axioms valEq_map_perm
#print axioms render_obj_perm
#print axioms time_equal_render_differs
#print axioms nothing_equal_render_differs
#print axioms equal_imp_same_text_partial
#print axioms equal_imp_same_set_element
#print axioms sep_num_identical
#print axioms sep_num_apart
#print axioms prim_equal_iff_same_text
#print axioms prim_equal_iff_same_key
#print axioms prim_same_text_iff_same_key
#print axioms time_equal_imp_same_key
#print axioms equal_keys_select_same_entry
#print axioms numbers_render_apart
#print axioms numbers_keys_apart
#print axioms int_range_numbers_render_apart
#print axioms toInt64_injective
#print axioms small_ints_render_apart
#print axioms pinned_rendering_agrees_in_range

#print axioms same_text_imp_equal
#print axioms same_text_imp_equal_no_numbers
#print axioms text_determines_value_and_rest
#print axioms equal_iff_same_text
#print axioms equal_iff_same_type_and_text
#print axioms equal_iff_same_text_no_numbers
#print axioms set_member_iff_equal_element
#print axioms merged_iff_equal
#print axioms union_has_iff
#print axioms intersect_has_iff
#print axioms diff_has_iff
#print axioms same_key_iff_equal
#print axioms select_same_entry_iff_equal
#print axioms time_same_text_imp_equal
#print axioms needs_equal_types_empty_lists
#print axioms needs_equal_types_objects
#print axioms needs_typed
#print axioms needs_genuine_keys
#print axioms needs_no_functions
#print axioms needs_plain_zone
#print axioms needs_whole_minute_offsets
#print axioms needs_nsec_in_range
#print axioms needs_date_from_march_of_year_0
#print axioms needs_year_in_range

end Yae.C18
