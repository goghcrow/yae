/-
  C12, the composed pipeline.  "For every source string and every host value passed as environment,
  Eval, Compile, the returned Callable … terminate and report failure through their error result."

  `Yae.Facade.compileSrc` / `evalSrc` (`Yae/Model/Facade.lean`) compose the stage models exactly as
  `facade.go` composes the stages: lex, parse, desugar, type check, environment check, evaluate.
  The composition is tied to the Go facade FROM THE SOURCE TEXT by the `pipeline` cases of the
  `eval` stream (Compile + Callable through the public API against `evalSrc`).

  * `compile_total`: for every operator table without an operator named "", `<END-OF-FILE>` or like
    a literal kind, every well-formed signature environment, every `strtotime` table and EVERY source
    text, compilation ends in a type and an annotated tree, in the syntax error, in a type error —
    or in the model-only `externMiss` (a time literal outside the supplied `strtotime` table) —
    and never in an outcome that stands for a Go run-time fault or a non-terminating loop
    (`fuel` of the lexer, parser or unifier; `Unreachable()` of the desugarer).
  * `run_total`: if moreover the run-time environment is accepted by the environment check and its
    values are well formed (C15), the invocation yields a value of the inferred type or one of the
    documented failures (`Allowed`), never an internal fault.
  Wall time, goroutine stacks and process death are outside any model (see `Yae/Props/C12.lean`).
  `OpsOK`, `reported` and the proofs: `Yae/Proofs/FacadeTotal.lean`.
-/
import Yae.Proofs.FacadeTotal
import Yae.Props.C05b
namespace Yae.C12
open Yae Yae.Facade Yae.PolyOK

example : OpsOK builtinOps := by decide

/-- **Compilation is total and reports.**  Whatever the source text. -/
theorem compile_total {ops : List Operator} (hops : OpsOK ops) {Γ : TEnv} (hΓ : SigEnv Γ)
    (times : List (String × Int)) (src : String) :
    (∃ T e', compileSrc ops times Γ src = .ok (T, e')) ∨
    (∃ err, compileSrc ops times Γ src = .error err ∧ reported err) :=
  compileSrc_total hops hΓ times src

/-- non-vacuity: the built-in operator table and the built-in functions with any variables of
expression types satisfy the hypotheses of `compile_total` -/
example {vars : List (String × Ty)} (hv : ∀ p ∈ vars, TyOK p.2 = true) (times : List (String × Int))
    (src : String) :
    (∃ T e', compileSrc builtinOps times (builtinEnv vars) src = .ok (T, e')) ∨
    (∃ err, compileSrc builtinOps times (builtinEnv vars) src = .error err ∧ reported err) :=
  compile_total (by decide) (Yae.C05.builtinEnv_sigEnv hv) times src

/-- **Invocation is total and reports.**  For a compiled program (any source text), a run-time
environment the environment check accepts, well-formed values (converted host data is: C15) and
host functions that respect their signatures (`FunsOK`): the Callable returns a value of the
inferred type, or one of the documented failures — never an internal fault; and when the
environment check refuses, nothing is evaluated (no event). -/
theorem run_total {ops : List Operator} {Γ : TEnv} {ρ : REnv} (hf : Yae.Sound.FunsOK Γ.funs)
    (hfun : ρ.funs = Γ.funs)
    (htys : ∀ p ∈ Γ.vars, p.2.wf = true ∧ slotFree p.2 = true)
    (hwf : ∀ p ∈ ρ.vars, Yae.Sound.WF p.2 = true)
    (times : List (String × Int)) (src : String) {T : Ty} {e' : Expr}
    (hc : compileSrc ops times Γ src = .ok (T, e')) :
    (∃ err, envCheck Γ.vars ρ.vars = .error err ∧ evalSrc ops times Γ ρ src = (.error (.env err), [])) ∨
    (∃ v evs, evalSrc ops times Γ ρ src = (.ok v, evs) ∧ Yae.Sound.HasTy v T) ∨
    (∃ f evs, evalSrc ops times Γ ρ src = (.error (.fail f), evs) ∧ Yae.Sound.Allowed f) :=
  evalSrc_total hf hfun htys hwf times src hc

end Yae.C12

#print axioms Yae.C12.compile_total
#print axioms Yae.C12.run_total
